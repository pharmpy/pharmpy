import PharmpyProofs.C16.DBLemmas
import PharmpyProofs.C16.TextLemmas
import PharmpyProofs.C16.ResultLogLemmas
/-
  C16 — Model database and run context are atomic and faithful, even across
  crashes.  Property theorems.

  The database statements quantify over an arbitrary file system `fs` (hence
  over whatever any earlier workload, crashed or not, left behind), every crash
  point `j` of the interrupted call and every torn prefix `n`; the `*_witness`
  theorems are evaluated instances.
-/
namespace Pharmpy.C16

/-- A reader is refused exactly when PENDING is present; otherwise it gets the
    entry read from the files as they are. -/
theorem pending_protocol (k : String) (fs : FS) :
    ((dbRetrieve k fs).2 = .error .pending ↔ (pexists fs (pendingPath k) = true ∨ readEntry k fs = .error .pending)) ∧
    (pexists fs (pendingPath k) = true → (dbRetrieve k fs).2 = .error .pending) := by
  rw [dbRetrieve_result]
  constructor
  · by_cases h : pexists fs (pendingPath k) = true <;> simp [h]
  · intro h; simp [h]

/-- **Transactions are atomic for their key** (any body that does not address
    the marker): after the crash either nothing but the creation of the key's
    directories and of the lock file has happened, or PENDING is present, or
    the transaction completed. -/
theorem txn_atomic (k : String) (body : Prog Unit)
    (havoid : ∀ fs o, o ∈ (body fs).1 → o.path ≠ pendingPath k) (fs : FS) (j : Nat) (n : Option Nat) :
    (∀ p, p ≠ keyDir k → p ≠ metaDir k → p ≠ lockPath → get (crash fs (txn k body fs).1 j n) p = get fs p)
    ∨ pexists (crash fs (txn k body fs).1 j n) (pendingPath k) = true
    ∨ ((txn k body fs).2 = .ok () ∧ crash fs (txn k body fs).1 j n = applyAll fs (txn k body fs).1) := by
  have hopen : ∀ p, p ≠ keyDir k → p ≠ metaDir k → p ≠ lockPath → get (crash fs (openKey k fs) j n) p = get fs p :=
    fun p h1 h2 h3 => get_crash_ne j n (openKey_avoids (Opened.not_iff.mpr ⟨h1, h2, h3⟩) fs)
  by_cases hj : j ≤ (openKey k fs).length
  · rw [txn_crash_opening k body fs n hj]
    exact Or.inl hopen
  · have hj := Nat.lt_of_not_le hj
    rcases txn_cases k body fs with ⟨_, e⟩ | ⟨hP, err, _, e⟩ | ⟨hP, _, e⟩
    · rw [e]
      exact Or.inl hopen
    · exact Or.inr (Or.inl (txn_crash_pending havoid n hP hj (Or.inr (by rw [e]; nofun))))
    · by_cases h2 : j < (txn k body fs).1.length
      · exact Or.inr (Or.inl (txn_crash_pending havoid n hP hj (Or.inl h2)))
      · exact Or.inr (Or.inr ⟨by rw [e], crash_of_length_le (Nat.le_of_not_lt h2)⟩)


/-- **No partially written entry is ever visible as complete** (the crashed
    key): whatever a reader obtains for the key of an interrupted
    `store_model_entry` is what it obtained before the call started or what it
    obtains after the call completed. -/
theorem visible_subset_committed (m : MDesc) (fs : FS) (j : Nat) (n : Option Nat) (e : Entry)
    (h : (dbRetrieve m.key (crash fs (dbStoreEntry m fs).1 j n)).2 = .ok e) :
    (dbRetrieve m.key fs).2 = .ok e ∨
    ((dbStoreEntry m fs).2 = .ok () ∧ (dbRetrieve m.key (applyAll fs (dbStoreEntry m fs).1)).2 = .ok e) := by
  unfold dbStoreEntry at h ⊢
  rcases txn_atomic m.key (storeEntryBody m) (storeEntryBody_avoids_pending m m.key) fs j n with h1 | h1 | ⟨h1, h2⟩
  · refine Or.inl (dbRetrieve_ok_congr (fun p hp => ?_) h)
    obtain ⟨hno1, hno2, hno3⟩ := Opened.not_iff.mp (hp.not_open m.key)
    exact (h1 p hno1 hno2 hno3).symm
  · exact absurd (((pending_protocol m.key _).2 h1).symm.trans h) nofun
  · exact Or.inr ⟨h1, h2 ▸ h⟩

/-- **Entries committed earlier remain intact and retrievable** (general form):
    an entry a reader obtained for key `k` is obtained unchanged after any
    later transaction on another key whose body stays inside the footprint
    `FootN` with a fresh dataset number, completed or interrupted. -/
theorem earlier_commits_intact_txn (key ext dh : String) (body : Prog Unit)
    (hfoot : ∀ fs o, o ∈ (body fs).1 → ∃ N, highest fs < N ∧ FootN key ext dh N o.path)
    (fs : FS) (j : Nat) (n : Option Nat) (k : String) (e : Entry)
    (hk : k ≠ key) (hk2 : k ≠ ".datasets")
    (h : (dbRetrieve k fs).2 = .ok e) :
    (dbRetrieve k (crash fs (txn key body fs).1 j n)).2 = .ok e := by
  have hav : ∀ p, Reads k fs p → get (crash fs (txn key body fs).1 j n) p = get fs p := by
    intro p hp
    refine get_crash_ne j n (txn_avoids ?_ ?_)
    · rcases hp with hp | ⟨r, _, hp⟩
      · exact hp.not_own (hp.ne_pending hk)
      · exact hp.not_own
    · intro o ho e
      obtain ⟨N, hN, hf⟩ := hfoot _ o ho
      rw [e] at hf
      rcases hp with hp | ⟨r, hr, hp⟩
      · -- the reader's own files lie in the directory of its key
        rcases hf.zone with hz | hz
        · exact hk (keyDir_inj (hp.zone.symm.trans hz))
        · exact hk2 (keyDir_inj (k' := ".datasets") (hp.zone.symm.trans hz))
      · -- a dataset file that exists is numbered below the new one
        have hr' : pexists (bodyFS key fs) (datasetsDir ++ [.csv r]) = true := by
          rw [pexists, get_bodyFS (DataFile.not_own (n := r) (Or.inl rfl))]; exact hr
        have := hf.fileNo hp.fileNo
        have := le_highest hr'
        omega
  exact dbRetrieve_ok_congr hav h


/-- **Entries committed earlier remain intact and retrievable**: the instance
    for a later `store_model_entry` of another key. -/
theorem earlier_commits_intact (m : MDesc) (fs : FS) (j : Nat) (n : Option Nat) (k : String) (e : Entry)
    (hk : k ≠ m.key) (hk2 : k ≠ ".datasets")
    (h : (dbRetrieve k fs).2 = .ok e) :
    (dbRetrieve k (crash fs (dbStoreEntry m fs).1 j n)).2 = .ok e :=
  earlier_commits_intact_txn m.key m.ext m.dh (storeEntryBody m)
    (fun _ _ ho => ⟨_, Nat.lt_succ_self _, storeEntryBody_paths ho⟩) fs j n k e hk hk2 h

/-- The same for `db.store_model(m)` … -/
theorem earlier_commits_intact_store_model (m : MDesc) (fs : FS) (j : Nat) (n : Option Nat) (k : String) (e : Entry)
    (hk : k ≠ m.key) (hk2 : k ≠ ".datasets")
    (h : (dbRetrieve k fs).2 = .ok e) :
    (dbRetrieve k (crash fs (dbStoreModel m fs).1 j n)).2 = .ok e :=
  earlier_commits_intact_txn m.key m.ext m.dh (storeModel m)
    (fun _ _ ho => ⟨_, Nat.lt_succ_self _, storeModel_paths ho⟩) fs j n k e hk hk2 h

/-- … and for `db.store_metadata(key, md)`. -/
theorem earlier_commits_intact_store_metadata (key md : String) (fs : FS) (j : Nat) (n : Option Nat) (k : String)
    (e : Entry) (hk : k ≠ key) (hk2 : k ≠ ".datasets")
    (h : (dbRetrieve k fs).2 = .ok e) :
    (dbRetrieve k (crash fs (dbStoreMetadata key md fs).1 j n)).2 = .ok e :=
  earlier_commits_intact_txn key "ctl" "" (storeMetadata key md)
    (fun fs o ho => ⟨highest fs + 1, Nat.lt_succ_self _, by
      simp only [storeMetadata, List.mem_cons, List.not_mem_nil, or_false] at ho
      rcases ho with rfl | rfl <;>
        exact Or.inr (Or.inr (Or.inr (Or.inr (Or.inr (Or.inr (Or.inr (Or.inr rfl)))))))⟩)
    fs j n k e hk hk2 h


/-- The decidable condition under which `store_model` can use (or create) the
    dataset index entry of `m`'s dataset. -/
def IndexUsable (m : MDesc) (fs : FS) : Bool :=
  isFile fs (modelPath m.key m.ext) || !isDir fs (hashDir m.dh) ||
  (match children fs (hashDir m.dh) with
   | [] => false
   | x :: _ => match get fs (datasetsDir ++ [dinfoOf x]) with
     | some (.file c) => (parseDinfo c).isSome
     | _ => false)

/-- **Later stores succeed** — under the side condition that the key is not
    left pending and the index entry of its dataset is usable (absent, or
    complete).  Holds on every file system, hence after every crash. -/
theorem later_stores_succeed_partial (m : MDesc) (fs : FS)
    (hP : pexists fs (pendingPath m.key) = false)
    (hI : IndexUsable m (apply (applyAll fs (openKey m.key fs)) (.create (pendingPath m.key))) = true) :
    (dbStoreEntry m fs).2 = .ok () := by
  have hs : (storeModel m (bodyFS m.key fs)).2 = .ok () := by
    change IndexUsable m (bodyFS m.key fs) = true at hI
    generalize bodyFS m.key fs = fsB at hI ⊢
    unfold IndexUsable at hI
    unfold storeModel storeShared
    split
    · rfl
    · split
      · split at hI
        · simp_all
        · split at hI
          · next c _ => cases hpd : parseDinfo c <;> simp_all
          · simp_all
      · rfl
  simp only [dbStoreEntry, txn_snd, hP, Bool.false_eq_true, if_false]
  exact withResults_ok hs

/-- Two models sharing a dataset (hash `H1`, datainfo `D1`) and a third with
    another dataset whose datainfo equals `D1`. -/
def wM1 : MDesc := { key := "K1", dh := "H1", di := "D1", code := "M1" }
def wM2 : MDesc := { key := "K2", dh := "H1", di := "D1", code := "M2" }
def wM3 : MDesc := { key := "K3", dh := "H2", di := "D1", code := "M3" }

/-- State after the workload `LocalDirectoryContext(...)`, `store_model_entry(M1)`
    interrupted at operation `j` of its trace — the operations of the
    constructor count — (torn parameter `n`). -/
def wCrash (j : Nat) (n : Option Nat) : FS := crashW [] [.init, .dbStoreEntry wM1] j n

/-- **F5** (clause `later_stores_succeed` of DESIGN §6 C16 is false of the
    code): after a crash right after `h_dir.mkdir()` every store of a model
    sharing the dataset raises `StopIteration` … -/
theorem store_after_crash_witness :
    (dbStoreEntry wM2 (wCrash 16 none)).2 = .error .stopIteration := by decide +kernel

/-- … after the index `touch` (and until the datainfo is written) it raises
    `FileNotFoundError` … -/
theorem store_after_crash_witness_index :
    (dbStoreEntry wM2 (wCrash 17 none)).2 = .error .fileNotFound ∧
    (dbStoreEntry wM2 (wCrash 19 (some 3))).2 = .error .fileNotFound := by decide +kernel

/-- … and after a torn datainfo it raises `JSONDecodeError`. -/
theorem store_after_crash_witness_torn :
    (dbStoreEntry wM2 (wCrash 20 (some 5))).2 = .error .jsonDecode := by decide +kernel

/-- The key of the interrupted store itself stays refused for ever (nobody
    removes a stale PENDING), for readers and writers alike. -/
theorem stale_pending_witness :
    (dbRetrieve "K1" (wCrash 22 none)).2 = .error .pending ∧
    (dbStoreEntry wM1 (wCrash 22 none)).2 = .error .pending := by decide +kernel

/-- The same happens to an entry that *was* committed: an interrupted second
    store of the same key (here: storing results for it) makes the committed
    entry unavailable. -/
theorem committed_then_pending_witness :
    let fs1 := runW [] [.init, .dbStoreEntry wM1]
    (dbRetrieve "K1" fs1).2 = .ok wM1.entry ∧
    (dbRetrieve "K1" (crash fs1 (dbStoreEntry { wM1 with res := some "R" } fs1).1 2 none)).2 = .error .pending := by
  decide +kernel

/-- **Silent binding to the wrong dataset**: crash after the index `touch`
    for dataset `H1`; a model with another dataset `H2` (equal datainfo) is
    stored and takes `data1.csv`; a later model with dataset `H1` is bound by
    the stale index entry to `data1.csv` — and is retrieved, as if complete,
    with dataset `H2`. -/
theorem wrong_dataset_witness :
    let fs := runW (wCrash 17 none) [.dbStoreEntry wM3, .dbStoreEntry wM2]
    (dbRetrieve "K2" fs).2 = .ok { code := "M2", dataset := some "H2", di := some "D1", res := none } := by
  decide +kernel

/-- Non-vacuity of `later_stores_succeed_partial`, `visible_subset_committed`
    and `earlier_commits_intact`: on the state after a completed store of `M1`
    a model sharing its dataset is stored, retrieved faithfully, and `M1` is
    still there. -/
example :
    let fs1 := runW [] [.init, .dbStoreEntry wM1]
    pexists fs1 (pendingPath wM2.key) = false ∧
    IndexUsable wM2 (apply (applyAll fs1 (openKey wM2.key fs1)) (.create (pendingPath wM2.key))) = true ∧
    (dbRetrieve "K2" (applyAll fs1 (dbStoreEntry wM2 fs1).1)).2 = .ok wM2.entry ∧
    (dbRetrieve "K1" (applyAll fs1 (dbStoreEntry wM2 fs1).1)).2 = .ok wM1.entry := by decide +kernel


/-- A crash point of a workload is a crash point of one of its calls, run on
    the state the completed calls before it left (or the workload completed):
    the theorems above hold after every workload prefix. -/
theorem crashW_split (w : List Call) (fs : FS) (j : Nat) (n : Option Nat) :
    crashW fs w j n = runW fs w ∨
    ∃ w1 c w2 j', w = w1 ++ c :: w2 ∧ j' < (c.ops (runW fs w1)).length ∧
      crashW fs w j n = crash (runW fs w1) (c.ops (runW fs w1)) j' n := by
  induction w generalizing fs j with
  | nil => exact Or.inl (crash_of_length_le (Nat.zero_le _))
  | cons c w ih =>
    rw [crashW_cons]
    split
    · next hj => exact Or.inr ⟨[], c, w, j, rfl, hj, rfl⟩
    · rcases ih (applyAll fs (c.ops fs)) (j - (c.ops fs).length) with h | ⟨w1, c', w2, j', hw, hj', h⟩
      · exact Or.inl h
      · exact Or.inr ⟨c :: w1, c', w2, j', by rw [hw]; rfl, hj', h⟩

/-- **Earlier commits stay intact through any later workload of stores of
    other keys, interrupted anywhere**: induction over the workload. -/
theorem earlier_commits_intact_workload (ms : List MDesc) (fs : FS) (j : Nat) (n : Option Nat) (k : String) (e : Entry)
    (hk : ∀ m ∈ ms, k ≠ m.key) (hk2 : k ≠ ".datasets")
    (h : (dbRetrieve k fs).2 = .ok e) :
    (dbRetrieve k (crashW fs (ms.map Call.dbStoreEntry) j n)).2 = .ok e := by
  induction ms generalizing fs j with
  | nil => rwa [List.map_nil, crashW, traceW, crash_of_length_le (Nat.zero_le _)]
  | cons m ms ih =>
    have hm := hk m List.mem_cons_self
    rw [List.map_cons, crashW_cons, ops_dbStoreEntry]
    split
    · exact earlier_commits_intact m fs j n k e hm hk2 h
    · refine ih _ _ (fun m' hm' => hk m' (List.mem_cons_of_mem _ hm')) ?_
      rw [← crash_of_length_le (n := n) (Nat.le_refl _)]
      exact earlier_commits_intact m fs _ n k e hm hk2 h

/-- **Log messages come back in order and verbatim** (full statement, the code
    since fix 68c0db2): for any appended messages of arbitrary content, with
    context path, date and severity free of separator, quote and line break,
    `retrieve_log` returns exactly the stored messages, in append order. -/
theorem log_roundtrip (rs : List LogRec) (h : ∀ r ∈ rs, r.Safe) :
    readLog (logHeader ++ (rs.map LogRec.line).flatten) = .ok (rs.map fun r => some r.message) := by
  simpa [readLog] using readLogWith_log false rs h

/-- The k-th row is the k-th appended message. -/
theorem log_order (rs : List LogRec) (h : ∀ r ∈ rs, r.Safe) (k : Nat) :
    (readLog (logHeader ++ (rs.map LogRec.line).flatten)).toOption.map (fun ms => ms[k]?)
      = some (rs[k]?.map fun r => some r.message) := by
  rw [log_roundtrip rs h]; simp [Except.toOption]

/-- The pre-repair reader (`pd.read_csv(log_path)` with pandas' defaults, before
    68c0db2) satisfied only the partial statement: NA strings came back as NaN
    (`none`) … -/
theorem log_roundtrip_partial_prerepair (rs : List LogRec) (h : ∀ r ∈ rs, r.Safe) :
    readLogWith true (logHeader ++ (rs.map LogRec.line).flatten)
      = .ok (rs.map fun r => if isNA r.message then none else some r.message) := by
  simpa using readLogWith_log true rs h

/-- … witnesses: `"NA"`, `""`, `"nan"` were lost by the pre-repair reader and
    are returned verbatim by the code as it is. -/
theorem log_na_witness :
    (readLogWith true (logHeader ++ logLine "ctx".toList "2026".toList "info".toList "NA".toList) = .ok [none] ∧
     readLogWith true (logHeader ++ logLine "ctx".toList "2026".toList "info".toList []) = .ok [none] ∧
     readLogWith true (logHeader ++ logLine "ctx".toList "2026".toList "info".toList "nan".toList) = .ok [none]) ∧
    (readLog (logHeader ++ logLine "ctx".toList "2026".toList "info".toList "NA".toList) = .ok [some "NA".toList] ∧
     readLog (logHeader ++ logLine "ctx".toList "2026".toList "info".toList []) = .ok [some []]) := by
  decide +kernel

/-- Still false of the code: a torn append makes the whole log unreadable (all
    committed messages lost to the reader) or shows a partial row — now with
    an empty message — as a log entry. -/
theorem log_torn_witness :
    let l1 := logLine "ctx".toList "2026".toList "info".toList "first".toList
    let l2 := logLine "ctx".toList "2026".toList "info".toList "second".toList
    readLog (logHeader ++ l1 ++ l2.take 18) = .error .parserError ∧
    readLog (logHeader ++ l1 ++ l2.take 6) = .ok [some "first".toList, some []] := by
  decide +kernel


/-- **Annotation round trip** — for a name without blank or line break and an
    annotation without line break, on any annotations file made of complete
    lines: the stored annotation comes back verbatim. -/
theorem annotation_roundtrip_partial (name ann : List Char) (ls : List (List Char)) (h : ∀ l ∈ ls, WfLine l)
    (hn0 : ' ' ∉ name) (hn1 : '\n' ∉ name) (hn2 : '\r' ∉ name) (ha1 : '\n' ∉ ann) (ha2 : '\r' ∉ ann) :
    retrieveAnnotationText name (storeAnnotationText name ann ls.flatten) = .ok ann := by
  rw [storeAnnotationText_lines name ann ls h]
  unfold retrieveAnnotationText
  rw [readlines_flatten _ (annLines_wf name ann ls h (wf_annLine name ann hn1 hn2 ha1 ha2)),
    find?_annLines name ann name ls hn0, if_pos rfl]
  simp only
  rw [if_pos (by simp [annLine]), annLine_value name ann hn0]

/-- The written file is again made of complete lines, so the round trip
    holds after any number of stores. -/
theorem annotation_wf_preserved (name ann : List Char) (ls : List (List Char)) (h : ∀ l ∈ ls, WfLine l)
    (hn1 : '\n' ∉ name) (hn2 : '\r' ∉ name) (ha1 : '\n' ∉ ann) (ha2 : '\r' ∉ ann) :
    ∃ ls' : List (List Char), storeAnnotationText name ann ls.flatten = ls'.flatten ∧ ∀ l ∈ ls', WfLine l :=
  ⟨annLines name ann ls, storeAnnotationText_lines name ann ls h,
    annLines_wf name ann ls h (wf_annLine name ann hn1 hn2 ha1 ha2)⟩

/-- **Frame**: storing the annotation of one name leaves the annotation every
    other name retrieves unchanged (crash-free). -/
theorem annotation_frame (name ann other : List Char) (ls : List (List Char)) (h : ∀ l ∈ ls, WfLine l)
    (hn0 : ' ' ∉ name) (hn1 : '\n' ∉ name) (hn2 : '\r' ∉ name) (ha1 : '\n' ∉ ann) (ha2 : '\r' ∉ ann)
    (hne : other ≠ name) :
    retrieveAnnotationText other (storeAnnotationText name ann ls.flatten)
      = retrieveAnnotationText other ls.flatten := by
  rw [storeAnnotationText_lines name ann ls h]
  unfold retrieveAnnotationText
  rw [readlines_flatten _ (annLines_wf name ann ls h (wf_annLine name ann hn1 hn2 ha1 ha2)),
    readlines_flatten _ h, find?_annLines name ann other ls hn0, if_neg hne]

/-- The full statement is false of the code: an annotation with a line break
    is cut … -/
theorem annotation_newline_witness :
    retrieveAnnotationText "mA".toList (storeAnnotationText "mA".toList "line1\nline2".toList []) = .ok "line1".toList ∧
    retrieveAnnotationText "mA".toList (storeAnnotationText "mA".toList "cr\rhere".toList []) = .ok "cr".toList := by
  decide +kernel

/-- … and a torn rewrite of the annotations file loses or cuts the annotation
    of another, earlier stored name. -/
theorem annotation_torn_witness :
    let t1 := storeAnnotationText "mA".toList "Model A".toList []
    let t2 := storeAnnotationText "mC".toList "Model C".toList t1
    retrieveAnnotationText "mA".toList t2 = .ok "Model A".toList ∧
    retrieveAnnotationText "mA".toList (t2.take 0) = .error .keyError ∧
    retrieveAnnotationText "mA".toList (t2.take 7) = .ok "Mod".toList ∧
    retrieveAnnotationText "mA".toList (t2.take 2) = .error .indexError := by
  decide +kernel


/-- **A completed store is retrievable and faithful** (first store of a key
    whose dataset is not yet in the database, on any file system): the reader
    obtains the model text, the dataset, the datainfo and the results that
    were stored. -/
theorem committed_faithful (m : MDesc) (fs : FS)
    (hext : m.ext = "ctl" ∨ m.ext = "mod") (hk : m.key ≠ ".datasets")
    (hP : pexists fs (pendingPath m.key) = false)
    (hM1 : isFile fs (modelPath m.key "mod") = false) (hM2 : isFile fs (modelPath m.key "ctl") = false)
    (hH : isDir fs (hashDir m.dh) = false)
    (hR : m.res = none → get fs (resultsPath m.key) = none) :
    (dbStoreEntry m fs).2 = .ok () ∧
    (dbRetrieve m.key (applyAll fs (dbStoreEntry m fs).1)).2 = .ok m.entry := by
  -- the body finds the model files and the index directory as they are in `fs`
  have hMB : isFile (bodyFS m.key fs) (modelPath m.key m.ext) = false := by
    rw [isFile, get_bodyFS (modelPath_not_own _ _)]
    rcases hext with e | e <;> rw [e]
    · exact hM2
    · exact hM1
  have hHB : isDir (bodyFS m.key fs) (hashDir m.dh) = false := by
    rw [isDir, get_bodyFS (not_own_of_zone (p := hashDir m.dh) (fun e => hk (keyDir_inj (k := ".datasets") e).symm) nofun)]
    exact hH
  have hbody := storeEntryBody_fresh hMB hHB
  have hok : (dbStoreEntry m fs).2 = .ok () := by
    simp only [dbStoreEntry, txn_snd, hP, hbody, Bool.false_eq_true, if_false]
  refine ⟨hok, ?_⟩
  unfold dbStoreEntry at hok ⊢
  rw [dbRetrieve_result, txn_ok_no_pending _ _ _ hok, if_neg Bool.false_ne_true, txn_ok_final hok, hbody]
  generalize highest (bodyFS m.key fs) + 1 = N
  generalize hF : apply (applyAll (bodyFS m.key fs) (freshOps m (bodyFS m.key fs) N
    ++ (storeResults m (bodyFS m.key fs)).1)) (.unlink (pendingPath m.key)) = F
  -- the final state at the paths the reader looks at: the results and the removal of the marker come last
  have hF' : ∀ q, q ≠ pendingPath m.key → q ≠ resultsPath m.key →
      get F q = get (applyAll (bodyFS m.key fs) (freshOps m (bodyFS m.key fs) N)) q := by
    intro q h1 h2
    rw [← hF, get_apply_ne (o := .unlink (pendingPath m.key)) h1.symm, applyAll_append,
      get_applyAll_ne fun o ho => storeResults_paths ho ▸ h2.symm]
  have hmr : ∀ e, modelPath m.key e ≠ resultsPath m.key := fun e => ne_of_rel_ne nofun
  have hmodel : ∀ e, get F (modelPath m.key e)
      = if m.ext = e then some (.file (.full (.model m.code (some N)))) else get fs (modelPath m.key e) := by
    intro e
    rw [hF' _ (fun h => modelPath_not_own _ _ (Or.inr h)) (hmr e), get_freshOps_key hk _ _ rfl]
    by_cases he : m.ext = e
    · rw [he, if_pos rfl, if_pos rfl]
    · rw [if_neg he, if_neg fun h => he (modelPath_inj h), get_bodyFS (modelPath_not_own _ _)]
  have hz : ∀ q p, DataFile N q → zone p = keyDir m.key → q ≠ p :=
    fun q p hq hp e => hk (keyDir_inj (hp.symm.trans (e ▸ hq.zone)))
  have hcsv := (hF' _ (hz _ _ (Or.inl rfl) rfl) (hz _ _ (Or.inl rfl) rfl)).trans (get_freshOps_data hk _ N).1
  have hdi := (hF' _ (hz _ _ (Or.inr rfl) rfl) (hz _ _ (Or.inr rfl) rfl)).trans (get_freshOps_data hk _ N).2
  have hres : get F (resultsPath m.key) = m.res.map fun r => .file (.full (.results r)) := by
    rw [← hF, get_apply_ne (o := .unlink (pendingPath m.key)) (resultsPath_ne_pending _ _).symm, applyAll_append,
      get_storeResults]
    cases hr : m.res with
    | some r => rfl
    | none =>
      simp only [Option.map_none]
      rw [get_freshOps_key hk _ _ rfl, if_neg (hmr _), get_bodyFS (resultsPath_not_own _), hR hr]
  have hfind : findModel m.key F = some (modelPath m.key m.ext) := by
    unfold isFile at hM1
    rcases hext with he | he <;> simp [findModel, isFile, hmodel, he, hM1]
  simp only [readEntry, hfind, read, hmodel, if_pos, hcsv, hdi, hres, parseDinfo]
  cases hr : m.res <;> simp [MDesc.entry, hr, Except.map]


/-! ### The intended repair of `store_model` (`storeModelR`, DB.lean): success, atomicity and
  intactness on every file system, fidelity on the witnesses -/

/-- **Later stores succeed** (full statement, repaired algorithm): on every
    file system — hence after every crash — every store of a key that is not
    itself left pending succeeds. -/
theorem later_stores_succeed_repaired (m : MDesc) (fs : FS)
    (hP : pexists fs (pendingPath m.key) = false) : (dbStoreEntryR m fs).2 = .ok () := by
  simp only [dbStoreEntryR, txn_snd, hP, Bool.false_eq_true, if_false]
  exact storeEntryBodyR_ok m _

/-- The repaired store is atomic for its key … -/
theorem repaired_atomic (m : MDesc) (fs : FS) (j : Nat) (n : Option Nat) :
    (∀ p, p ≠ keyDir m.key → p ≠ metaDir m.key → p ≠ lockPath →
        get (crash fs (dbStoreEntryR m fs).1 j n) p = get fs p)
    ∨ pexists (crash fs (dbStoreEntryR m fs).1 j n) (pendingPath m.key) = true
    ∨ ((dbStoreEntryR m fs).2 = .ok () ∧ crash fs (dbStoreEntryR m fs).1 j n = applyAll fs (dbStoreEntryR m fs).1) :=
  txn_atomic m.key (storeEntryBodyR m) (fun _ _ ho => (storeEntryBodyR_paths ho).ne_pending m.key) fs j n

/-- … and leaves entries committed under other keys intact, wherever it is
    interrupted. -/
theorem earlier_commits_intact_repaired (m : MDesc) (fs : FS) (j : Nat) (n : Option Nat) (k : String) (e : Entry)
    (hk : k ≠ m.key) (hk2 : k ≠ ".datasets")
    (h : (dbRetrieve k fs).2 = .ok e) :
    (dbRetrieve k (crash fs (dbStoreEntryR m fs).1 j n)).2 = .ok e :=
  earlier_commits_intact_txn m.key m.ext m.dh (storeEntryBodyR m)
    (fun _ _ ho => ⟨_, Nat.lt_succ_of_le (highest_le_highestR _), storeEntryBodyR_paths ho⟩) fs j n k e hk hk2 h

/-- On the crash states that defeat the code (F5: after `h_dir.mkdir()`, after
    the index `touch`, after a torn datainfo) the repaired store of a model
    sharing the dataset succeeds and is retrieved faithfully; and in the
    wrong-dataset scenario the model keeps its own dataset. -/
theorem repaired_witness :
    (∀ jn ∈ [(16, none), (17, none), (19, some 3), (20, some 5)],
      let fs := wCrash jn.1 jn.2
      (dbStoreEntryR wM2 fs).2 = .ok () ∧
      (dbRetrieve "K2" (applyAll fs (dbStoreEntryR wM2 fs).1)).2 = .ok wM2.entry) ∧
    (let fs0 := wCrash 17 none
     let fs1 := applyAll fs0 (dbStoreEntryR wM3 fs0).1
     let fs2 := applyAll fs1 (dbStoreEntryR wM2 fs1).1
     (dbRetrieve "K2" fs2).2 = .ok wM2.entry ∧ (dbRetrieve "K3" fs2).2 = .ok wM3.entry) := by
  decide +kernel


/-! ### Exception faults (operation `j` raises, the code's cleanup blocks run)

  The code as it is runs no cleanup operation (Workload.lean), so the state
  after an exception fault is the crash state of the same point. -/

/-- For the code as it is an exception fault leaves exactly the crash state. -/
theorem exception_fault_eq_crash (c : Call) (fs : FS) (j : Nat) (n : Option Nat) :
    excFault fs c j n = crash fs (c.ops fs) j n := by
  have : c.cleanupWith false fs j = [] := by
    cases c <;> simp [Call.cleanupWith, txnCleanup]
  rw [excFault, excFaultWith, unlinkInFinally, this]
  rfl

/-- Between the creation of the marker and its removal the marker is present
    (any body that does not address the marker). -/
theorem txn_marker_present (k : String) (body : Prog Unit)
    (havoid : ∀ fs o, o ∈ (body fs).1 → o.path ≠ pendingPath k) (fs : FS) (j : Nat) (n : Option Nat)
    (hP : pexists (applyAll fs (openKey k fs)) (pendingPath k) = false)
    (h1 : (openKey k fs).length < j) (h2 : j < (txn k body fs).1.length) :
    pexists (crash fs (txn k body fs).1 j n) (pendingPath k) = true :=
  txn_crash_pending havoid n (pexists_openKey k fs ▸ hP) h1 (Or.inl h2)

/-- **The marker stays after an exception inside the transaction body**: if
    operation `j` of a store raises after PENDING was created (the removal of
    PENDING at the latest), PENDING is present afterwards and every reader is
    refused. -/
theorem pending_stays_after_exception (m : MDesc) (fs : FS) (j : Nat) (n : Option Nat)
    (hP : pexists fs (pendingPath m.key) = false)
    (h1 : (openKey m.key fs).length < j) (h2 : j < (dbStoreEntry m fs).1.length) :
    pexists (excFault fs (.dbStoreEntry m) j n) (pendingPath m.key) = true ∧
    (dbRetrieve m.key (excFault fs (.dbStoreEntry m) j n)).2 = .error .pending := by
  rw [exception_fault_eq_crash, ops_dbStoreEntry]
  have key := txn_crash_pending (storeEntryBody_avoids_pending m m.key) n hP h1 (Or.inl h2)
  exact ⟨key, (pending_protocol m.key _).2 key⟩

/-- **visible ⊆ committed after an exception fault** of a `store_model_entry`. -/
theorem visible_subset_committed_exception (m : MDesc) (fs : FS) (j : Nat) (n : Option Nat) (e : Entry)
    (h : (dbRetrieve m.key (excFault fs (.dbStoreEntry m) j n)).2 = .ok e) :
    (dbRetrieve m.key fs).2 = .ok e ∨
    ((dbStoreEntry m fs).2 = .ok () ∧ (dbRetrieve m.key (applyAll fs (dbStoreEntry m fs).1)).2 = .ok e) := by
  rw [exception_fault_eq_crash, ops_dbStoreEntry] at h
  exact visible_subset_committed m fs j n e h

/-- Entries committed under other keys stay intact after an exception fault. -/
theorem earlier_commits_intact_exception (m : MDesc) (fs : FS) (j : Nat) (n : Option Nat) (k : String) (e : Entry)
    (hk : k ≠ m.key) (hk2 : k ≠ ".datasets") (h : (dbRetrieve k fs).2 = .ok e) :
    (dbRetrieve k (excFault fs (.dbStoreEntry m) j n)).2 = .ok e := by
  rw [exception_fault_eq_crash, ops_dbStoreEntry]
  exact earlier_commits_intact m fs j n k e hk hk2 h

/-- With a `try/finally` around the `yield` (marker removed although the body
    raised) the statement is FALSE: an I/O error while creating `results.json`
    leaves the model file without results and without marker, and a reader
    obtains an entry that was never committed — neither the state before the
    call nor the state after its completion. -/
theorem exception_finally_witness :
    let fs := runW [] [.init]
    let m : MDesc := { wM1 with res := some "R" }
    (dbRetrieve "K1" fs).2 = .error .notFound ∧
    (dbRetrieve "K1" (applyAll fs (dbStoreEntry m fs).1)).2 = .ok m.entry ∧
    (dbRetrieve "K1" (excFaultWith true fs (.dbStoreEntry m) 14 none)).2
      = .ok { code := "M1", dataset := some "H1", di := some "D1", res := none } ∧
    (dbRetrieve "K1" (excFault fs (.dbStoreEntry m) 14 none)).2 = .error .pending := by
  decide +kernel


/-- **The log of a stored entry comes back in order and verbatim**:
    `Log.from_dict` applied to what `read_results` rebuilds from the JSON object
    `ModelfitResults.to_json` writes for `Log.to_dict` (integer positions
    turned into string keys) is the log itself. -/
theorem result_log_roundtrip (l : List LogEntry) : decodeLog (encodeLog l) = some l := by
  -- the keys of the written object are pairwise different decimal numerals and, last, `__class__`
  have hnodup : ((encodeLog l).map (·.1)).Nodup := by
    simp only [encodeLog, List.map_append, List.map_map, List.map_cons, List.map_nil]
    rw [List.nodup_append]
    refine ⟨keys_logToDict_nodup 0 l, by simp, ?_⟩
    simp only [List.mem_map, Function.comp, List.mem_singleton]
    rintro _ ⟨p, _, rfl⟩ _ rfl
    exact toString_nat_ne_class p.1
  have hd : dictOfPairs (encodeLog l) = encodeLog l :=
    (dictOfPairs_nodup (encodeLog l) [] hnodup).trans (List.nil_append _)
  have hdel : dictDel (encodeLog l) "__class__"
      = (logToDict 0 l).map (fun p => (toString p.1, JVal.entry p.2)) := by
    simp only [dictDel, encodeLog, List.filter_append]
    rw [List.filter_eq_self.mpr]
    · simp
    · simp only [List.mem_map]
      rintro _ ⟨p, _, rfl⟩
      simpa using toString_nat_ne_class p.1
  unfold decodeLog
  simp only [hd]
  rw [if_pos (by simp [encodeLog]), hdel, logFromDict_entries, logToDict_values]

/-- The k-th retrieved message is the k-th stored one. -/
theorem result_log_order (l : List LogEntry) (k : Nat) :
    (decodeLog (encodeLog l)).map (fun r => r[k]?) = some l[k]? := by
  rw [result_log_roundtrip]; rfl

/-- The round trip depends on reading the dict in insertion order: ordering the
    (string!) keys with `sorted` permutes any log of more than ten messages. -/
theorem result_log_sorted_keys_witness :
    let l : List LogEntry := (List.range 12).map fun i => { category := "WARNING", message := toString i, time := "t" }
    (logFromDictSorted (dictDel (dictOfPairs (encodeLog l)) "__class__")).map (·.map (·.message))
      = some ["0", "1", "10", "11", "2", "3", "4", "5", "6", "7", "8", "9"] := by
  decide +kernel


/-! ### The name link of `Context._store_model`

  Context-level stores are NOT atomic as a whole (the annotation rewrite and
  the refusal to re-bind a name are known defects); what holds: `store_key`
  runs after the `with db.transaction` block, so a name is linked only once
  its key has committed. -/

/-- **A name linked by an interrupted `_store_model` points to a committed
    key**: if the call changed what is at `models/<name>`, its transaction had
    completed — PENDING of the key is absent and a reader of the key obtains
    exactly what it obtains after the completed transaction. -/
theorem linked_name_committed (name descr : String) (m : MDesc) (fs : FS) (j : Nat) (n : Option Nat)
    (hlink : get (crash fs (ctxStore name descr m fs).1 j n) (namePath name) ≠ get fs (namePath name)) :
    (dbStoreEntry m fs).2 = .ok () ∧
    pexists (crash fs (ctxStore name descr m fs).1 j n) (pendingPath m.key) = false ∧
    (dbRetrieve m.key (crash fs (ctxStore name descr m fs).1 j n)).2
      = (dbRetrieve m.key (applyAll fs (dbStoreEntry m fs).1)).2 := by
  -- the transaction works inside the database directory, what follows it outside
  have hT : ∀ o ∈ (dbStoreEntry m fs).1, o.path ≠ namePath name := fun o ho e =>
    not_inDB_ctx (Or.inl rfl) (e ▸ (txn_paths ho).elim Own.inDB fun h => (storeEntryBody_paths h).inDB)
  unfold ctxStore at hlink ⊢
  rw [andThen_fst] at hlink ⊢
  cases hr : (dbStoreEntry m fs).2 with
  | error e =>
    rw [hr] at hlink
    exact absurd (get_crash_ne j n hT) hlink
  | ok u =>
    rw [hr] at hlink
    simp only at hlink ⊢
    by_cases hj : j < (dbStoreEntry m fs).1.length
    · rw [crash_append_left hj] at hlink
      exact absurd (get_crash_ne j n hT) hlink
    · rw [crash_append_right (Nat.le_of_not_lt hj)]
      have hget : ∀ p, InDB p → get (crash (applyAll fs (dbStoreEntry m fs).1)
          (((storeKey name m.key).andThen fun _ => storeAnnotation name descr) (applyAll fs (dbStoreEntry m fs).1)).1
          (j - (dbStoreEntry m fs).1.length) n) p = get (applyAll fs (dbStoreEntry m fs).1) p :=
        fun p hp => get_crash_ne _ n fun o ho e => not_inDB_ctx (ctxTail_paths ho) (e ▸ hp)
      refine ⟨trivial, ?_, dbRetrieve_congr fun _ p hp => hget p hp.inDB⟩
      rw [pexists, hget _ ⟨m.key, rfl⟩]
      exact txn_ok_no_pending m.key (storeEntryBody m) fs hr

/-- What the theorem excludes: with `store_key` inside the transaction block
    (`ctxStoreEarlyLink`) a crash between the link and the removal of PENDING
    leaves the name bound to a key that never committed; a later store of
    another model under that name succeeds, but the name still resolves to the
    pending key. -/
theorem early_link_witness :
    let fs0 := runW [] [.init]
    let fs := crash fs0 (ctxStoreEarlyLink "mA" "Model A" wM1 fs0).1 15 none
    resolveName fs "mA" = some "K1" ∧ pexists fs (pendingPath "K1") = true ∧
    (ctxStore "mA" "Model E" wM3 fs).2 = .ok () ∧
    (ctxRetrieve "mA" (applyAll fs (ctxStore "mA" "Model E" wM3 fs).1)).2 = .error .pending ∧
    -- the code as it is, same crash point: the name is not linked yet
    resolveName (crash fs0 (ctxStore "mA" "Model A" wM1 fs0).1 15 none) "mA" = none := by
  decide +kernel


/-! ### The key must identify the entry

  A store under a key whose model file exists writes nothing, so `ModelHash`
  has to separate models that differ in data values, code or datainfo
  (hashing itself: C12). -/

/-- `store_model` of any model whose key already has a model file issues no
    operation at all — whatever its dataset. -/
theorem storeModel_early_return (m : MDesc) (fs : FS) (h : isFile fs (modelPath m.key m.ext) = true) :
    storeModel m fs = ([], .ok ()) := by
  simp [storeModel, h]

/-- Hence two entries that differ only in their data but share a key are not
    both retrievable: the second store "succeeds" and the reader obtains the
    first entry's dataset (while with different keys both come back, see the
    non-vacuity example above). -/
theorem key_collision_witness :
    let mA : MDesc := wM1
    let mC : MDesc := { wM1 with dh := "H2" }
    let fs1 := runW [] [.init, .dbStoreEntry mA]
    (dbStoreEntry mC fs1).2 = .ok () ∧
    (dbRetrieve "K1" (applyAll fs1 (dbStoreEntry mC fs1).1)).2 = .ok mA.entry ∧
    mA.entry ≠ mC.entry := by
  decide +kernel

end Pharmpy.C16
