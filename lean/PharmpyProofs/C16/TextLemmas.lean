import PharmpyModel.C16.Text
/-
  C16 — lemmas about the log.csv tokenizer model and the annotation lines.
-/
namespace Pharmpy.C16

/-- Characters that may appear in an unquoted field without ending it. -/
def plainChar (c : Char) : Bool := c != ',' && c != '"' && c != '\n' && c != '\r'

def Plain (cs : List Char) : Prop := ∀ c ∈ cs, plainChar c = true

theorem plainChar_ne {c : Char} (h : plainChar c = true) : c ≠ ',' ∧ c ≠ '"' ∧ c ≠ '\n' ∧ c ≠ '\r' := by
  simp [plainChar] at h; exact ⟨h.1.1.1, h.1.1.2, h.1.2, h.2⟩

theorem fold_inField (cs : List Char) (h : Plain cs) (s : CsvSt) (hm : s.mode = .inField) :
    cs.foldl csvStep s = { s with fld := s.fld ++ cs, mode := .inField } := by
  induction cs generalizing s with
  | nil => cases s; simp_all
  | cons c cs ih =>
    have hc := plainChar_ne (h c List.mem_cons_self)
    simp only [List.foldl_cons]
    have : csvStep s c = s.push c .inField := by
      simp [csvStep, hm, hc.1, hc.2.2.1, hc.2.2.2]
    rw [this, ih (fun x hx => h x (List.mem_cons_of_mem _ hx)) _ rfl]
    simp [CsvSt.push]

/-- A plain field followed by a comma, read from the start of a record or of
    a field (current field empty), becomes one completed field. -/
theorem fold_plain_field (cs : List Char) (h : Plain cs) (s : CsvSt) (hf : s.fld = [])
    (hm : s.mode = .startRecord ∨ s.mode = .startField) :
    (cs ++ [',']).foldl csvStep s = { s with cur := s.cur ++ [cs], fld := [], mode := .startField } := by
  cases cs with
  | nil =>
    rcases hm with hm | hm <;>
      simp [csvStep, csvStartRecord, csvStartField, hm, CsvSt.endField, hf]
  | cons c cs =>
    have hc := plainChar_ne (h c List.mem_cons_self)
    have h1 : csvStep s c = s.push c .inField := by
      rcases hm with hm | hm <;>
        simp [csvStep, csvStartRecord, csvStartField, hm, hc.1, hc.2.1, hc.2.2.1, hc.2.2.2]
    simp only [List.cons_append, List.foldl_cons, List.foldl_append, h1]
    rw [fold_inField cs (fun x hx => h x (List.mem_cons_of_mem _ hx)) _ rfl]
    simp [csvStep, CsvSt.push, CsvSt.endField, hf]

theorem fold_escape (m : List Char) (s : CsvSt) (hm : s.mode = .inQuoted) :
    (escapeQuotes m).foldl csvStep s = { s with fld := s.fld ++ m, mode := .inQuoted } := by
  induction m generalizing s with
  | nil => cases s; simp_all [escapeQuotes]
  | cons c cs ih =>
    by_cases hc : c = '"'
    · subst hc
      simp only [escapeQuotes, if_true, List.foldl_cons]
      have h1 : csvStep (csvStep s '"') '"' = s.push '"' .inQuoted := by
        simp [csvStep, hm, CsvSt.push]
      rw [h1, ih _ rfl]; simp [CsvSt.push]
    · simp only [escapeQuotes, hc, if_false, List.foldl_cons]
      have h1 : csvStep s c = s.push c .inQuoted := by simp [csvStep, hm, hc]
      rw [h1, ih _ rfl]; simp [CsvSt.push]

theorem fold_mangled (m : List Char) (s : CsvSt) (hf : s.fld = []) (hm : s.mode = .startField) :
    (mangle m ++ ['\n']).foldl csvStep s =
      { rows := s.rows ++ [s.cur ++ [m]], cur := [], fld := [], mode := .startRecord } := by
  simp only [mangle, List.cons_append, List.foldl_cons, List.foldl_append, List.append_assoc]
  have h1 : csvStep s '"' = { s with mode := .inQuoted } := by
    simp [csvStep, csvStartField, hm]
  rw [h1, fold_escape m _ rfl]
  simp [csvStep, CsvSt.endField, CsvSt.endLine, hf]

/-- State between records. -/
def atRecordStart (rows : List (List (List Char))) : CsvSt :=
  { rows := rows, cur := [], fld := [], mode := .startRecord }

/-- **One log line is one record** with the message verbatim. -/
theorem fold_logLine (p d sv m : List Char) (hp : Plain p) (hd : Plain d) (hs : Plain sv)
    (rows : List (List (List Char))) :
    (logLine p d sv m).foldl csvStep (atRecordStart rows) = atRecordStart (rows ++ [[p, d, sv, m]]) := by
  have e : logLine p d sv m = (p ++ [',']) ++ ((d ++ [',']) ++ ((sv ++ [',']) ++ (mangle m ++ ['\n']))) := by
    simp [logLine]
  rw [e, List.foldl_append, fold_plain_field p hp _ rfl (Or.inl rfl),
    List.foldl_append, fold_plain_field d hd _ rfl (Or.inr rfl),
    List.foldl_append, fold_plain_field sv hs _ rfl (Or.inr rfl),
    fold_mangled m _ rfl rfl]
  simp [atRecordStart]

structure LogRec where
  path : List Char
  date : List Char
  severity : List Char
  message : List Char

def LogRec.line (r : LogRec) : List Char := logLine r.path r.date r.severity r.message
def LogRec.Safe (r : LogRec) : Prop := Plain r.path ∧ Plain r.date ∧ Plain r.severity

theorem fold_log (rs : List LogRec) (h : ∀ r ∈ rs, r.Safe) (rows : List (List (List Char))) :
    ((rs.map LogRec.line).flatten).foldl csvStep (atRecordStart rows)
      = atRecordStart (rows ++ rs.map fun r => [r.path, r.date, r.severity, r.message]) := by
  induction rs generalizing rows with
  | nil => simp
  | cons r rs ih =>
    have hr := h r List.mem_cons_self
    simp only [List.map_cons, List.flatten_cons, List.foldl_append, LogRec.line]
    rw [fold_logLine _ _ _ _ hr.1 hr.2.1 hr.2.2, ih (fun x hx => h x (List.mem_cons_of_mem _ hx))]
    simp

theorem fold_header : logHeader.foldl csvStep {} =
    atRecordStart [["path".toList, "time".toList, "severity".toList, "message".toList]] := by
  decide +kernel


/-- A well-formed line: text without line breaks, then `\n`. -/
def WfLine (l : List Char) : Prop := ∃ body, l = body ++ ['\n'] ∧ '\n' ∉ body ∧ '\r' ∉ body

theorem universalNewlines_id (t : List Char) (h : '\r' ∉ t) : universalNewlines t = t := by
  fun_induction universalNewlines t <;> simp_all

theorem splitLinesAux_line (body rest acc : List Char) (h : '\n' ∉ body) :
    splitLinesAux acc (body ++ '\n' :: rest) = (acc ++ body ++ ['\n']) :: splitLinesAux [] rest := by
  induction body generalizing acc with
  | nil => simp [splitLinesAux]
  | cons c cs ih =>
    have hc : c ≠ '\n' := fun e => h (by simp [e])
    have hcs : '\n' ∉ cs := fun e => h (List.mem_cons_of_mem _ e)
    simp only [List.cons_append, splitLinesAux, hc, if_false]
    rw [ih _ hcs]; simp

theorem splitLinesAux_flatten (ls : List (List Char)) (h : ∀ l ∈ ls, WfLine l) :
    splitLinesAux [] ls.flatten = ls := by
  induction ls with
  | nil => simp [splitLinesAux]
  | cons l ls ih =>
    obtain ⟨body, rfl, hb, _⟩ := h l List.mem_cons_self
    simp only [List.flatten_cons, List.append_assoc, List.singleton_append]
    rw [splitLinesAux_line body _ [] hb, ih (fun x hx => h x (List.mem_cons_of_mem _ hx))]
    simp

theorem no_cr_flatten (ls : List (List Char)) (h : ∀ l ∈ ls, WfLine l) : '\r' ∉ ls.flatten := by
  intro hm
  rw [List.mem_flatten] at hm
  obtain ⟨l, hl, hc⟩ := hm
  obtain ⟨body, rfl, _, hb⟩ := h l hl
  simp at hc
  exact hb hc

theorem readlines_flatten (ls : List (List Char)) (h : ∀ l ∈ ls, WfLine l) : readlines ls.flatten = ls := by
  unfold readlines
  rw [universalNewlines_id _ (no_cr_flatten ls h), splitLinesAux_flatten ls h]

theorem not_blank_of_mem {name : List Char} (hn : ' ' ∉ name) : ∀ c ∈ name, decide (c ≠ ' ') = true :=
  fun _ hc => decide_eq_true fun e => hn (e ▸ hc)

theorem lineKey_annLine (name ann : List Char) (hn : ' ' ∉ name) : lineKey (annLine name ann) = name := by
  unfold lineKey annLine
  rw [List.takeWhile_append_of_pos (not_blank_of_mem hn)]
  simp [List.takeWhile]

/-- What `retrieve_annotation` cuts out of the line of a name: `a[1][:-1]`. -/
theorem annLine_value (name ann : List Char) (hn : ' ' ∉ name) :
    (((annLine name ann).dropWhile (· ≠ ' ')).drop 1).dropLast = ann := by
  unfold annLine
  rw [List.dropWhile_append_of_pos (not_blank_of_mem hn)]
  simp [List.dropWhile]

theorem wf_annLine (name ann : List Char) (hn1 : '\n' ∉ name) (hn2 : '\r' ∉ name)
    (ha1 : '\n' ∉ ann) (ha2 : '\r' ∉ ann) : WfLine (annLine name ann) := by
  refine ⟨name ++ ' ' :: ann, by simp [annLine], ?_, ?_⟩
  · simp [hn1, ha1]
  · simp [hn2, ha2]


/-- The lines `store_annotation` writes. -/
def annLines (name ann : List Char) (ls : List (List Char)) : List (List Char) :=
  let ls' := ls.map (fun l => if lineKey l = name then annLine name ann else l)
  if ls.any (fun l => lineKey l = name) then ls' else ls' ++ [annLine name ann]

theorem storeAnnotationText_lines (name ann : List Char) (ls : List (List Char)) (h : ∀ l ∈ ls, WfLine l) :
    storeAnnotationText name ann ls.flatten = (annLines name ann ls).flatten := by
  simp only [storeAnnotationText, annLines, readlines_flatten ls h]

theorem mem_annLines {name ann l : List Char} {ls : List (List Char)} (h : l ∈ annLines name ann ls) :
    l = annLine name ann ∨ l ∈ ls := by
  grind [annLines]

theorem annLines_wf (name ann : List Char) (ls : List (List Char)) (h : ∀ l ∈ ls, WfLine l)
    (hw : WfLine (annLine name ann)) : ∀ l ∈ annLines name ann ls, WfLine l :=
  fun l hl => (mem_annLines hl).elim (· ▸ hw) (h l)


theorem find?_annLines (name ann x : List Char) (ls : List (List Char)) (hn : ' ' ∉ name) :
    (annLines name ann ls).find? (fun l => lineKey l = x)
      = if x = name then some (annLine name ann) else ls.find? (fun l => lineKey l = x) := by
  have hkey := lineKey_annLine name ann hn
  -- rewriting a line keeps its key, so the search commutes with the rewriting
  have hmap : (ls.map fun l => if lineKey l = name then annLine name ann else l).find? (fun l => lineKey l = x)
      = (ls.find? (fun l => lineKey l = x)).map fun l => if lineKey l = name then annLine name ann else l := by
    rw [List.find?_map]
    congr 2
    funext l
    simp only [Function.comp]
    split
    · next h => rw [hkey, h]
    · rfl
  -- and whether a line is appended depends on whether the search for `name` finds one
  have hany : ls.any (fun l => lineKey l = x) = (ls.find? (fun l => lineKey l = x)).isSome := by
    rw [Bool.eq_iff_iff, List.any_eq_true, List.find?_isSome]
  unfold annLines
  cases hf : ls.find? (fun l => lineKey l = x) with
  | none =>
    by_cases hx : x = name
    · subst hx; simp [hany, hf, hmap, hkey]
    · split <;> simp [List.find?_append, hf, hmap, hkey, Ne.symm hx]
  | some l =>
    have hl : lineKey l = x := by simpa using List.find?_some hf
    by_cases hx : x = name
    · subst hx; simp [hany, hf, hmap, hl]
    · split <;> simp [List.find?_append, hf, hmap, hl, hx]

theorem csvParse_log (rs : List LogRec) (h : ∀ r ∈ rs, r.Safe) :
    csvParse (logHeader ++ (rs.map LogRec.line).flatten)
      = some (["path".toList, "time".toList, "severity".toList, "message".toList]
          :: rs.map fun r => [r.path, r.date, r.severity, r.message]) := by
  simp only [csvParse, List.foldl_append, fold_header, fold_log rs h]
  simp [csvFinish, atRecordStart]

theorem readLogWith_log (naFilter : Bool) (rs : List LogRec) (h : ∀ r ∈ rs, r.Safe) :
    readLogWith naFilter (logHeader ++ (rs.map LogRec.line).flatten)
      = .ok (rs.map fun r => if naFilter && isNA r.message then none else some r.message) := by
  simp only [readLogWith, csvParse_log rs h]
  have hany : (rs.map fun r => [r.path, r.date, r.severity, r.message]).any (fun r => decide (4 < r.length)) = false := by
    simp [List.any_eq_false]
  simp [hany]

end Pharmpy.C16
