import PharmpyProofs.C16.Lemmas
/-
  C16 — the database programs: where their paths lie, the shape and the crash
  states of a transaction, what a reader depends on, which paths the bodies of
  the stores address.
-/
namespace Pharmpy.C16

/-! Every path the database programs address is an entry of the database
  directory (`zone`: a key's directory, `.datasets`, the lock file) followed by
  a path inside it (`rel`); the disequalities between paths that the frame
  arguments need are read off these two. -/

def zone (p : Path) : Path := p.take 3

def rel (p : Path) : Path := p.drop 3

/-- The number a dataset file directly below its entry carries. -/
def fileNo (p : Path) : Option Nat :=
  match rel p with
  | [.csv n] => some n
  | [.dinfo n] => some n
  | _ => none

theorem ne_of_rel_ne {p q : Path} (h : rel p ≠ rel q) : p ≠ q := fun e => h (e ▸ rfl)

theorem keyDir_inj {k k' : String} (h : keyDir k = keyDir k') : k = k' := by
  simpa [keyDir] using h

/-- `p` is or lies in an entry of the database directory. -/
def InDB (p : Path) : Prop := ∃ x, zone p = keyDir x

/-- The directories and the lock file that opening key `k` creates … -/
def Opened (k : String) (p : Path) : Prop := p = keyDir k ∨ p = metaDir k ∨ p = lockPath

/-- … and all the paths `transaction(k)` addresses itself. -/
def Own (k : String) (p : Path) : Prop := Opened k p ∨ p = pendingPath k

theorem Own.inDB {k : String} {p : Path} (h : Own k p) : InDB p := by
  rcases h with (rfl | rfl | rfl) | rfl
  · exact ⟨k, rfl⟩
  · exact ⟨k, rfl⟩
  · exact ⟨".lock", rfl⟩
  · exact ⟨k, rfl⟩

theorem Own.fileNo {k : String} {p : Path} (h : Own k p) : fileNo p = none := by
  rcases h with (rfl | rfl | rfl) | rfl <;> rfl

theorem Opened.not_iff {k : String} {p : Path} : ¬ Opened k p ↔ p ≠ keyDir k ∧ p ≠ metaDir k ∧ p ≠ lockPath := by
  simp only [Opened, not_or]

/-- Inside the directory of key `k` a reader looks at the marker, the model
    file and the results. -/
def KeyFile (k : String) (p : Path) : Prop :=
  p = pendingPath k ∨ p = modelPath k "mod" ∨ p = modelPath k "ctl" ∨ p = resultsPath k

/-- `data<n>.csv` and `data<n>.datainfo`. -/
def DataFile (n : Nat) (p : Path) : Prop :=
  p = datasetsDir ++ [.csv n] ∨ p = datasetsDir ++ [.dinfo n]

theorem KeyFile.zone {k : String} {p : Path} (h : KeyFile k p) : zone p = keyDir k := by
  rcases h with rfl | rfl | rfl | rfl <;> rfl

theorem not_open_of_rel {p : Path} (h0 : rel p ≠ []) (h1 : rel p ≠ [.s ".pharmpy"]) (k' : String) :
    ¬ Opened k' p :=
  Opened.not_iff.mpr ⟨fun e => h0 (e ▸ rfl), fun e => h1 (e ▸ rfl), fun e => h0 (e ▸ rfl)⟩

theorem KeyFile.not_open {k : String} {p : Path} (h : KeyFile k p) (k' : String) : ¬ Opened k' p := by
  rcases h with rfl | rfl | rfl | rfl
  · exact not_open_of_rel (p := pendingPath k) (List.cons_ne_nil _ _) nofun k'
  · exact not_open_of_rel (p := modelPath k "mod") (List.cons_ne_nil _ _) nofun k'
  · exact not_open_of_rel (p := modelPath k "ctl") (List.cons_ne_nil _ _) nofun k'
  · exact not_open_of_rel (p := resultsPath k) (List.cons_ne_nil _ _) nofun k'

theorem KeyFile.ne_pending {k k' : String} {p : Path} (h : KeyFile k p) (hk : k ≠ k') : p ≠ pendingPath k' :=
  fun e => hk (keyDir_inj (h.zone.symm.trans (e ▸ rfl)))

theorem KeyFile.not_own {k k' : String} {p : Path} (h : KeyFile k p) (hp : p ≠ pendingPath k') : ¬ Own k' p :=
  fun ho => ho.elim (h.not_open k') hp

theorem not_own_of_zone {k : String} {p : Path} (hz : zone p ≠ keyDir k) (hr : rel p ≠ []) : ¬ Own k p := by
  rintro ((rfl | rfl | rfl) | rfl)
  · exact hz rfl
  · exact hz rfl
  · exact hr rfl
  · exact hz rfl

theorem modelPath_inj {k e e' : String} (h : modelPath k e = modelPath k e') : e = e' := by
  injection List.append_cancel_left h with h
  injection h

theorem modelPath_not_own (k e : String) : ¬ Own k (modelPath k e) := by
  rintro ((h | h | h) | h) <;> exact absurd h (ne_of_rel_ne nofun)

theorem resultsPath_ne_pending (k k' : String) : resultsPath k ≠ pendingPath k' :=
  ne_of_rel_ne fun e => by
    injection e with _ e; injection e with e; injection e with e; exact absurd e (by decide)

theorem resultsPath_not_own (k : String) : ¬ Own k (resultsPath k) :=
  KeyFile.not_own (Or.inr (Or.inr (Or.inr rfl))) (resultsPath_ne_pending k k)

theorem DataFile.zone {n : Nat} {p : Path} (h : DataFile n p) : zone p = datasetsDir := by
  rcases h with rfl | rfl <;> rfl

theorem DataFile.fileNo {n : Nat} {p : Path} (h : DataFile n p) : fileNo p = some n := by
  rcases h with rfl | rfl <;> rfl

theorem DataFile.not_own {n : Nat} {k : String} {p : Path} (h : DataFile n p) : ¬ Own k p :=
  fun ho => nomatch h.fileNo.symm.trans ho.fileNo

theorem DataFile.not_open {n : Nat} {p : Path} (h : DataFile n p) (k' : String) : ¬ Opened k' p :=
  fun ho => h.not_own (Or.inl ho)

theorem mkdirP_paths {fs : FS} {base : Path} {rel : List Seg} {o : Op} (h : o ∈ mkdirP fs base rel) :
    o.path ∈ ancestors base rel := by
  simp only [mkdirP, List.mem_map, List.mem_filter] at h
  obtain ⟨q, ⟨hq, _⟩, rfl⟩ := h
  exact hq

theorem touch_paths {fs : FS} {p : Path} {o : Op} (h : o ∈ touch fs p) : o.path = p := by
  unfold touch at h
  split at h
  · cases h
  · cases List.mem_singleton.mp h; rfl

theorem openKey_paths {k : String} {fs : FS} {o : Op} (h : o ∈ openKey k fs) : Opened k o.path := by
  rcases List.mem_append.mp h with h | h
  · have := mkdirP_paths h
    simp only [ancestors, List.mem_cons, List.not_mem_nil, or_false] at this
    rcases this with e | e
    · exact Or.inl e
    · exact Or.inr (Or.inl e)
  · exact Or.inr (Or.inr (touch_paths h))

theorem openKey_avoids {k : String} {p : Path} (h : ¬ Opened k p) (fs : FS) : ∀ o ∈ openKey k fs, o.path ≠ p :=
  fun _ ho e => h (e ▸ openKey_paths ho)

theorem pexists_openKey (k : String) (fs : FS) :
    pexists (applyAll fs (openKey k fs)) (pendingPath k) = pexists fs (pendingPath k) := by
  rw [pexists, get_applyAll_ne (openKey_avoids (KeyFile.not_open (Or.inl rfl) k) fs), pexists]

/-- What a reader of key `k` depends on in `fs`: the files of its key and the
    dataset files that exist. -/
def Reads (k : String) (fs : FS) (p : Path) : Prop :=
  KeyFile k p ∨ ∃ n, pexists fs (datasetsDir ++ [.csv n]) = true ∧ DataFile n p

theorem Reads.not_open {k : String} {fs : FS} {p : Path} (h : Reads k fs p) (k' : String) : ¬ Opened k' p :=
  h.elim (·.not_open k') fun ⟨_, _, h⟩ => h.not_open k'

theorem Reads.inDB {k : String} {fs : FS} {p : Path} (h : Reads k fs p) : InDB p :=
  h.elim (fun h => ⟨k, h.zone⟩) fun ⟨_, _, h⟩ => ⟨".datasets", h.zone⟩

/-- If what a reader depends on is unchanged it is told the same — unless it
    was told that the dataset its model file names is missing, which new
    dataset files may change. -/
theorem readEntry_congr_or {k : String} {fs fs' : FS} (h : ∀ p, Reads k fs p → get fs' p = get fs p) :
    readEntry k fs' = readEntry k fs ∨ readEntry k fs = .error .fileNotFound := by
  have h1 := h _ (Or.inl (Or.inr (Or.inl rfl)))
  have h2 := h _ (Or.inl (Or.inr (Or.inr (Or.inl rfl))))
  have hf : findModel k fs' = findModel k fs := by
    unfold findModel isFile; rw [h1, h2]
  unfold readEntry
  rw [hf]
  cases hm : findModel k fs with
  | none => exact Or.inl rfl
  | some p =>
    have hp : get fs' p = get fs p := by
      simp only [findModel] at hm
      split at hm
      · cases hm; exact h1
      · split at hm
        · cases hm; exact h2
        · cases hm
    simp only [read, hp, h _ (Or.inl (Or.inr (Or.inr (Or.inr rfl))))]
    split
    · next code ref _ =>
      cases ref with
      | none => exact Or.inl rfl
      | some r =>
        simp only
        cases hc : get fs (datasetsDir ++ [.csv r]) with
        | none => exact Or.inr rfl
        | some nd =>
          have hr : pexists fs (datasetsDir ++ [.csv r]) = true := by rw [pexists, hc]; rfl
          left
          simp only [h _ (Or.inr ⟨r, hr, Or.inl rfl⟩), h _ (Or.inr ⟨r, hr, Or.inr rfl⟩), hc]
    · exact Or.inl rfl

/-- `Reads` for every `fs₀`: all dataset files, existing or not.  Then neither
    way round can a missing dataset appear. -/
theorem readEntry_congr {k : String} {fs fs' : FS} (h : ∀ fs₀ p, Reads k fs₀ p → get fs' p = get fs p) :
    readEntry k fs' = readEntry k fs := by
  rcases readEntry_congr_or (h fs) with e | e
  · exact e
  · rcases readEntry_congr_or fun p hp => (h fs' p hp).symm with e' | e'
    · exact e'.symm
    · rw [e, e']

/-- Opening the key changes nothing a reader looks at. -/
theorem dbRetrieve_result (k : String) (fs : FS) :
    (dbRetrieve k fs).2 = if pexists fs (pendingPath k) then .error .pending else readEntry k fs := by
  have hr : readEntry k (applyAll fs (openKey k fs)) = readEntry k fs :=
    readEntry_congr fun _ p hp => get_applyAll_ne (openKey_avoids (hp.not_open k) fs)
  simp only [dbRetrieve, snapshot, pexists_openKey, hr]
  split <;> rfl

theorem dbRetrieve_congr {k : String} {fs fs' : FS} (h : ∀ fs₀ p, Reads k fs₀ p → get fs' p = get fs p) :
    (dbRetrieve k fs').2 = (dbRetrieve k fs).2 := by
  rw [dbRetrieve_result, dbRetrieve_result, pexists, pexists, h fs _ (Or.inl (Or.inl rfl)), readEntry_congr h]

theorem dbRetrieve_ok_congr {k : String} {fs fs' : FS} {e : Entry}
    (h : ∀ p, Reads k fs p → get fs' p = get fs p) (hok : (dbRetrieve k fs).2 = .ok e) :
    (dbRetrieve k fs').2 = .ok e := by
  rw [dbRetrieve_result, pexists] at hok ⊢
  rw [h _ (Or.inl (Or.inl rfl))]
  split at hok
  · cases hok
  · next hP =>
    rw [if_neg hP]
    exact (readEntry_congr_or h).elim (·.trans hok) fun h' => absurd (hok.symm.trans h') nofun

/-- The file system the body of a transaction on `k` runs on. -/
abbrev bodyFS (k : String) (fs : FS) : FS := apply (applyAll fs (openKey k fs)) (.create (pendingPath k))

theorem get_bodyFS {k : String} {p : Path} (h : ¬ Own k p) (fs : FS) : get (bodyFS k fs) p = get fs p := by
  rw [bodyFS, get_apply_ne fun e => h (Or.inr e.symm)]
  exact get_applyAll_ne (openKey_avoids (fun e => h (Or.inl e)) fs)

/-- The three ways a transaction goes: refused, body raised (marker left),
    body returned (marker removed last). -/
theorem txn_cases (k : String) (body : Prog Unit) (fs : FS) :
    (pexists fs (pendingPath k) = true ∧ txn k body fs = (openKey k fs, .error .pending)) ∨
    (pexists fs (pendingPath k) = false ∧ ∃ e, (body (bodyFS k fs)).2 = .error e ∧
      txn k body fs = (openKey k fs ++ .create (pendingPath k) :: (body (bodyFS k fs)).1, .error e)) ∨
    (pexists fs (pendingPath k) = false ∧ (body (bodyFS k fs)).2 = .ok () ∧
      txn k body fs = (openKey k fs ++ .create (pendingPath k) :: (body (bodyFS k fs)).1
        ++ [.unlink (pendingPath k)], .ok ())) := by
  unfold txn
  simp only [pexists_openKey]
  cases hP : pexists fs (pendingPath k) with
  | true => exact Or.inl ⟨rfl, rfl⟩
  | false =>
    right
    simp only [Bool.false_eq_true, if_false]
    generalize body (bodyFS k fs) = br
    obtain ⟨b, r⟩ := br
    cases r with
    | error e => exact Or.inl ⟨trivial, e, rfl, rfl⟩
    | ok u => exact Or.inr ⟨trivial, rfl, rfl⟩

theorem txn_snd (k : String) (body : Prog Unit) (fs : FS) :
    (txn k body fs).2 = if pexists fs (pendingPath k) then .error .pending else (body (bodyFS k fs)).2 := by
  rcases txn_cases k body fs with ⟨hP, e⟩ | ⟨hP, err, hb, e⟩ | ⟨hP, hb, e⟩ <;> rw [e, hP]
  · rfl
  · exact hb.symm
  · exact hb.symm

theorem txn_paths {k : String} {body : Prog Unit} {fs : FS} {o : Op} (h : o ∈ (txn k body fs).1) :
    Own k o.path ∨ o ∈ (body (bodyFS k fs)).1 := by
  have hopen : o ∈ openKey k fs → Own k o.path := fun h => Or.inl (openKey_paths h)
  have hP : Own k (pendingPath k) := Or.inr rfl
  rcases txn_cases k body fs with ⟨_, e⟩ | ⟨_, err, _, e⟩ | ⟨_, _, e⟩ <;>
    simp only [e, List.mem_append, List.mem_cons, List.not_mem_nil, or_false] at h
  · exact Or.inl (hopen h)
  · rcases h with h | rfl | h
    · exact Or.inl (hopen h)
    · exact Or.inl hP
    · exact Or.inr h
  · rcases h with (h | rfl | h) | rfl
    · exact Or.inl (hopen h)
    · exact Or.inl hP
    · exact Or.inr h
    · exact Or.inl hP

theorem txn_avoids {k : String} {body : Prog Unit} {fs : FS} {p : Path} (hp : ¬ Own k p)
    (hb : ∀ o ∈ (body (bodyFS k fs)).1, o.path ≠ p) : ∀ o ∈ (txn k body fs).1, o.path ≠ p := by
  intro o ho e
  rcases txn_paths ho with h | h
  · exact hp (e ▸ h)
  · exact hb o h e

theorem txn_crash_opening (k : String) (body : Prog Unit) (fs : FS) {j : Nat} (n : Option Nat)
    (hj : j ≤ (openKey k fs).length) : crash fs (txn k body fs).1 j n = crash fs (openKey k fs) j n := by
  rcases txn_cases k body fs with ⟨_, e⟩ | ⟨_, err, _, e⟩ | ⟨_, _, e⟩ <;> rw [e]
  · exact crash_append_cons_left (fun _ => rfl) hj
  · rw [List.append_assoc]
    exact crash_append_cons_left (fun _ => rfl) hj

/-- **A crash between the creation of the marker and its removal is a crash of
    the body**, run on the file system that holds the marker. -/
theorem txn_crash_body (k : String) (body : Prog Unit) (fs : FS) {j : Nat} (n : Option Nat)
    (hP : pexists fs (pendingPath k) = false) (h1 : (openKey k fs).length < j)
    (h2 : j < (txn k body fs).1.length ∨ (txn k body fs).2 ≠ .ok ()) :
    crash fs (txn k body fs).1 j n
      = crash (bodyFS k fs) (body (bodyFS k fs)).1 (j - (openKey k fs).length - 1) n := by
  rcases txn_cases k body fs with ⟨hP', _⟩ | ⟨_, err, _, e⟩ | ⟨_, _, e⟩
  · rw [hP] at hP'; cases hP'
  · rw [e]; exact crash_append_cons_right h1
  · rw [e] at h2 ⊢
    have hj : j ≤ (openKey k fs ++ .create (pendingPath k) :: (body (bodyFS k fs)).1).length := by
      rcases h2 with h2 | h2
      · simp only [List.length_append, List.length_cons, List.length_nil] at h2 ⊢; omega
      · exact absurd rfl h2
    rw [crash_append_cons_left (fun _ => rfl) hj]
    exact crash_append_cons_right h1

theorem txn_crash_pending {k : String} {body : Prog Unit}
    (havoid : ∀ fs o, o ∈ (body fs).1 → o.path ≠ pendingPath k) {fs : FS} {j : Nat} (n : Option Nat)
    (hP : pexists fs (pendingPath k) = false) (h1 : (openKey k fs).length < j)
    (h2 : j < (txn k body fs).1.length ∨ (txn k body fs).2 ≠ .ok ()) :
    pexists (crash fs (txn k body fs).1 j n) (pendingPath k) = true := by
  rw [txn_crash_body k body fs n hP h1 h2, pexists, get_crash_ne _ n (havoid _), bodyFS, apply, get_cons,
    if_pos rfl]
  rfl

theorem txn_ok_final {k : String} {body : Prog Unit} {fs : FS} (h : (txn k body fs).2 = .ok ()) :
    applyAll fs (txn k body fs).1
      = apply (applyAll (bodyFS k fs) (body (bodyFS k fs)).1) (.unlink (pendingPath k)) := by
  rcases txn_cases k body fs with ⟨_, e⟩ | ⟨_, err, _, e⟩ | ⟨_, _, e⟩ <;> rw [e] at h ⊢
  · cases h
  · cases h
  · simp only [applyAll, List.foldl_append, List.foldl_cons, List.foldl_nil]
    rfl

theorem txn_ok_no_pending (k : String) (body : Prog Unit) (fs : FS) (h : (txn k body fs).2 = .ok ()) :
    pexists (applyAll fs (txn k body fs).1) (pendingPath k) = false := by
  rw [txn_ok_final h, pexists, apply, get_filter, if_pos rfl]
  rfl

theorem andThen_fst {α β : Type} (a : Prog α) (b : α → Prog β) (fs : FS) :
    (a.andThen b fs).1 = match (a fs).2 with
      | .error _ => (a fs).1
      | .ok x => (a fs).1 ++ (b x (applyAll fs (a fs).1)).1 := by
  unfold Prog.andThen
  generalize a fs = r
  obtain ⟨o, x⟩ := r
  cases x <;> rfl

theorem andThen_snd {α β : Type} (a : Prog α) (b : α → Prog β) (fs : FS) :
    (a.andThen b fs).2 = match (a fs).2 with
      | .error e => .error e
      | .ok x => (b x (applyAll fs (a fs).1)).2 := by
  unfold Prog.andThen
  generalize a fs = r
  obtain ⟨o, x⟩ := r
  cases x <;> rfl

theorem mem_andThen {α β : Type} {a : Prog α} {b : α → Prog β} {fs : FS} {o : Op}
    (h : o ∈ (a.andThen b fs).1) : o ∈ (a fs).1 ∨ ∃ x, o ∈ (b x (applyAll fs (a fs).1)).1 := by
  rw [andThen_fst] at h
  split at h
  · exact Or.inl h
  · next x _ => exact (List.mem_append.mp h).imp_right fun h => ⟨x, h⟩

theorem foldl_max_le_iff {α : Type} {f : Nat → α → Nat} {w : α → Nat} (hf : ∀ acc x, f acc x = max acc (w x))
    (l : List α) (acc X : Nat) : l.foldl f acc ≤ X ↔ acc ≤ X ∧ ∀ x ∈ l, w x ≤ X := by
  induction l generalizing acc with
  | nil => simp
  | cons x xs ih => simp [ih, hf, Nat.max_le, and_assoc]

theorem mem_of_get_some {fs : FS} {p : Path} {n : Node} (h : get fs p = some n) : (p, n) ∈ fs := by
  induction fs with
  | nil => cases h
  | cons x xs ih =>
    rw [get_cons] at h
    split at h
    · next e => cases h; cases e; exact List.mem_cons_self
    · exact List.mem_cons_of_mem _ (ih h)

theorem mem_children {fs : FS} {d : Path} {x : Seg} : x ∈ children fs d ↔ ∃ nd, (d ++ [x], nd) ∈ fs := by
  simp only [children, List.mem_filterMap]
  constructor
  · rintro ⟨⟨p, nd⟩, hm, hp⟩
    cases hl : p.getLast? with
    | none => simp [hl] at hp
    | some y =>
      obtain ⟨ys, rfl⟩ := List.getLast?_eq_some_iff.mp hl
      simp only [hl, List.dropLast_concat] at hp
      split at hp
      · next hd => cases hp; exact ⟨nd, hd ▸ hm⟩
      · cases hp
  · rintro ⟨nd, hm⟩
    exact ⟨_, hm, by simp⟩

def csvNo : Seg → Nat
  | .csv n => n
  | _ => 0

theorem highest_le_iff (fs : FS) (X : Nat) : highest fs ≤ X ↔ ∀ x ∈ children fs datasetsDir, csvNo x ≤ X := by
  unfold highest
  rw [foldl_max_le_iff (w := csvNo) (fun acc x => by cases x <;> simp [csvNo])]
  simp

/-- A dataset file that exists has a number not above `highest`: the number
    `store_model` picks for a new dataset is fresh. -/
theorem le_highest {fs : FS} {n : Nat} (h : pexists fs (datasetsDir ++ [.csv n]) = true) : n ≤ highest fs := by
  obtain ⟨nd, hg⟩ := Option.isSome_iff_exists.mp h
  exact (highest_le_iff fs _).mp (Nat.le_refl _) (.csv n) (mem_children.mpr ⟨nd, mem_of_get_some hg⟩)

def stepR (acc : Nat) (pn : Path × Node) : Nat :=
  if datasetsDir.isPrefixOf pn.1 then
    match pn.1.getLast? with
    | some (.csv n) => max acc n
    | some (.dinfo n) => max acc n
    | _ => acc
  else acc

theorem highestR_eq (fs : FS) : highestR fs = fs.foldl stepR 0 := rfl

def noR (pn : Path × Node) : Nat :=
  if datasetsDir.isPrefixOf pn.1 then
    match pn.1.getLast? with
    | some (.csv n) => n
    | some (.dinfo n) => n
    | _ => 0
  else 0

theorem stepR_eq (acc : Nat) (pn : Path × Node) : stepR acc pn = max acc (noR pn) := by
  unfold stepR noR
  split
  · cases pn.1.getLast? with
    | none => simp
    | some x => cases x <;> simp
  · simp

/-- The repaired numbering is above the code's `highest`: still fresh. -/
theorem highest_le_highestR (fs : FS) : highest fs ≤ highestR fs := by
  rw [highest_le_iff]
  intro x hx
  cases x with
  | csv n =>
    obtain ⟨nd, hm⟩ := mem_children.mp hx
    have := ((foldl_max_le_iff stepR_eq fs 0 (highestR fs)).mp (Nat.le_refl _)).2 _ hm
    simpa [noR, csvNo, datasetsDir, dbRoot] using this
  | _ => exact Nat.zero_le _

/-- Footprint of a transaction body on key `key` that stores a model file
    `model.<ext>`, results, metadata, and at most one new dataset numbered `N`
    under the index of dataset hash `dh`. -/
def FootN (key ext dh : String) (N : Nat) (p : Path) : Prop :=
  p = modelPath key ext ∨ p = resultsPath key ∨ p = datasetsDir ∨ p = datasetsDir ++ [.s ".hash"] ∨
  p = hashDir dh ∨ p = hashDir dh ++ [.csv N] ∨
  p = datasetsDir ++ [.csv N] ∨ p = datasetsDir ++ [.dinfo N] ∨ p = metadataPath key

theorem FootN.zone {key ext dh : String} {N : Nat} {p : Path} (h : FootN key ext dh N p) :
    zone p = keyDir key ∨ zone p = datasetsDir := by
  rcases h with rfl | rfl | rfl | rfl | rfl | rfl | rfl | rfl | rfl
  · exact Or.inl rfl
  · exact Or.inl rfl
  · exact Or.inr rfl
  · exact Or.inr rfl
  · exact Or.inr rfl
  · exact Or.inr rfl
  · exact Or.inr rfl
  · exact Or.inr rfl
  · exact Or.inl rfl

theorem FootN.inDB {key ext dh : String} {N : Nat} {p : Path} (h : FootN key ext dh N p) : InDB p :=
  h.zone.elim (fun h => ⟨key, h⟩) fun h => ⟨".datasets", h⟩

theorem FootN.fileNo {key ext dh : String} {N n : Nat} {p : Path} (h : FootN key ext dh N p)
    (hn : fileNo p = some n) : n = N := by
  rcases h with rfl | rfl | rfl | rfl | rfl | rfl | rfl | rfl | rfl <;> cases hn <;> rfl

theorem FootN.ne_pending {key ext dh : String} {N : Nat} {p : Path} (h : FootN key ext dh N p) (k : String) :
    p ≠ pendingPath k := by
  have hh : ∀ a l, Seg.s ".hash" :: l ≠ .s ".pharmpy" :: a :=
    fun a l e => by injection e with e; exact absurd e (by decide)
  rcases h with rfl | rfl | rfl | rfl | rfl | rfl | rfl | rfl | rfl
  · exact ne_of_rel_ne nofun
  · exact resultsPath_ne_pending _ _
  · exact ne_of_rel_ne nofun
  · exact ne_of_rel_ne (hh _ _)
  · exact ne_of_rel_ne (hh _ _)
  · exact ne_of_rel_ne (hh _ _)
  · exact ne_of_rel_ne nofun
  · exact ne_of_rel_ne nofun
  · exact ne_of_rel_ne fun e => by
      injection e with _ e; injection e with e; injection e with e; exact absurd e (by decide)

theorem writeModel_paths {m : MDesc} {r : Option Nat} {o : Op} (h : o ∈ writeModel m r) :
    o.path = modelPath m.key m.ext := by
  simp only [writeModel, List.mem_cons, List.not_mem_nil, or_false] at h
  rcases h with rfl | rfl <;> rfl

/-- The operations of `store_model`'s branch for a dataset that is new to the
    database, the dataset numbered `n` (`highest + 1` in the code). -/
def freshOps (m : MDesc) (fs : FS) (n : Nat) : List Op :=
  mkdirP fs dbRoot [.s ".datasets", .s ".hash", .s m.dh]
    ++ [.create (hashDir m.dh ++ [.csv n]),
        .create (datasetsDir ++ [.csv n]), .write (datasetsDir ++ [.csv n]) (.full (.csv m.dh)),
        .create (datasetsDir ++ [.dinfo n]), .write (datasetsDir ++ [.dinfo n]) (.full (.dinfo m.di n))]
    ++ writeModel m (some n)

theorem freshOps_paths {m : MDesc} {fs : FS} {n : Nat} {o : Op} (h : o ∈ freshOps m fs n) :
    FootN m.key m.ext m.dh n o.path := by
  rcases List.mem_append.mp h with h | h
  · rcases List.mem_append.mp h with h | h
    · have := mkdirP_paths h
      simp only [ancestors, List.mem_cons, List.not_mem_nil, or_false] at this
      rcases this with e | e | e
      · exact Or.inr (Or.inr (Or.inl e))
      · exact Or.inr (Or.inr (Or.inr (Or.inl e)))
      · exact Or.inr (Or.inr (Or.inr (Or.inr (Or.inl e))))
    · simp only [List.mem_cons, List.not_mem_nil, or_false] at h
      rcases h with rfl | rfl | rfl | rfl | rfl
      · exact Or.inr (Or.inr (Or.inr (Or.inr (Or.inr (Or.inl rfl)))))
      · exact Or.inr (Or.inr (Or.inr (Or.inr (Or.inr (Or.inr (Or.inl rfl))))))
      · exact Or.inr (Or.inr (Or.inr (Or.inr (Or.inr (Or.inr (Or.inl rfl))))))
      · exact Or.inr (Or.inr (Or.inr (Or.inr (Or.inr (Or.inr (Or.inr (Or.inl rfl)))))))
      · exact Or.inr (Or.inr (Or.inr (Or.inr (Or.inr (Or.inr (Or.inr (Or.inl rfl)))))))
  · exact Or.inl (writeModel_paths h)

theorem get_mkdirP_ne {fs : FS} {base : Path} {rel : List Seg} {p : Path}
    (h : ∀ q ∈ ancestors base rel, q ≠ p) : get (applyAll fs (mkdirP fs base rel)) p = get fs p :=
  get_applyAll_ne fun _ ho => h _ (mkdirP_paths ho)

theorem get_freshOps (m : MDesc) (fs : FS) (n : Nat) (q : Path) :
    get (applyAll fs (freshOps m fs n)) q =
      if modelPath m.key m.ext = q then some (.file (.full (.model m.code (some n))))
      else if datasetsDir ++ [.dinfo n] = q then some (.file (.full (.dinfo m.di n)))
      else if datasetsDir ++ [.csv n] = q then some (.file (.full (.csv m.dh)))
      else if hashDir m.dh ++ [.csv n] = q then some (.file (.text []))
      else get (applyAll fs (mkdirP fs dbRoot [.s ".datasets", .s ".hash", .s m.dh])) q := by
  simp only [freshOps, writeModel, applyAll_append]
  simp only [applyAll, List.foldl_cons, List.foldl_nil, get_create_write]
  simp only [apply, get_cons]

theorem get_freshOps_key {m : MDesc} (hk : m.key ≠ ".datasets") (fs : FS) (n : Nat) {q : Path}
    (hq : zone q = keyDir m.key) :
    get (applyAll fs (freshOps m fs n)) q =
      if modelPath m.key m.ext = q then some (.file (.full (.model m.code (some n)))) else get fs q := by
  have hz : ∀ p, zone p = datasetsDir → p ≠ q :=
    fun p hp e => hk (keyDir_inj (hq.symm.trans (e ▸ hp) : keyDir m.key = keyDir ".datasets"))
  rw [get_freshOps, if_neg (hz (datasetsDir ++ [Seg.dinfo n]) rfl), if_neg (hz (datasetsDir ++ [Seg.csv n]) rfl),
    if_neg (hz (hashDir m.dh ++ [Seg.csv n]) rfl), get_mkdirP_ne]
  intro a ha
  simp only [ancestors, List.mem_cons, List.not_mem_nil, or_false] at ha
  rcases ha with rfl | rfl | rfl <;> exact hz _ rfl

theorem get_freshOps_data {m : MDesc} (hk : m.key ≠ ".datasets") (fs : FS) (n : Nat) :
    get (applyAll fs (freshOps m fs n)) (datasetsDir ++ [.csv n]) = some (.file (.full (.csv m.dh))) ∧
    get (applyAll fs (freshOps m fs n)) (datasetsDir ++ [.dinfo n]) = some (.file (.full (.dinfo m.di n))) := by
  have hz : ∀ q, zone q = datasetsDir → modelPath m.key m.ext ≠ q :=
    fun q hq e => hk (keyDir_inj ((congrArg zone e).trans hq : keyDir m.key = keyDir ".datasets"))
  have hd : datasetsDir ++ [.dinfo n] ≠ datasetsDir ++ [.csv n] := ne_of_rel_ne nofun
  constructor
  · rw [get_freshOps, if_neg (hz _ rfl), if_neg hd, if_pos rfl]
  · rw [get_freshOps, if_neg (hz _ rfl), if_pos rfl]

theorem storeShared_ops (m : MDesc) (fs : FS) :
    (storeShared m fs).1 = [] ∨ ∃ r, (storeShared m fs).1 = writeModel m r := by
  unfold storeShared
  split
  · exact Or.inl rfl
  · split
    · split
      · exact Or.inl rfl
      · exact Or.inr ⟨_, rfl⟩
    · exact Or.inl rfl

theorem storeModel_paths {m : MDesc} {fs : FS} {o : Op} (h : o ∈ (storeModel m fs).1) :
    FootN m.key m.ext m.dh (highest fs + 1) o.path := by
  unfold storeModel at h
  split at h
  · cases h
  · split at h
    · rcases storeShared_ops m fs with e | ⟨r, e⟩ <;> rw [e] at h
      · cases h
      · exact Or.inl (writeModel_paths h)
    · exact freshOps_paths h

theorem storeModelR_paths {m : MDesc} {fs : FS} {o : Op} (h : o ∈ (storeModelR m fs).1) :
    FootN m.key m.ext m.dh (highestR fs + 1) o.path := by
  unfold storeModelR at h
  split at h
  · cases h
  · split at h
    · exact Or.inl (writeModel_paths h)
    · exact freshOps_paths h

theorem storeResults_paths {m : MDesc} {fs : FS} {o : Op} (h : o ∈ (storeResults m fs).1) :
    o.path = resultsPath m.key := by
  unfold storeResults at h
  split at h
  · cases h
  · simp only [List.mem_cons, List.not_mem_nil, or_false] at h
    rcases h with rfl | rfl <;> rfl

theorem withResults_paths {m : MDesc} {N : Nat} {sm : Prog Unit} {fs : FS} {o : Op}
    (hsm : ∀ o ∈ (sm fs).1, FootN m.key m.ext m.dh N o.path)
    (h : o ∈ ((sm.andThen fun _ => storeResults m) fs).1) : FootN m.key m.ext m.dh N o.path := by
  rcases mem_andThen h with h | ⟨_, h⟩
  · exact hsm o h
  · exact Or.inr (Or.inl (storeResults_paths h))

theorem withResults_ok {m : MDesc} {sm : Prog Unit} {fs : FS} (h : (sm fs).2 = .ok ()) :
    ((sm.andThen fun _ => storeResults m) fs).2 = .ok () := by
  simp only [andThen_snd, h, storeResults]
  split <;> rfl

theorem storeEntryBody_fresh {m : MDesc} {fs : FS} (hM : isFile fs (modelPath m.key m.ext) = false)
    (hH : isDir fs (hashDir m.dh) = false) :
    storeEntryBody m fs = (freshOps m fs (highest fs + 1) ++ (storeResults m fs).1, .ok ()) := by
  have : storeModel m fs = (freshOps m fs (highest fs + 1), .ok ()) := by
    simp only [storeModel, hM, hH, Bool.false_eq_true, if_false]
    rfl
  simp only [storeEntryBody, Prog.andThen, this, storeResults]
  split <;> rfl

theorem get_storeResults (m : MDesc) (fs fs' : FS) :
    get (applyAll fs (storeResults m fs').1) (resultsPath m.key) = match m.res with
      | some r => some (.file (.full (.results r)))
      | none => get fs (resultsPath m.key) := by
  unfold storeResults
  cases m.res with
  | none => rfl
  | some r => exact (get_create_write ..).trans (if_pos rfl)

theorem storeEntryBody_paths {m : MDesc} {fs : FS} {o : Op} (h : o ∈ (storeEntryBody m fs).1) :
    FootN m.key m.ext m.dh (highest fs + 1) o.path :=
  withResults_paths (fun _ => storeModel_paths) h

theorem storeEntryBodyR_paths {m : MDesc} {fs : FS} {o : Op} (h : o ∈ (storeEntryBodyR m fs).1) :
    FootN m.key m.ext m.dh (highestR fs + 1) o.path :=
  withResults_paths (fun _ => storeModelR_paths) h

theorem storeEntryBody_avoids_pending (m : MDesc) (k : String) :
    ∀ fs o, o ∈ (storeEntryBody m fs).1 → o.path ≠ pendingPath k :=
  fun _ _ ho => (storeEntryBody_paths ho).ne_pending k

theorem storeModelR_ok (m : MDesc) (fs : FS) : (storeModelR m fs).2 = .ok () := by
  unfold storeModelR
  split
  · rfl
  · split <;> rfl

theorem storeEntryBodyR_ok (m : MDesc) (fs : FS) : (storeEntryBodyR m fs).2 = .ok () :=
  withResults_ok (storeModelR_ok m fs)

theorem storeKey_paths {name key : String} {fs : FS} {o : Op} (h : o ∈ (storeKey name key fs).1) :
    o.path = namePath name := by
  unfold storeKey at h
  cases hg : get fs (namePath name) with
  | none =>
    simp only [hg, Bool.false_eq_true, if_false] at h
    split at h
    · cases List.mem_singleton.mp h; rfl
    · cases h
  | some nd =>
    -- something is at `models/<name>`: whichever branch is taken issues nothing
    simp only [hg] at h
    repeat' split at h
    all_goals cases h

theorem storeAnnotation_paths {name descr : String} {fs : FS} {o : Op}
    (h : o ∈ (storeAnnotation name descr fs).1) : o.path = annotationsLock ∨ o.path = annotationsPath := by
  unfold storeAnnotation at h
  simp only at h
  split at h
  · simp only [List.mem_append, List.mem_cons, List.not_mem_nil, or_false] at h
    rcases h with h | rfl | rfl
    · exact Or.inl (touch_paths h)
    · exact Or.inr rfl
    · exact Or.inr rfl
  · exact Or.inl (touch_paths h)

theorem not_inDB_ctx {name : String} {p : Path}
    (h : p = namePath name ∨ p = annotationsLock ∨ p = annotationsPath) : ¬ InDB p := by
  rintro ⟨x, hx⟩
  rcases h with rfl | rfl | rfl <;>
    simp [zone, namePath, modelsDir, annotationsLock, annotationsPath, ctxRoot, keyDir, dbRoot] at hx

/-- The part of `_store_model` after the transaction. -/
theorem ctxTail_paths {name descr key : String} {fs : FS} {o : Op}
    (h : o ∈ (((storeKey name key).andThen fun _ => storeAnnotation name descr) fs).1) :
    o.path = namePath name ∨ o.path = annotationsLock ∨ o.path = annotationsPath := by
  rcases mem_andThen h with h | ⟨_, h⟩
  · exact Or.inl (storeKey_paths h)
  · exact Or.inr (storeAnnotation_paths h)

theorem ops_dbStoreEntry (m : MDesc) (fs : FS) : (Call.dbStoreEntry m).ops fs = (dbStoreEntry m fs).1 := by
  unfold Call.ops Call.run outOf
  simp only
  split <;> simp_all

end Pharmpy.C16
