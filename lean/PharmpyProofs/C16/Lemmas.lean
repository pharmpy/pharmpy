import PharmpyModel.C16.Workload
/-
  C16 — the file system: what an operation leaves alone, and crash states of
  concatenated operation lists.
-/
namespace Pharmpy.C16

theorem get_cons (fs : FS) (p q : Path) (n : Node) :
    get ((q, n) :: fs) p = if q = p then some n else get fs p := by
  by_cases h : q = p
  · simp [get, h]
  · have hb : (p == q) = false := by simpa using fun h' : p = q => h h'.symm
    simp [get, List.lookup_cons, hb, h]

theorem get_filter (fs : FS) (p q : Path) :
    get (fs.filter (fun pn => pn.1 ≠ q)) p = if q = p then none else get fs p := by
  induction fs with
  | nil => simp [get]
  | cons x xs ih =>
    by_cases ha : x.1 = q
    · rw [List.filter_cons_of_neg (by simpa using ha), ih, get_cons, ha]
      split <;> rfl
    · rw [List.filter_cons_of_pos (by simpa using ha), get_cons, get_cons, ih]
      split
      · next h => rw [if_neg (fun h' => ha (h.trans h'.symm))]
      · rfl

theorem get_apply_ne {fs : FS} {o : Op} {p : Path} (h : o.path ≠ p) : get (apply fs o) p = get fs p := by
  cases o <;> simp only [apply, get_cons, get_filter] <;> exact if_neg h

/-- Writing a file: `open(p, 'w')` truncates, then the content arrives. -/
theorem get_create_write (fs : FS) (p q : Path) (c : Content) :
    get (apply (apply fs (.create p)) (.write p c)) q = if p = q then some (.file c) else get fs q := by
  simp only [apply, get_cons]
  split <;> rfl

theorem applyAll_append (fs : FS) (a b : List Op) : applyAll fs (a ++ b) = applyAll (applyAll fs a) b :=
  List.foldl_append ..

theorem get_applyAll_ne {ops : List Op} {fs : FS} {p : Path} (h : ∀ o ∈ ops, o.path ≠ p) :
    get (applyAll fs ops) p = get fs p := by
  induction ops generalizing fs with
  | nil => rfl
  | cons o os ih =>
    exact (ih fun o' ho' => h o' (List.mem_cons_of_mem _ ho')).trans (get_apply_ne (h o List.mem_cons_self))

theorem tear_path {o o' : Op} {n : Nat} (h : o.tear n = some o') : o'.path = o.path := by
  cases o <;> cases h <;> rfl

theorem get_crash_ne {ops : List Op} {fs : FS} {p : Path} (k : Nat) (n : Option Nat)
    (h : ∀ o ∈ ops, o.path ≠ p) : get (crash fs ops k n) p = get fs p := by
  have htake : get (applyAll fs (ops.take k)) p = get fs p :=
    get_applyAll_ne fun o ho => h o (List.mem_of_mem_take ho)
  unfold crash
  split
  · next o n hk =>
    split
    · next o' ht =>
      rw [get_apply_ne (tear_path ht ▸ h o (List.mem_of_getElem? hk))]
      exact htake
    · exact htake
  · exact htake

theorem crash_of_length_le {ops : List Op} {fs : FS} {k : Nat} {n : Option Nat} (h : ops.length ≤ k) :
    crash fs ops k n = applyAll fs ops := by
  simp [crash, List.getElem?_eq_none h, List.take_of_length_le h]

theorem crash_append_left {a b : List Op} {fs : FS} {k : Nat} {n : Option Nat} (h : k < a.length) :
    crash fs (a ++ b) k n = crash fs a k n := by
  unfold crash
  rw [List.take_append_of_le_length (Nat.le_of_lt h), List.getElem?_append_left h]

theorem crash_append_right {a b : List Op} {fs : FS} {k : Nat} {n : Option Nat} (h : a.length ≤ k) :
    crash fs (a ++ b) k n = crash (applyAll fs a) b (k - a.length) n := by
  unfold crash
  rw [List.take_append, List.take_of_length_le h, List.getElem?_append_right h, applyAll_append]

/-- Up to and including the boundary, a crash does not see what follows `a`
    when that starts with an operation that cannot be torn. -/
theorem crash_append_cons_left {a b : List Op} {o : Op} {fs : FS} {k : Nat} {n : Option Nat}
    (ho : ∀ n, o.tear n = none) (h : k ≤ a.length) : crash fs (a ++ o :: b) k n = crash fs a k n := by
  rcases Nat.lt_or_eq_of_le h with h | rfl
  · exact crash_append_left h
  · rw [crash_append_right (Nat.le_refl _), Nat.sub_self, crash_of_length_le (Nat.le_refl _)]
    cases n <;> simp [crash, applyAll, ho]

theorem crash_append_cons_right {a b : List Op} {o : Op} {fs : FS} {k : Nat} {n : Option Nat}
    (h : a.length < k) :
    crash fs (a ++ o :: b) k n = crash (apply (applyAll fs a) o) b (k - a.length - 1) n := by
  rw [crash_append_right (Nat.le_of_lt h)]
  obtain ⟨j, hj⟩ : ∃ j, k - a.length = j + 1 := ⟨k - a.length - 1, by omega⟩
  rw [hj]
  rfl

theorem crashW_cons (c : Call) (w : List Call) (fs : FS) (j : Nat) (n : Option Nat) :
    crashW fs (c :: w) j n = if j < (c.ops fs).length then crash fs (c.ops fs) j n
      else crashW (applyAll fs (c.ops fs)) w (j - (c.ops fs).length) n := by
  unfold crashW
  rw [traceW]
  split
  · next h => exact crash_append_left h
  · next h => exact crash_append_right (Nat.le_of_not_lt h)

end Pharmpy.C16
