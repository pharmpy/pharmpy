import PharmpyProofs.C01.DesLemmas
/-
  `translateDes` models `to_compartmental_system` (compared with the code on every run);
  `sysEq` reads the system back the way `CompartmentalSystem.eqs` does;
  `desVal` is the literal NM-TRAN value of `DADT(c)`.
-/
namespace Pharmpy.C01.Des

/-- The accounting invariant of the triple loop: what has been moved into flows
    plus what is left in `neweqs` is the original right-hand side. -/
def Inv (p : Prog) (v amt : Nat → Rat) (s : St) : Prop :=
  s.rest.length = p.length ∧ ∀ c, flowPart s.flows v amt c + evalE v (eqnAt s.rest c) = desVal p v c

def safeVisit (p : Prog) (x : Nat × Nat × Term) : Bool :=
  match fromOf p x.2.2 with
  | none => true
  | some f => f == x.2.1 && f != x.1 && x.2.1 < p.length

/-- A visit moves `term` out of equation `i` into a flow `f → i` and adds it back to equation `f`;
    the two changes cancel because the rate `term / A_f` times `A_f` is the term again. -/
theorem step_preserves (p : Prog) (v amt : Nat → Rat) (hamt : ∀ c, amt c ≠ 0) (s : St) (x : Nat × Nat × Term)
    (hx : x.1 < p.length) (hs : safeVisit p x = true) (hinv : Inv p v amt s) : Inv p v amt (step p s x) := by
  obtain ⟨i, a, t⟩ := x
  obtain ⟨hlen, hval⟩ := hinv
  unfold step
  simp only
  cases hf : fromOf p t with
  | none => exact ⟨hlen, hval⟩
  | some f =>
    simp only [safeVisit, hf, Bool.and_eq_true, beq_iff_eq, bne_iff_ne, ne_eq, decide_eq_true_eq] at hs
    obtain ⟨⟨rfl, hfi⟩, han⟩ := hs
    have hi : i < s.rest.length := hlen ▸ hx
    have hf' : f < (modifyAt s.rest i (fun e => addTerm e (negT t))).length := by
      rw [length_modifyAt, hlen]; exact han
    rw [if_neg (by simpa using hfi)]
    refine ⟨by rw [length_modifyAt, length_modifyAt, hlen], fun c => ?_⟩
    have hrate : rate v amt ⟨t.mono, t.coef, f⟩ * amt f = termVal v t := div_mul_cancel₀ _ (hamt f)
    have hneg : termVal v (negT t) = -termVal v t := neg_mul _ _
    rw [flowPart_snoc, evalE_modifyAt_addTerm v t _ f c hf', evalE_modifyAt_addTerm v _ _ i c hi, hrate, hneg, ← hval c]
    by_cases h1 : i = c
    · by_cases h2 : f = c
      · exact absurd (h2.trans h1.symm) hfi
      · simp only [if_pos h1, if_neg h2]; ring
    · by_cases h2 : f = c
      · simp only [if_neg h1, if_pos h2]; ring
      · simp only [if_neg h1, if_neg h2]; ring

theorem foldl_preserves (p : Prog) (v amt : Nat → Rat) (hamt : ∀ c, amt c ≠ 0) :
    ∀ (l : List (Nat × Nat × Term)) (s : St), (∀ x ∈ l, x.1 < p.length ∧ safeVisit p x = true) →
      Inv p v amt s → Inv p v amt (l.foldl (step p) s) := by
  intro l
  induction l with
  | nil => intro s _ h; exact h
  | cons x r ih =>
    intro s hl h
    have hx := hl x (List.mem_cons_self ..)
    exact ih _ (fun y hy => hl y (List.mem_cons_of_mem _ hy)) (step_preserves p v amt hamt s x hx.1 hx.2 h)

/-- For every `$DES` program satisfying the decidable
    side-condition `DesSafe`, every valuation of the monomials and every non-zero
    assignment of the amounts, each equation of the compartmental system built by
    `to_compartmental_system` evaluates to the value of `DADT(c)` in the text. -/
theorem translate_des_sound (p : Prog) (v amt : Nat → Rat) (hamt : ∀ c, amt c ≠ 0)
    (hsafe : DesSafe p = true) (c : Nat) : sysEq (translateDes p) v amt c = desVal p v c := by
  have hinit : Inv p v amt ⟨[], p⟩ := ⟨rfl, fun c => by rw [flowPart_nil, zero_add]; rfl⟩
  have hall : ∀ x ∈ visits p, x.1 < p.length ∧ safeVisit p x = true := fun x hx =>
    ⟨mem_visits_lt p x hx, List.all_eq_true.mp hsafe x hx⟩
  obtain ⟨_, hval⟩ := foldl_preserves p v amt hamt (visits p) _ hall hinit
  -- outputs and inputs together are all the terms left in equation `c`
  have hout : ∀ o : Term, (-(termVal v o) / amt c) * amt c = -(termVal v o) := fun o =>
    div_mul_cancel₀ _ (hamt c)
  have := hval c
  rw [evalE, sumR_filter_split _ isPos (termVal v)] at this
  unfold sysEq translateDes outsOf inputsOf
  simp only [hout, sumR_map_neg]
  rw [← this, flowPart]
  ring

/-- Known class `des-amount-product-flow`: a
    second-order transfer `K·A(1)·A(2)` from compartment 1 to compartment 2 is visited
    once per amount; the system's equation for compartment 2 is not `DADT(2)`. -/
theorem translate_des_unsound_witness :
    let p : Prog := [[⟨0, -1, [0, 1]⟩], [⟨0, 1, [0, 1]⟩]]
    DesSafe p = false ∧ desUnsafe p = ["multi-amount"] ∧
    sysEq (translateDes p) (fun _ => 6) (fun c => if c = 0 then 2 else 3) 1 ≠ desVal p (fun _ => 6) 1 := by
  decide +kernel

/-- non-vacuity: two parallel terms for the same ordered pair plus an
    elimination are `DesSafe`, and both terms end up in the flow 0 → 1. -/
example :
    let p : Prog := [[⟨0, -1, [0]⟩, ⟨1, -1, [0]⟩, ⟨2, -1, [0]⟩, ⟨3, 1, [1]⟩], [⟨1, 1, [0]⟩, ⟨2, 1, [0]⟩, ⟨3, -1, [1]⟩]]
    DesSafe p = true ∧ ((translateDes p).flows.filter (fun f => f.1 == 0 && f.2.1 == 1)).length = 2 := by
  decide +kernel

end Pharmpy.C01.Des
