import PharmpyProofs.C01.ThetaLemmas
namespace Pharmpy.C01.Theta

variable {I B F : Type}

/-- `comment_names` returns exactly one entry per THETA the record declares, whatever comments
the record carries (the list `parse_parameters` enumerates). -/
theorem comment_names_length (evs : List Ev) (h : ∀ m ∈ mults evs, 1 ≤ m) :
    (commentNames evs).length = (mults evs).sum :=
  commentNames_length evs h

/-- The model object gets exactly the THETAs NM-TRAN defines for the records — `n` consecutive
parameters with the item's initial value, bounds and fixedness for `(value)xn` — in order,
independently of the comments. -/
theorem theta_parameters_correct (recs : List (Rec I B F))
    (hwf : ∀ r ∈ recs, r.wf) (hpos : ∀ r ∈ recs, ∀ it ∈ r.items, 1 ≤ it.n) :
    readThetas recs = some (specThetas recs) :=
  readThetas_spec recs hwf hpos

/-- The model object gets as many THETAs as the multiplicities `n` of the records' `(value)xn` items add up to. -/
theorem theta_count (recs : List (Rec I B F))
    (hwf : ∀ r ∈ recs, r.wf) (hpos : ∀ r ∈ recs, ∀ it ∈ r.items, 1 ≤ it.n) :
    (readThetas recs).map List.length = some ((recs.flatMap (fun r => r.items.map (·.n))).sum) := by
  rw [theta_parameters_correct recs hwf hpos, specThetas_eq, Option.map_some, specItems, length_flatMap_replicate, allItems,
    List.map_flatMap]

/-- A comment after the first of the repeated THETAs names that one; the others keep `None`. -/
theorem comment_names_repeated (n : Nat) (nm : Option String) :
    commentNames [.theta (n + 1), .comment nm] = nm :: List.replicate n none := by
  simp [commentNames, step, St.init, pad]

/-- The multiplicity side-condition is needed: `(value)x0` with a comment yields a name for a
THETA that does not exist. -/
theorem comment_names_x0_witness :
    (commentNames [.theta 0, .comment (some "A")]).length ≠ (mults [.theta 0, .comment (some "A")]).sum := by
  decide +kernel

/-- Non-vacuity: `(0,0.5,1)x2 ; fractions` / `(-10,2,10) ; slope` / `(0,7) ; baseline`. -/
example :
    readThetas (I := Nat) (B := Unit) (F := Unit)
      [⟨[⟨0, (), (), 2⟩], [.theta 2, .comment (some "fractions")]⟩,
       ⟨[⟨1, (), (), 1⟩], [.theta 1, .comment (some "slope")]⟩,
       ⟨[⟨2, (), (), 1⟩], [.theta 1, .comment (some "baseline")]⟩]
      = some [(0, (), ()), (0, (), ()), (1, (), ()), (2, (), ())] := by decide +kernel

example : commentNames [.comment (some "pre"), .theta 3, .comment (some "a"), .comment none, .theta 1, .theta 1,
    .comment (some "c"), .comment (some "d")] = [some "a", none, none, none, some "c"] := by decide +kernel

end Pharmpy.C01.Theta
