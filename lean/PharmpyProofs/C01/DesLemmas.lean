import PharmpyModel.C01.Des
import Mathlib.Tactic.Ring
/-
  For `translate_des_sound`.  Conditions are oriented `index = queried compartment`
  throughout, so that the contributions of one step cancel termwise.
-/
namespace Pharmpy.C01.Des

theorem sumR_nil : sumR [] = 0 := rfl
theorem sumR_cons (a : Rat) (l : List Rat) : sumR (a :: l) = a + sumR l := rfl

theorem sumR_append (l₁ l₂ : List Rat) : sumR (l₁ ++ l₂) = sumR l₁ + sumR l₂ := by
  induction l₁ with
  | nil => rw [List.nil_append, sumR_nil, zero_add]
  | cons a l ih => rw [List.cons_append, sumR_cons, sumR_cons, ih, add_assoc]

theorem sumR_map_neg {β : Type} (l : List β) (g : β → Rat) :
    sumR (l.map (fun o => -(g o))) = -sumR (l.map g) := by
  induction l with
  | nil => rw [List.map_nil, List.map_nil, sumR_nil, neg_zero]
  | cons a l ih => rw [List.map_cons, List.map_cons, sumR_cons, sumR_cons, ih, neg_add]

theorem sumR_filter_split {β : Type} (l : List β) (P : β → Bool) (g : β → Rat) :
    sumR (l.map g) = sumR ((l.filter P).map g) + sumR ((l.filter (fun x => !P x)).map g) := by
  induction l with
  | nil => exact (add_zero _).symm
  | cons a l ih =>
    cases h : P a
    · rw [List.filter_cons_of_neg (by simp [h]), List.filter_cons_of_pos (by simp [h]), List.map_cons, List.map_cons,
        sumR_cons, sumR_cons, ih]; ring
    · rw [List.filter_cons_of_pos h, List.filter_cons_of_neg (by simp [h]), List.map_cons, List.map_cons,
        sumR_cons, sumR_cons, ih]; ring

theorem sumR_filter_snoc {β : Type} (l : List β) (a : β) (P : β → Bool) (g : β → Rat) :
    sumR (((l ++ [a]).filter P).map g) = sumR ((l.filter P).map g) + if P a = true then g a else 0 := by
  rw [List.filter_append, List.map_append, sumR_append]
  cases h : P a
  · rw [List.filter_cons_of_neg (by simp [h]), if_neg (by simp)]; rfl
  · rw [List.filter_cons_of_pos h, if_pos rfl]
    exact congrArg _ (add_zero (g a))

def evalE (v : Nat → Rat) (e : Eqn) : Rat := sumR (e.map (termVal v))

theorem evalE_cons (v : Nat → Rat) (u : Term) (e : Eqn) : evalE v (u :: e) = termVal v u + evalE v e := rfl

theorem evalE_addTerm (v : Nat → Rat) (t : Term) : ∀ e : Eqn, evalE v (addTerm e t) = evalE v e + termVal v t
  | [] => by rw [addTerm, evalE_cons, add_comm]
  | u :: r => by
    have merge : u.mono = t.mono → termVal v u + termVal v t = (u.coef + t.coef) * v u.mono := fun hm => by
      rw [termVal, termVal, hm, add_mul]
    unfold addTerm
    split
    next hm =>
      have hm' : u.mono = t.mono := eq_of_beq hm
      split
      next hz =>
        have hz' : u.coef + t.coef = 0 := eq_of_beq hz
        rw [evalE_cons, add_right_comm, merge hm', hz', zero_mul, zero_add]
      next =>
        rw [evalE_cons, evalE_cons, add_right_comm, merge hm']; rfl
    next => rw [evalE_cons, evalE_cons, evalE_addTerm v t r, add_assoc]

theorem length_modifyAt (f : Eqn → Eqn) : ∀ (l : List Eqn) (i : Nat), (modifyAt l i f).length = l.length
  | [], _ => rfl
  | _ :: _, 0 => rfl
  | _ :: r, i + 1 => congrArg (· + 1) (length_modifyAt f r i)

theorem eqnAt_modifyAt (f : Eqn → Eqn) : ∀ (l : List Eqn) (i c : Nat), i < l.length →
    eqnAt (modifyAt l i f) c = if i = c then f (eqnAt l c) else eqnAt l c
  | _ :: _, 0, 0, _ => rfl
  | _ :: _, 0, _ + 1, _ => rfl
  | _ :: _, _ + 1, 0, _ => rfl
  | _ :: r, i + 1, c + 1, h => by
    simp only [Nat.add_right_cancel_iff]
    exact eqnAt_modifyAt f r i c (Nat.lt_of_succ_lt_succ h)

theorem evalE_modifyAt_addTerm (v : Nat → Rat) (t : Term) (l : List Eqn) (i c : Nat) (h : i < l.length) :
    evalE v (eqnAt (modifyAt l i (fun e => addTerm e t)) c)
      = evalE v (eqnAt l c) + if i = c then termVal v t else 0 := by
  rw [eqnAt_modifyAt _ l i c h]
  split
  · exact evalE_addTerm v t _
  · exact (add_zero _).symm

/-- inflows − outflows of compartment `c` -/
def flowPart (fl : List (Nat × Nat × Contrib)) (v amt : Nat → Rat) (c : Nat) : Rat :=
  sumR ((fl.filter (fun f => f.2.1 == c)).map (fun f => rate v amt f.2.2 * amt f.1))
  - sumR ((fl.filter (fun f => f.1 == c)).map (fun f => rate v amt f.2.2 * amt c))

theorem flowPart_nil (v amt : Nat → Rat) (c : Nat) : flowPart [] v amt c = 0 := sub_self _

theorem flowPart_snoc (fl : List (Nat × Nat × Contrib)) (f i : Nat) (k : Contrib) (v amt : Nat → Rat) (c : Nat) :
    flowPart (fl ++ [(f, i, k)]) v amt c
      = flowPart fl v amt c + (if i = c then rate v amt k * amt f else 0) - (if f = c then rate v amt k * amt f else 0) := by
  unfold flowPart
  rw [sumR_filter_snoc, sumR_filter_snoc]
  simp only [beq_iff_eq]
  have : (if f = c then rate v amt k * amt c else 0) = if f = c then rate v amt k * amt f else 0 := by
    split
    next h => rw [h]
    next => rfl
  rw [this]; ring

theorem mem_visits_lt (p : Prog) (x : Nat × Nat × Term) (h : x ∈ visits p) : x.1 < p.length := by
  simp only [visits, List.mem_flatMap, List.mem_range, List.mem_map] at h
  obtain ⟨i, hi, a, _, t, _, rfl⟩ := h
  exact hi

end Pharmpy.C01.Des
