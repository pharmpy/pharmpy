import PharmpyModel.C01.Spec
/-
  Behind `translate_sound_partial`: assignments with distinct targets that are not read act
  simultaneously, on both sides; the piecewise generated for a symbol evaluates to the first
  branch whose condition holds (`eval_pairsFor`); hence `block_sound` under `BlOK`.
-/
namespace Pharmpy.C01
open Pharmpy Expr

variable {α : Type}

theorem eval_congr (I : Interp α) (ρ ρ' : Env α) :
    ∀ e : Expr, (∀ y ∈ e.syms, ρ y = ρ' y) → eval I ρ e = eval I ρ' e
  | .lit _, _ => rfl
  | .sym s, h => h s (List.mem_singleton.mpr rfl)
  | .f1 _ a, h => by rw [eval, eval, eval_congr I ρ ρ' a h]
  | .f2 _ a b, h => by
    rw [eval, eval, eval_congr I ρ ρ' a fun y hy => h y (List.mem_append_left _ hy),
      eval_congr I ρ ρ' b fun y hy => h y (List.mem_append_right _ hy)]
  | .f3 _ a b c, h => by
    rw [eval, eval, eval_congr I ρ ρ' a fun y hy => h y (List.mem_append_left _ (List.mem_append_left _ hy)),
      eval_congr I ρ ρ' b fun y hy => h y (List.mem_append_left _ (List.mem_append_right _ hy)),
      eval_congr I ρ ρ' c fun y hy => h y (List.mem_append_right _ hy)]

theorem eval_set_of_not_mem (I : Interp α) (ρ : Env α) (x : Sym) (v : α) (e : Expr)
    (h : x ∉ e.syms) : eval I (ρ.set x v) e = eval I ρ e :=
  eval_congr I _ _ e fun y hy => if_neg fun hyx : y = x => h (hyx ▸ hy)

theorem run_cons (I : Interp α) (s : Stmt) (ss : List Stmt) (ρ : Env α) :
    run I (s :: ss) ρ = run I ss (s.exec I ρ) := rfl

theorem run_append (I : Interp α) (ss ts : List Stmt) (ρ : Env α) :
    run I (ss ++ ts) ρ = run I ts (run I ss ρ) := List.foldl_append

theorem run_map_assign (I : Interp α) (E : Sym → Expr) :
    ∀ (xs : List Sym) (ρ : Env α), xs.Nodup →
      (∀ x ∈ xs, ∀ y ∈ (E x).syms, y ∈ xs → y = x) →
      run I (xs.map (fun x => Stmt.assign x (E x))) ρ
        = fun y => if y ∈ xs then (E y).eval I ρ else ρ y
  | [], ρ, _, _ => rfl
  | x :: xs, ρ, hnd, hrd => by
    obtain ⟨hx, hnd'⟩ := List.nodup_cons.mp hnd
    rw [List.map_cons, run_cons, run_map_assign I E xs _ hnd' fun z hz y hy hyxs =>
      hrd z (List.mem_cons_of_mem _ hz) y hy (List.mem_cons_of_mem _ hyxs)]
    funext y
    by_cases hy : y ∈ xs
    · -- a later target does not read `x`, so its value is the one before `x` was set
      have hxy : x ∉ (E y).syms := fun hmem =>
        hx (hrd y (List.mem_cons_of_mem _ hy) x hmem List.mem_cons_self ▸ hy)
      rw [if_pos hy, if_pos (List.mem_cons_of_mem _ hy)]
      exact eval_set_of_not_mem I ρ x _ (E y) hxy
    · rw [if_neg hy]
      by_cases hyx : y = x
      · rw [if_pos (hyx ▸ List.mem_cons_self), hyx]; exact if_pos rfl
      · rw [if_neg (fun h => (List.mem_cons.mp h).elim hyx hy)]; exact if_neg hyx

def execAsgs (I : Interp α) (a : List (Sym × Expr)) (ρ : Env α) : Env α :=
  a.foldl (fun ρ p => ρ.set p.1 (p.2.eval I ρ)) ρ

def look (y : Sym) : List (Sym × Expr) → Option Expr
  | [] => none
  | (x, e) :: r => if x = y then some e else look y r

theorem look_none_iff (y : Sym) (a : List (Sym × Expr)) : look y a = none ↔ y ∉ a.map (fun p => p.1) := by
  fun_induction look y a with
  | case1 => simp
  | case2 e r => simp
  | case3 x e r hx ih => simp [ih, Ne.symm hx]

theorem look_some_mem (y : Sym) (e : Expr) (a : List (Sym × Expr)) : look y a = some e → (y, e) ∈ a := by
  fun_induction look y a with
  | case1 => exact fun h => nomatch h
  | case2 e' r => intro h; cases h; exact List.mem_cons_self
  | case3 x e' r hx ih => exact fun h => List.mem_cons_of_mem _ (ih h)

theorem execBody_plain (S : Sem α) (O : Opaque α) :
    ∀ (b : List Item) (ρ : Env α), b.all isPlain = true →
      execBody S O b ρ = execAsgs S.I (directAsgs b) ρ
  | [], _, _ => rfl
  | .asg _ _ :: r, _, h => execBody_plain S O r _ h
  | .lif _ _ _ :: _, _, h => (Bool.false_ne_true h).elim
  | .opq _ :: _, _, h => (Bool.false_ne_true h).elim

theorem execAsgs_simul (I : Interp α) (A : List Sym) :
    ∀ (a : List (Sym × Expr)) (ρ : Env α),
      (a.map (fun p => p.1)).Nodup →
      (∀ p ∈ a, p.1 ∈ A) →
      (∀ p ∈ a, ∀ z ∈ p.2.syms, z ∉ A) →
      execAsgs I a ρ = fun y => match look y a with
                                 | some e => e.eval I ρ
                                 | none => ρ y
  | [], _, _, _, _ => rfl
  | (x, e) :: r, ρ, hnd, hA, hrd => by
    obtain ⟨hxr, hnd'⟩ := List.nodup_cons.mp hnd
    have hxA : x ∈ A := hA (x, e) List.mem_cons_self
    rw [show execAsgs I ((x, e) :: r) ρ = execAsgs I r (ρ.set x (e.eval I ρ)) from rfl,
      execAsgs_simul I A r _ hnd' (fun p hp => hA p (List.mem_cons_of_mem _ hp))
        fun p hp => hrd p (List.mem_cons_of_mem _ hp)]
    funext y
    rw [look]
    by_cases hxy : x = y
    · rw [if_pos hxy, ← hxy, (look_none_iff x r).mpr hxr]
      exact if_pos rfl
    · rw [if_neg hxy]
      cases hl : look y r with
      | none => exact if_neg fun h => hxy h.symm
      | some e' =>
        -- `e'` is a right-hand side of `r`, so it does not read `x ∈ A`
        exact eval_set_of_not_mem I ρ x _ e' fun hx =>
          hrd (y, e') (List.mem_cons_of_mem _ (look_some_mem y e' r hl)) x hx hxA

def mkPwD (d : Expr) : List (Expr × Option Expr) → Expr
  | [] => d
  | (e, none) :: _ => e
  | (e, some c) :: rest => .f3 "ite" c e (mkPwD d rest)

theorem mkPw_eq_mkPwD : ∀ ps : List (Expr × Option Expr), mkPw ps = mkPwD nanE ps
  | [] => rfl
  | (_, none) :: _ => rfl
  | (e, some c) :: r => congrArg (Expr.f3 "ite" c e) (mkPw_eq_mkPwD r)

theorem mkPw_append_default (d : Expr) : ∀ ps : List (Expr × Option Expr), mkPw (ps ++ [(d, none)]) = mkPwD d ps
  | [] => rfl
  | (_, none) :: _ => rfl
  | (e, some c) :: r => congrArg (Expr.f3 "ite" c e) (mkPw_append_default d r)

/-- A chain that ends in a `True` condition never reaches its default. -/
theorem mkPwD_lastIsTrue (d d' : Expr) :
    ∀ ps : List (Expr × Option Expr), lastIsTrue ps = true → mkPwD d ps = mkPwD d' ps
  | [], h => (Bool.false_ne_true h).elim
  | (_, none) :: _, _ => rfl
  | [(_, some _)], h => (Bool.false_ne_true h).elim
  | (e, some c) :: q :: r, h =>
    congrArg (Expr.f3 "ite" c e) (mkPwD_lastIsTrue d d' (q :: r) (by rwa [lastIsTrue, List.getLast?_cons_cons] at h))

def dfl (seen : List Sym) (x : Sym) : Expr := if seen.contains x then .sym x else nanE

theorem blockExpr_eq (seen : List Sym) (bl : Blocks) (x : Sym) :
    blockExpr seen bl x = mkPwD (dfl seen x) (pairsFor x bl) := by
  unfold blockExpr dfl
  cases hl : lastIsTrue (pairsFor x bl)
  · cases hs : seen.contains x
    · simp only [hl, Bool.not_false, Bool.and_false, Bool.false_eq_true, if_false]
      exact mkPw_eq_mkPwD _
    · simp only [hl, Bool.not_false, Bool.and_self, if_true]
      exact mkPw_append_default _ _
  · simp only [hl, Bool.not_true, Bool.false_and, Bool.false_eq_true, if_false]
    exact (mkPw_eq_mkPwD _).trans (mkPwD_lastIsTrue _ _ _ hl)

def holds (S : Sem α) (ρ : Env α) : Option Expr → Bool
  | none => true
  | some c => S.truth (c.eval S.I ρ)

def pick (S : Sem α) (ρ : Env α) : Blocks → Option (List (Sym × Expr))
  | [] => none
  | (l, a) :: r => if holds S ρ l then some a else pick S ρ r

def blockPairs (x : Sym) (l : Option Expr) (a : List (Sym × Expr)) : List (Expr × Option Expr) :=
  (a.filter (fun p => p.1 == x)).map (fun p => (p.2, l))

/-- The pairs one block contributes for `x` all carry the block's condition: only the first matters. -/
theorem eval_blockPairs (S : Sem α) (ρ : Env α) (x : Sym) (l : Option Expr) (d : Expr)
    (P : List (Expr × Option Expr)) :
    ∀ a : List (Sym × Expr),
      eval S.I ρ (mkPwD d (blockPairs x l a ++ P)) =
        if holds S ρ l then
          match look x a with
          | some e => eval S.I ρ e
          | none => eval S.I ρ (mkPwD d P)
        else eval S.I ρ (mkPwD d P)
  | [] => (ite_self _).symm
  | (z, e) :: r => by
    by_cases hz : z = x
    · rw [show blockPairs x l ((z, e) :: r) = (e, l) :: blockPairs x l r by
        simp only [blockPairs, List.filter_cons, hz, BEq.rfl, if_true, List.map_cons], look, if_pos hz]
      cases l with
      | none => rfl
      | some c =>
        rw [List.cons_append, mkPwD, eval, S.ite_law, eval_blockPairs S ρ x (some c) d P r]
        cases hc : S.truth (eval S.I ρ c)
        · simp only [holds, hc, Bool.false_eq_true, if_false]
        · simp only [holds, hc, if_true]
    · rw [show blockPairs x l ((z, e) :: r) = blockPairs x l r by
        simp only [blockPairs, List.filter_cons, beq_false_of_ne hz, Bool.false_eq_true, if_false], look, if_neg hz]
      exact eval_blockPairs S ρ x l d P r

theorem pairsFor_nil_of_absent (x : Sym) :
    ∀ bl : Blocks, (∀ b ∈ bl, x ∉ b.2.map (fun p => p.1)) → pairsFor x bl = []
  | [], _ => rfl
  | (l, a) :: r, h => by
    have ha : a.filter (fun p => p.1 == x) = [] :=
      List.filter_eq_nil_iff.mpr fun p hp hpx =>
        h (l, a) List.mem_cons_self (List.mem_map.mpr ⟨p, hp, beq_iff_eq.mp hpx⟩)
    rw [pairsFor, ha, pairsFor_nil_of_absent x r fun b hb => h b (List.mem_cons_of_mem _ hb)]
    rfl

def symsOf (bl : Blocks) : List (List Sym) := bl.map (fun b => b.2.map (fun p => p.1))

theorem eval_pairsFor (S : Sem α) (ρ : Env α) (x : Sym) (d : Expr) (bl : Blocks) :
    prefixClosed (symsOf bl) = true →
      eval S.I ρ (mkPwD d (pairsFor x bl)) =
        match pick S ρ bl with
        | some a => (match look x a with
                     | some e => eval S.I ρ e
                     | none => eval S.I ρ d)
        | none => eval S.I ρ d := by
  fun_induction pick S ρ bl with
  | case1 => exact fun _ => rfl
  | case2 l a r hh =>
    intro hp
    rw [show pairsFor x ((l, a) :: r) = blockPairs x l a ++ pairsFor x r from rfl, eval_blockPairs, if_pos hh]
    show _ = match look x a with
             | some e => eval S.I ρ e
             | none => eval S.I ρ d
    cases hl : look x a with
    | some e => rfl
    | none =>
      -- taken, but it does not assign `x`: then no later branch does, and the chain is empty
      have hp1 := ((Bool.and_eq_true _ _).mp (show (_ && prefixClosed (symsOf r)) = true from hp)).1
      rw [pairsFor_nil_of_absent x r fun b hb hx =>
        (look_none_iff x a).mp hl (by
          simpa using List.all_eq_true.mp (List.all_eq_true.mp hp1 _ (List.mem_map_of_mem hb)) x hx)]
      rfl
  | case3 l a r hh ih =>
    intro hp
    rw [show pairsFor x ((l, a) :: r) = blockPairs x l a ++ pairsFor x r from rfl, eval_blockPairs, if_neg hh]
    exact ih ((Bool.and_eq_true _ _).mp (show (_ && prefixClosed (symsOf r)) = true from hp)).2

def condSyms : Option Expr → List Sym
  | some c => c.syms
  | none => []

def blReads (bl : Blocks) : List Sym :=
  bl.flatMap (fun b => condSyms b.1 ++ b.2.flatMap (fun p => p.2.syms))

theorem syms_mkPwD (d : Expr) (y : Sym) :
    ∀ ps : List (Expr × Option Expr), y ∈ (mkPwD d ps).syms →
      y ∈ d.syms ∨ ∃ p ∈ ps, y ∈ condSyms p.2 ++ p.1.syms := by
  intro ps
  induction ps with
  | nil => exact Or.inl
  | cons p r ih =>
    intro hy
    obtain ⟨e, l⟩ := p
    cases l with
    | none => exact Or.inr ⟨_, List.mem_cons_self, hy⟩
    | some c =>
      rcases List.mem_append.mp (show y ∈ (c.syms ++ e.syms) ++ (mkPwD d r).syms from hy) with h | h
      · exact Or.inr ⟨_, List.mem_cons_self, h⟩
      · exact (ih h).imp_right fun ⟨p, hp, h⟩ => ⟨p, List.mem_cons_of_mem _ hp, h⟩

theorem pairsFor_reads (x y : Sym) (p : Expr × Option Expr) (hy : y ∈ condSyms p.2 ++ p.1.syms) :
    ∀ bl : Blocks, p ∈ pairsFor x bl → y ∈ blReads bl := by
  intro bl
  induction bl with
  | nil => exact fun hp => nomatch hp
  | cons b r ih =>
    intro hp
    rw [blReads, List.flatMap_cons, List.mem_append]
    rcases List.mem_append.mp (show p ∈ _ ++ pairsFor x r from hp) with hp | hp
    · obtain ⟨q, hq, rfl⟩ := List.mem_map.mp hp
      exact Or.inl (List.mem_append.mpr ((List.mem_append.mp hy).imp_right fun h =>
        List.mem_flatMap.mpr ⟨q, (List.mem_filter.mp hq).1, h⟩))
    · exact Or.inr (ih hp)

theorem syms_nanE : nanE.syms = [] := rfl

theorem syms_blockExpr (seen : List Sym) (bl : Blocks) (x y : Sym)
    (hy : y ∈ (blockExpr seen bl x).syms) : y = x ∨ y ∈ blReads bl := by
  rw [blockExpr_eq] at hy
  rcases syms_mkPwD _ y _ hy with h | ⟨p, hp, h⟩
  · rw [dfl] at h
    split at h
    · exact Or.inl (List.mem_singleton.mp h)
    · exact nomatch h
  · exact Or.inr (pairsFor_reads x y p h bl hp)

theorem mem_dedup (y : Sym) (l : List Sym) : y ∈ dedup l ↔ y ∈ l := by
  induction l with
  | nil => rfl
  | cons x xs ih => by_cases h : y = x <;> simp [dedup, List.mem_filter, ih, h]

theorem dedup_nodup : ∀ l : List Sym, (dedup l).Nodup := by
  intro l
  induction l with
  | nil => simp [dedup]
  | cons x xs ih =>
    simp only [dedup, List.nodup_cons, List.mem_filter]
    exact ⟨by simp, ih.filter _⟩

theorem mem_blockSymbols (bl : Blocks) (x : Sym) :
    x ∈ blockSymbols bl ↔ ∃ b ∈ bl, x ∈ b.2.map (fun p => p.1) := by
  rw [blockSymbols, mem_dedup, List.mem_flatMap]

theorem blockSymbols_nodup (bl : Blocks) : (blockSymbols bl).Nodup := dedup_nodup _

theorem nodupB_iff : ∀ l : List Sym, nodupB l = true ↔ l.Nodup := by
  intro l
  induction l with
  | nil => simp [nodupB]
  | cons x xs ih => simp [nodupB, ih]

theorem pick_mem (S : Sem α) (ρ : Env α) (bl : Blocks) (a : List (Sym × Expr)) :
    pick S ρ bl = some a → ∃ l, (l, a) ∈ bl := by
  fun_induction pick S ρ bl with
  | case1 => exact fun h => nomatch h
  | case2 l a' r hh => intro h; cases h; exact ⟨l, List.mem_cons_self⟩
  | case3 l a' r hh ih => exact fun h => (ih h).imp fun _ hl => List.mem_cons_of_mem _ hl

/-- Without a branch gap every branch assigns what the ELSE branch does. -/
theorem pick_covers (S : Sem α) (ρ : Env α) (y : Sym) (aL : List (Sym × Expr))
    (hy : y ∈ aL.map (fun p => p.1)) :
    ∀ bl : Blocks, prefixClosed (symsOf bl) = true → bl.getLast? = some (none, aL) →
      ∃ a, pick S ρ bl = some a ∧ y ∈ a.map (fun p => p.1) := by
  intro bl
  induction bl with
  | nil => intro _ h; cases h
  | cons b r ih =>
    intro hp hl
    obtain ⟨l, a⟩ := b
    cases r with
    | nil =>
      rw [List.getLast?_singleton, Option.some.injEq, Prod.mk.injEq] at hl
      rw [hl.1, hl.2]
      exact ⟨aL, if_pos rfl, hy⟩
    | cons q r' =>
      obtain ⟨hp1, hp2⟩ := (Bool.and_eq_true _ _).mp (show (_ && prefixClosed (symsOf (q :: r'))) = true from hp)
      rw [List.getLast?_cons_cons] at hl
      cases hh : holds S ρ l
      · obtain ⟨a', h1, h2⟩ := ih hp2 hl
        exact ⟨a', by rw [pick, hh]; exact h1, h2⟩
      · refine ⟨a, by rw [pick, hh]; rfl, List.contains_iff_mem.mp ?_⟩
        exact List.all_eq_true.mp (List.all_eq_true.mp hp1 _ (List.mem_map_of_mem (List.mem_of_getLast? hl))) y hy

structure BlOK (seen : List Sym) (bl : Blocks) : Prop where
  once : ∀ s ∈ symsOf bl, s.Nodup
  noread : ∀ x ∈ blockSymbols bl, x ∉ blReads bl
  pref : prefixClosed (symsOf bl) = true
  init : ∀ x ∈ blockSymbols bl,
    x ∈ seen ∨ ∃ a, bl.getLast? = some (none, a) ∧ x ∈ a.map (fun p => p.1)

theorem block_sound (S : Sem α) (seen : List Sym) (bl : Blocks) (ρ : Env α) (ok : BlOK seen bl) :
    run S.I ((blockSymbols bl).map (blockStmt seen bl)) ρ
      = match pick S ρ bl with
        | some a => execAsgs S.I a ρ
        | none => ρ := by
  rw [show (blockSymbols bl).map (blockStmt seen bl)
      = (blockSymbols bl).map (fun x => Stmt.assign x (blockExpr seen bl x)) from rfl,
    run_map_assign S.I (blockExpr seen bl) (blockSymbols bl) ρ (blockSymbols_nodup bl) fun x _ y hy hyxs =>
      (syms_blockExpr seen bl x y hy).resolve_right (ok.noread y hyxs)]
  -- the default of the piecewise for `y` is only reached when `y` was assigned before the block
  have hdfl : ∀ y ∈ blockSymbols bl, (∀ a, pick S ρ bl = some a → look y a = none) →
      eval S.I ρ (dfl seen y) = ρ y := fun y hy hno => by
    rcases ok.init y hy with hs | ⟨aL, hlast, hyL⟩
    · rw [dfl, if_pos (List.contains_iff_mem.mpr hs)]; rfl
    · obtain ⟨a, ha, hya⟩ := pick_covers S ρ y aL hyL bl ok.pref hlast
      exact absurd hya ((look_none_iff y a).mp (hno a ha))
  funext y
  cases hpk : pick S ρ bl with
  | none =>
    by_cases hy : y ∈ blockSymbols bl
    · rw [if_pos hy, blockExpr_eq, eval_pairsFor S ρ y _ bl ok.pref, hpk]
      exact hdfl y hy fun a ha => by rw [hpk] at ha; cases ha
    · exact if_neg hy
  | some a =>
    obtain ⟨l, hla⟩ := pick_mem S ρ bl a hpk
    have hmem : ∀ p ∈ a, p.1 ∈ blockSymbols bl := fun p hp =>
      (mem_blockSymbols bl p.1).mpr ⟨(l, a), hla, List.mem_map_of_mem hp⟩
    show _ = execAsgs S.I a ρ y
    rw [execAsgs_simul S.I (blockSymbols bl) a ρ (ok.once _ (List.mem_map_of_mem hla)) hmem fun p hp z hz hzA =>
      ok.noread z hzA (List.mem_flatMap.mpr ⟨(l, a), hla, List.mem_append_right _ (List.mem_flatMap.mpr ⟨p, hp, hz⟩)⟩)]
    dsimp only
    by_cases hy : y ∈ blockSymbols bl
    · rw [if_pos hy, blockExpr_eq, eval_pairsFor S ρ y _ bl ok.pref, hpk]
      dsimp only
      cases hlk : look y a with
      | some e => rfl
      | none => exact hdfl y hy fun a' ha' => by rw [hpk, Option.some.injEq] at ha'; rw [← ha', hlk]
    · rw [if_neg hy, (look_none_iff y a).mpr fun hm => hy (by
        obtain ⟨p, hp, rfl⟩ := List.mem_map.mp hm; exact hmem p hp)]

/-- `mkBlocks` when the "empty IF" special case does not apply. -/
def normalBlocks (brs : List (Expr × List Item)) (els : Option (List Item)) : Blocks :=
  brs.map (fun p => (some p.1, directAsgs p.2)) ++
    (match els with
     | none => []
     | some eb => [(none, directAsgs eb)])

theorem mkBlocks_normal (brs : List (Expr × List Item)) (els : Option (List Item))
    (h : condNotEmptyIf brs els = true) : mkBlocks brs els = normalBlocks brs els := by
  match brs, els, h with
  | _, none, _ => exact (List.append_nil _).symm
  | [], some _, _ => rfl
  | _ :: _ :: _, some _, _ => simp [mkBlocks, normalBlocks]
  | [(c, b)], some eb, h =>
    -- the only shape where `mkBlocks` looks at the branch: it must have an assignment
    cases hd : directAsgs b with
    | nil => simp [condNotEmptyIf, hd] at h
    | cons q r => simp [mkBlocks, normalBlocks, hd]

theorem normalBlocks_snd (brs : List (Expr × List Item)) (els : Option (List Item)) :
    (normalBlocks brs els).map (fun b => b.2) = (bodiesOf brs els).map directAsgs := by
  unfold normalBlocks bodiesOf
  cases els <;> simp [List.map_map, Function.comp_def]

theorem symsOf_normal (brs : List (Expr × List Item)) (els : Option (List Item)) :
    symsOf (normalBlocks brs els) = (bodiesOf brs els).map bodySyms := by
  have := congrArg (List.map (fun a : List (Sym × Expr) => a.map (fun p => p.1)))
    (normalBlocks_snd brs els)
  have h2 : (fun x : List Item => List.map (fun p => p.1) (directAsgs x)) = bodySyms := rfl
  rw [← h2]
  simpa [symsOf, List.map_map, Function.comp_def] using this

theorem mem_blockSymbols_normal (brs : List (Expr × List Item)) (els : Option (List Item)) (x : Sym) :
    x ∈ blockSymbols (normalBlocks brs els) ↔ x ∈ blockAssigned brs els := by
  have h := congrArg (List.flatMap (fun a : List (Sym × Expr) => a.map (fun p => p.1))) (normalBlocks_snd brs els)
  simp only [List.flatMap_map] at h
  rw [blockSymbols, mem_dedup, h]
  rfl

theorem blReads_normal (brs : List (Expr × List Item)) (els : Option (List Item)) (y : Sym)
    (hy : y ∈ blReads (normalBlocks brs els)) : y ∈ blockReads brs els := by
  cases els <;>
    simp only [blReads, normalBlocks, blockReads, bodiesOf, bodyReads, condSyms, List.mem_flatMap, List.mem_append,
      List.mem_map, List.append_nil, Option.toList] at hy ⊢ <;> grind

theorem blOK_of_blockSafe (seen : List Sym) (brs : List (Expr × List Item)) (els : Option (List Item))
    (h : blockSafe seen brs els = true) : BlOK seen (normalBlocks brs els) := by
  simp only [blockSafe, Bool.and_eq_true] at h
  obtain ⟨⟨⟨⟨⟨_, honce⟩, hnoread⟩, hpref⟩, hinit⟩, _⟩ := h
  refine ⟨?_, ?_, ?_, ?_⟩
  · intro s hs
    rw [symsOf_normal] at hs
    obtain ⟨body, hbody, rfl⟩ := List.mem_map.mp hs
    exact (nodupB_iff _).mp (List.all_eq_true.mp honce body hbody)
  · intro x hx hrd
    have := List.all_eq_true.mp hnoread x ((mem_blockSymbols_normal brs els x).mp hx)
    simp [blReads_normal brs els x hrd] at this
  · rw [symsOf_normal]; exact hpref
  · intro x hx
    rcases (Bool.or_eq_true _ _).mp (List.all_eq_true.mp hinit x ((mem_blockSymbols_normal brs els x).mp hx)) with hs | he
    · exact Or.inl (List.contains_iff_mem.mp hs)
    · cases els with
      | none => cases he
      | some eb => exact Or.inr ⟨directAsgs eb, by simp [normalBlocks], List.contains_iff_mem.mp he⟩

theorem execBlock_pick (S : Sem α) (O : Opaque α) (els : Option (List Item)) (ρ : Env α) :
    ∀ brs : List (Expr × List Item), condPlain brs els = true →
      execBlock S O els ρ brs
        = match pick S ρ (normalBlocks brs els) with
          | some a => execAsgs S.I a ρ
          | none => ρ := by
  intro brs
  induction brs with
  | nil =>
    intro h
    cases els with
    | none => rfl
    | some eb => exact execBody_plain S O eb ρ ((Bool.and_eq_true _ _).mp h).1
  | cons p r ih =>
    intro h
    obtain ⟨c, b⟩ := p
    obtain ⟨hb, hr⟩ := (Bool.and_eq_true _ _).mp (show (b.all isPlain && condPlain r els) = true from h)
    rw [execBlock, show normalBlocks ((c, b) :: r) els = (some c, directAsgs b) :: normalBlocks r els from rfl,
      pick, holds]
    cases hc : S.truth (eval S.I ρ c)
    · rw [if_neg Bool.false_ne_true, if_neg Bool.false_ne_true]; exact ih hr
    · rw [if_pos rfl, if_pos rfl]; exact execBody_plain S O b ρ hb

end Pharmpy.C01
