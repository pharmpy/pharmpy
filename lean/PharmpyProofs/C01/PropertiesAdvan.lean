import PharmpyProofs.C01.AdvanLemmas
/-
  `codeFlows` is computed from `PharmpyModel/Generated/Advan.lean`, which the
  translator T1 regenerates from advan.py on every run; `specFlows` is the
  PREDPP table of `PharmpyModel/C01/Advan.lean`.
-/
namespace Pharmpy.C01
open Pharmpy

/-- The (ADVAN, TRANS) entries on which the code's rate expressions mention
    only basic PK parameters of that TRANS (and amounts). -/
theorem advan_closed_entries :
    closedEntries =
      [("ADVAN1", "TRANS1"), ("ADVAN1", "TRANS2"), ("ADVAN2", "TRANS1"), ("ADVAN2", "TRANS2"),
       ("ADVAN3", "TRANS1"), ("ADVAN3", "TRANS3"), ("ADVAN3", "TRANS4"),
       ("ADVAN4", "TRANS1"), ("ADVAN4", "TRANS3"), ("ADVAN4", "TRANS4"),
       ("ADVAN10", "TRANS1"),
       ("ADVAN11", "TRANS1"), ("ADVAN11", "TRANS4"),
       ("ADVAN12", "TRANS1"), ("ADVAN12", "TRANS4")] := by
  decide +kernel

/-- On every closed entry the flows built by advan.py are the PREDPP flows:
    same compartment numbers, same order, and rate expressions that are
    *identical terms* over the basic parameters. -/
theorem advan_table_syntactic :
    ∀ p ∈ closedEntries, (codeFlows p.1 p.2).isSome = true ∧ codeFlows p.1 p.2 = specFlows p.1 p.2 := by
  rw [advan_closed_entries]
  decide +kernel

/-- For every carrier, every
    interpretation of the arithmetic operations and every assignment of values
    to the PK parameters, each rate constant the model object uses evaluates to
    the rate constant NONMEM defines for that ADVAN/TRANS. -/
theorem advan_table_correct_partial {α : Type} (I : Interp α) (ρ : Env α) :
    ∀ p ∈ closedEntries,
      (codeFlows p.1 p.2).map (List.map (fun f => (f.src, f.dst, f.rate.eval I ρ)))
        = (specFlows p.1 p.2).map (List.map (fun f => (f.src, f.dst, f.rate.eval I ρ))) := by
  intro p hp
  rw [(advan_table_syntactic p hp).2]

/-- Finding F9: for ADVAN3/4 TRANS5 and
    TRANS6, and ADVAN11/12 TRANS6, the code's rate expressions mention
    micro-constants that are not basic parameters of the TRANS and that nothing
    defines; the full statement `∀ entries, codeFlows = specFlows` is false. -/
theorem advan_table_open_symbols_witness :
    openSyms "ADVAN3" "TRANS5" = ["K21", "K"] ∧ openSyms "ADVAN4" "TRANS5" = ["K32", "K"] ∧
    openSyms "ADVAN3" "TRANS6" = ["K"] ∧ openSyms "ADVAN4" "TRANS6" = ["K"] ∧
    openSyms "ADVAN11" "TRANS6" = ["K", "K13"] ∧ openSyms "ADVAN12" "TRANS6" = ["K", "K24"] ∧
    codeFlows "ADVAN3" "TRANS5" ≠ specFlows "ADVAN3" "TRANS5" := by
  decide +kernel

/-- The specification itself is closed: every symbol of a PREDPP rate is a basic
    parameter of the TRANS (or the central amount for ADVAN10). -/
theorem spec_table_closed :
    ∀ p ∈ specEntries,
      (match specFlows p.1 p.2, basicParams p.1 p.2 with
       | some fs, some bp => (flowSyms fs).all (fun y => bp.contains y || amountSyms.contains y)
       | _, _ => false) = true := by
  decide +kernel

/-- Default dose and observation compartments, and the
    numbering used for ALAGn / Fn / comp_map, are NONMEM's. -/
theorem advan_wiring_correct :
    ∀ a ∈ ["ADVAN1", "ADVAN2", "ADVAN3", "ADVAN4", "ADVAN10", "ADVAN11", "ADVAN12"],
      codeObs a = specObs a ∧ codeDose a = specDose a ∧
      (findArm a).map armNumberingOk = some true := by
  decide +kernel

/-! The PREDPP table satisfies the defining relations of the parametrisations. -/

/-- TRANS5 (two compartments; flows `K`, `K12`, `K21` in this order): the expanded
    rate constants have `ALPHA`, `BETA` as the two disposition rate constants
    (`α+β = K+K12+K21`, `αβ = K·K21`) and `K21 = (AOB·β+α)/(AOB+1)`. -/
theorem spec_trans5_vieta {K : Type} [Field K] (ρ : Env K)
    (h1 : ρ "AOB" + 1 ≠ 0) (h2 : ρ "AOB" * ρ "BETA" + ρ "ALPHA" ≠ 0) :
    let k := (specRate "ADVAN3" "TRANS5" 0).eval (fieldI K) ρ
    let k12 := (specRate "ADVAN3" "TRANS5" 1).eval (fieldI K) ρ
    let k21 := (specRate "ADVAN3" "TRANS5" 2).eval (fieldI K) ρ
    k + k12 + k21 = ρ "ALPHA" + ρ "BETA" ∧ k * k21 = ρ "ALPHA" * ρ "BETA" ∧
    k21 * (ρ "AOB" + 1) = ρ "AOB" * ρ "BETA" + ρ "ALPHA" := by
  simp only [specRate, specFlows_advan3_trans5, Option.getD_some, List.getElem?_cons_zero,
    List.getElem?_cons_succ, ev_div, ev_sub, ev_add, ev_mul, ev_sym, ev_lit, Int.cast_one]
  have h := vieta2 (ρ "ALPHA" + ρ "BETA") (ρ "ALPHA" * ρ "BETA") _ (div_ne_zero h2 h1)
  exact ⟨h.1, h.2, div_mul_cancel₀ _ h1⟩

/-- TRANS6 (three compartments; flows `K`, `K12`, `K21`, `K13`, `K31` in this
    order): the expanded `K`, `K12`, `K13` together with the basic `K21`, `K31`
    have `ALPHA`, `BETA`, `GAMMA` as the roots of the characteristic polynomial
    (the three Vieta relations). -/
theorem spec_trans6_vieta {K : Type} [Field K] (ρ : Env K)
    (h1 : ρ "K21" ≠ 0) (h2 : ρ "K31" ≠ 0) (h3 : ρ "K21" - ρ "K31" ≠ 0) :
    let k := (specRate "ADVAN11" "TRANS6" 0).eval (fieldI K) ρ
    let k12 := (specRate "ADVAN11" "TRANS6" 1).eval (fieldI K) ρ
    let k21 := (specRate "ADVAN11" "TRANS6" 2).eval (fieldI K) ρ
    let k13 := (specRate "ADVAN11" "TRANS6" 3).eval (fieldI K) ρ
    let k31 := (specRate "ADVAN11" "TRANS6" 4).eval (fieldI K) ρ
    let a := ρ "ALPHA"
    let b := ρ "BETA"
    let g := ρ "GAMMA"
    k21 = ρ "K21" ∧ k31 = ρ "K31" ∧
    k + k12 + k13 + k21 + k31 = a + b + g ∧
    k * k21 + k * k31 + k21 * k31 + k13 * k21 + k12 * k31 = a * b + a * g + b * g ∧
    k * k21 * k31 = a * b * g := by
  simp only [specRate, specFlows_advan11_trans6, Option.getD_some, List.getElem?_cons_zero,
    List.getElem?_cons_succ, ev_div, ev_sub, ev_add, ev_mul, ev_sym]
  exact ⟨trivial, trivial, vieta3 _ _ _ _ _ _ _ h1 h2 h3 rfl rfl⟩

end Pharmpy.C01
