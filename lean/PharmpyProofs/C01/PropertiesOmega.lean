import PharmpyProofs.C01.OmegaLemmas
/-
  `blockMatrix` / `parseRec` model `OmegaRecord.parse` (compared with the code on every run);
  `specLower` / `specCov` are NM-TRAN's reading: values listed row by row of the lower
  triangle, scale options as matrix equations.
-/
namespace Pharmpy.C01.Omega

/-- Reading the values row by row of the lower triangle puts flat
    position `T(i) + j` at entry `(i, j)`, `j ≤ i` (`T` = triangular number): the
    numpy fill `A[np.tril_indices_from(A)] = x` is NM-TRAN's order. -/
theorem fill_index (x : List Rat) (i j : Nat) (h : j ≤ i) : specLower x i j = lowerAt x i j := by
  have := rowAt_get i 0 x j (by omega)
  rwa [Nat.zero_add] at this

/-- `floor(sqrt(2·T(n))) = n`: a block with `T(n)` values has size `n`. -/
theorem triangular_root (n : Nat) : triangularRoot (tri n) = n := triangularRoot_tri n

theorem sym_correct (x : List Rat) (i j : Nat) : symAt x i j = specSym x i j := by
  unfold symAt specSym
  by_cases h : j ≤ i
  · simp [h, fill_index x i j h]
  · simp [h, fill_index x j i (by omega)]

/-- `(L·Lᵀ)ᵢⱼ = Σ_{k ≤ min i j} Lᵢₖ·Lⱼₖ` with `L` the row-by-row
    lower-triangular factor, for every size `n > i, j`. -/
theorem cholesky_entry (n : Nat) (x : List Rat) (i j : Nat) (hi : i < n) (hj : j < n) :
    mulTranspose n (lowTri x) i j
      = sumRange (min i j + 1) (fun k => specLower x i k * specLower x j k) := by
  unfold mulTranspose
  -- beyond `min i j` one of the two factors lies above the diagonal of `L`
  rw [show n = (min i j + 1) + (n - (min i j + 1)) by omega, sumRange_zero_tail]
  · apply sumRange_congr
    intro k hk
    have h1 : k ≤ i := by omega
    have h2 : k ≤ j := by omega
    simp only [lowTri, h1, h2, if_true, fill_index]
  · intro k hk
    by_cases h1 : k ≤ i
    · simp only [lowTri, show ¬ k ≤ j by omega, if_false, mul_zero]
    · simp only [lowTri, h1, if_false, zero_mul]

/-- For every block size, every value vector and every
    form (plain, STANDARD, CORRELATION, STANDARD CORRELATION, CHOLESKY), each entry
    of the matrix built by `OmegaRecord.parse` is the entry NONMEM defines. -/
theorem omega_forms_correct (sqrt : Rat → Rat) (f : Form) (n : Nat) (x : List Rat) (i j : Nat)
    (hi : i < n) (hj : j < n) : blockMatrix sqrt f n x i j = specCov sqrt f x i j := by
  unfold blockMatrix specCov
  by_cases hc : f.chol = true
  · simp only [hc, if_true]
    exact cholesky_entry n x i j hi hj
  · simp only [hc]
    simp only [sym_correct]
    have hd : ∀ a, specSym x a a = specLower x a a := by intro a; simp [specSym]
    simp only [hd]
    rfl

theorem symAt_comm (x : List Rat) (i j : Nat) : symAt x i j = symAt x j i := by
  unfold symAt
  by_cases h1 : j ≤ i <;> by_cases h2 : i ≤ j
  · rw [Nat.le_antisymm h1 h2]
  · rw [if_pos h1, if_neg h2]
  · rw [if_neg h1, if_pos h2]
  · omega

/-- For every form the matrix `OmegaRecord.parse` builds is symmetric. -/
theorem block_symmetric (sqrt : Rat → Rat) (f : Form) (n : Nat) (x : List Rat) (i j : Nat) :
    blockMatrix sqrt f n x i j = blockMatrix sqrt f n x j i := by
  unfold blockMatrix
  by_cases hc : f.chol = true
  · simp only [hc, if_true, mulTranspose]
    exact sumRange_congr n _ _ (fun k _ => mul_comm _ _)
  · by_cases hij : i = j
    · rw [hij]
    · simp only [hc, Bool.false_eq_true, if_false]
      rw [if_neg hij, if_neg (Ne.symm hij), symAt_comm x j i]
      split
      · split
        · rw [mul_comm (symAt x i i)]
        · rw [mul_comm (sqrt (symAt x i i))]
      · rfl

theorem flatten_congr (n : Nat) (M M' : Mat) (h : ∀ i j, i < n → j < n → M i j = M' i j) :
    flatten n M = flatten n M' := by
  unfold flatten
  rw [List.flatMap_def, List.flatMap_def]
  congr 1
  apply List.map_congr_left
  intro i hi
  apply List.map_congr_left
  intro j hj
  rw [List.mem_range] at hi hj
  exact h i j hi (by omega)

/-- A `BLOCK(n)` record with `T(n)` values (after `(v)xn`
    expansion) is accepted, and the initial estimates handed to the model are
    the lower triangle, row by row, of the covariance matrix NONMEM defines. -/
theorem parse_block_correct (sqrt : Rat → Rat) (n : Nat) (f : Form) (fix : Bool) (items : List (Rat × Nat))
    (hlen : (expand items).length = tri n) :
    parseRec sqrt (.block n f fix items)
      = .ok [⟨flatten n (specCov sqrt f (expand items)), fix, false⟩] := by
  simp only [parseRec, hlen, triangular_root, bne_self_eq_false, Bool.false_eq_true, if_false]
  rw [flatten_congr n _ _ (fun i j hi hj => omega_forms_correct sqrt f n (expand items) i j hi hj)]

/-- A record with a number of values that is not triangular for its size is refused. -/
theorem parse_block_wrong_count (sqrt : Rat → Rat) (n : Nat) (f : Form) (fix : Bool) (items : List (Rat × Nat))
    (h : triangularRoot (expand items).length ≠ n) :
    parseRec sqrt (.block n f fix items) = .error .wrongCount := by
  have : (n != triangularRoot (expand items).length) = true := by
    simp only [bne_iff_ne, ne_eq]; exact fun e => h e.symm
  simp [parseRec, this]

/-- VARIANCE CORRELATION needs a square root; its square is rational:
    `(ρ·√vᵢ·√vⱼ)² = ρ²·vᵢ·vⱼ`, which is what the correspondence run compares. -/
theorem varcorr_square (sqrt : Rat → Rat) (x : List Rat) (i j : Nat) (hij : i ≠ j)
    (hi : sqrt (specLower x i i) * sqrt (specLower x i i) = specLower x i i)
    (hj : sqrt (specLower x j j) * sqrt (specLower x j j) = specLower x j j) :
    let m := specCov sqrt ⟨false, true, false⟩ x i j
    m * m = specSym x i j * specSym x i j * specLower x i i * specLower x j j := by
  intro m
  have hm : m = sqrt (specLower x i i) * sqrt (specLower x j j) * specSym x i j := by
    simp [m, specCov, hij]
  rw [hm]
  calc _ = (sqrt (specLower x i i) * sqrt (specLower x i i)) * (sqrt (specLower x j j) * sqrt (specLower x j j))
            * (specSym x i j * specSym x i j) := by ring
    _ = _ := by rw [hi, hj]; ring

/-- Diagonal records: `(v SD)xn` gives `n` variances `v²`, plain `v` gives `v`. -/
theorem parse_diag_item (it : DiagItem) (h1 : (it.sd && it.var) = false) (h2 : (it.init == 0 && !it.fix) = false) :
    parseDiagItem it
      = .ok (List.replicate it.reps ⟨[if it.sd then it.init * it.init else it.init], it.fix, false⟩) := by
  simp [parseDiagItem, h1, h2]

/-! non-vacuity: the nmhelp CHOLESKY example -/
example : flatten 3 (blockMatrix (fun v => v) ⟨false, false, true⟩ 3 [1, 2, 3, 4, 5, 6]) = [1, 2, 13, 4, 23, 77] := by
  decide +kernel

end Pharmpy.C01.Omega
