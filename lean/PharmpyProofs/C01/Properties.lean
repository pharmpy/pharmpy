import PharmpyProofs.C01.Block
/-
  `translate` models pharmpy's `_parse_tree` (tied to the code by the correspondence run),
  `nmRun` is the NM-TRAN reference interpreter, `run` the sequential meaning of a pharmpy
  statement list.  All theorems hold for every carrier `α`, every interpretation whose `ite`
  selects by truth value, and every meaning `O` of the statements `_parse_tree` ignores.
-/
namespace Pharmpy.C01
open Pharmpy Expr

variable {α : Type}

/-- pharmpy's statement for `IF (c) X = e`: `e` when `c` holds; otherwise the
    previous value of `X` when `X` was assigned before, and the undefined
    value when it was not.  No other symbol changes. -/
theorem logical_if_else_rule (S : Sem α) (seen : List Sym) (c e : Expr) (x : Sym) (ρ : Env α) :
    run S.I (translateStmt seen (.lif c x e)) ρ =
      ρ.set x (if S.truth (c.eval S.I ρ) then e.eval S.I ρ
               else if x ∈ seen then ρ x else nanE.eval S.I ρ) := by
  by_cases hs : x ∈ seen
  · simp [translateStmt, hs, run, Stmt.exec, eval, S.ite_law]
  · simp [translateStmt, hs, run, Stmt.exec, eval, S.ite_law]

/-- NM-TRAN's side of the same statement: the previous value is always kept. -/
theorem logical_if_nm (S : Sem α) (O : Opaque α) (c e : Expr) (x : Sym) (ρ : Env α) :
    nmExec S O ρ (.lif c x e) =
      ρ.set x (if S.truth (c.eval S.I ρ) then e.eval S.I ρ else ρ x) := by
  rw [nmExec]
  cases S.truth (eval S.I ρ c)
  · -- setting `x` to its own value changes nothing
    funext y
    by_cases hy : y = x
    · rw [hy]; exact (if_pos rfl).symm
    · exact (if_neg hy).symm
  · rfl

theorem translateStmt_sound (S : Sem α) (O : Opaque α) (seen : List Sym) (s : NMStmt) (ρ : Env α)
    (h : stmtSafe seen s = true) : run S.I (translateStmt seen s) ρ = nmExec S O ρ s := by
  cases s with
  | asg x e => rfl
  | lif c x e =>
    rw [logical_if_else_rule, logical_if_nm, if_pos (List.contains_iff_mem.mp h)]
  | block brs els =>
    have hb : blockSafe seen brs els = true := h
    have hparts := hb
    simp only [blockSafe, Bool.and_eq_true] at hparts
    obtain ⟨⟨⟨⟨⟨hplain, _⟩, _⟩, _⟩, _⟩, hne⟩ := hparts
    simp only [translateStmt, reorderBlockStatements, nmExec]
    rw [mkBlocks_normal brs els hne, block_sound S seen _ ρ (blOK_of_blockSafe seen brs els hb),
      execBlock_pick S O els ρ brs hplain]
  | opq n => simp [stmtSafe] at h

theorem translateFrom_sound (S : Sem α) (O : Opaque α) :
    ∀ (p : List NMStmt) (seen : List Sym) (ρ : Env α), safeFrom seen p = true →
      run S.I (translateFrom seen p) ρ = nmRun S O p ρ := by
  intro p
  induction p with
  | nil => intro seen ρ _; rfl
  | cons s rest ih =>
    intro seen ρ h
    simp only [safeFrom, Bool.and_eq_true] at h
    simp only [translateFrom, run_append, translateStmt_sound S O seen s ρ h.1]
    rw [ih _ _ h.2]
    rfl

/-- For every program satisfying the decidable
    side-condition `Safe`, executing pharmpy's statements in order gives, for
    every symbol, the value NM-TRAN computes. -/
theorem translate_sound_partial (S : Sem α) (O : Opaque α) (p : List NMStmt) (ρ : Env α)
    (h : Safe p = true) : run S.I (translate p) ρ = nmRun S O p ρ :=
  translateFrom_sound S O p [] ρ h

/-! Outside `Safe` the translation is unsound: witnesses over the integers. -/

/-- Integer arithmetic with `0` = false; `nan` is some integer. -/
def intI : Interp Int where
  lit n := n
  fn f args :=
    match f, args with
    | "ite", [c, a, b] => if c != 0 then a else b
    | "not", [c] => if c != 0 then 0 else 1
    | "gt", [a, b] => if a > b then 1 else 0
    | "add", [a, b] => a + b
    | "nan", _ => -999
    | _, _ => 0

def intSem : Sem Int where
  I := intI
  truth c := c != 0
  ite_law := by intro c a b; rfl
  not_law := by
    intro c
    by_cases h : c = 0
    · subst h; rfl
    · simp [intI, h]

def noOpaque : Opaque Int := fun _ ρ => ρ

def gt0 (x : Sym) : Expr := .f2 "gt" (.sym x) (.lit 0)

/-- F6: `A=X; B=0; IF (A.GT.0) THEN; A=-1; B=2; ENDIF`. -/
def progReads : List NMStmt :=
  [.asg "A" (.sym "X"), .asg "B" (.lit 0),
   .block [(gt0 "A", [.asg "A" (.lit (-1)), .asg "B" (.lit 2)])] none]

/-- `A=0; B=0; IF (X.GT.0) THEN; A=1; ELSE; B=2; ENDIF`. -/
def progGap : List NMStmt :=
  [.asg "A" (.lit 0), .asg "B" (.lit 0),
   .block [(gt0 "X", [.asg "A" (.lit 1)])] (some [.asg "B" (.lit 2)])]

/-- `C=0; IF (X.GT.0) THEN; C=1; C=C+1; ENDIF`. -/
def progTwice : List NMStmt :=
  [.asg "C" (.lit 0),
   .block [(gt0 "X", [.asg "C" (.lit 1), .asg "C" (.f2 "add" (.sym "C") (.lit 1))])] none]

/-- `C=0; IF (X.GT.0) THEN; IF (W.GT.0) C=1; ENDIF`. -/
def progNested : List NMStmt :=
  [.asg "C" (.lit 0),
   .block [(gt0 "X", [.lif (gt0 "W") "C" (.lit 1)])] none]

def ones : Env Int := fun _ => 1

/-- Finding F6: the block re-reads a symbol it
    assigned; pharmpy's `B` is 0, NM-TRAN's is 2. -/
theorem translate_unsound_witness :
    Safe progReads = false ∧ unsafeFrom [] progReads = ["reads"] ∧
    run intI (translate progReads) ones "B" = 0 ∧
    nmRun intSem noOpaque progReads ones "B" = 2 := by
  decide +kernel

/-- A symbol assigned only in a later branch: pharmpy's `B` is 2 although the
    first branch was taken; NM-TRAN leaves it 0. -/
theorem translate_unsound_witness_gap :
    Safe progGap = false ∧ unsafeFrom [] progGap = ["gap"] ∧
    run intI (translate progGap) ones "B" = 2 ∧
    nmRun intSem noOpaque progGap ones "B" = 0 := by
  decide +kernel

/-- A symbol assigned twice in one branch: pharmpy keeps the first assignment. -/
theorem translate_unsound_witness_twice :
    Safe progTwice = false ∧ unsafeFrom [] progTwice = ["twice", "reads"] ∧
    run intI (translate progTwice) ones "C" = 1 ∧
    nmRun intSem noOpaque progTwice ones "C" = 2 := by
  decide +kernel

/-- A logical IF nested in a block IF is dropped. -/
theorem translate_unsound_witness_nested :
    Safe progNested = false ∧ unsafeFrom [] progNested = ["nested"] ∧
    translate progNested = [.assign "C" (.lit 0)] ∧
    run intI (translate progNested) ones "C" = 0 ∧
    nmRun intSem noOpaque progNested ones "C" = 1 := by
  decide +kernel

/-- `IF (c) THEN` (nothing) `ELSE` assignments `ENDIF`: pharmpy guards the ELSE
    assignments with `Not(c)`; this agrees with NM-TRAN when the ELSE branch is
    made of plain assignments to distinct, previously assigned symbols that the
    block does not read. -/
theorem empty_if_else_rule (S : Sem α) (O : Opaque α) (seen : List Sym) (c : Expr) (eb : List Item)
    (ρ : Env α) (hplain : eb.all isPlain = true) (honce : nodupB (bodySyms eb) = true)
    (hnoread : ∀ x ∈ bodySyms eb, x ∉ c.syms ∧ x ∉ bodyReads eb)
    (hinit : ∀ x ∈ bodySyms eb, x ∈ seen) :
    run S.I (translateStmt seen (.block [(c, [])] (some eb))) ρ
      = nmExec S O ρ (.block [(c, [])] (some eb)) := by
  let bl' : Blocks := [(some (.f1 "not" c), directAsgs eb)]
  have hsym : ∀ x ∈ blockSymbols bl', x ∈ bodySyms eb := fun x hx => by
    obtain ⟨b, hb, hxb⟩ := (mem_blockSymbols bl' x).mp hx
    rwa [List.mem_singleton.mp hb] at hxb
  have ok : BlOK seen bl' := by
    refine ⟨fun b hb => List.mem_singleton.mp hb ▸ (nodupB_iff _).mp honce, fun x hx hrd => ?_, rfl,
      fun x hx => Or.inl (hinit x (hsym x hx))⟩
    have hrd' : x ∈ (c.syms ++ bodyReads eb) ++ [] := hrd
    rw [List.append_nil, List.mem_append] at hrd'
    exact hrd'.elim (hnoread x (hsym x hx)).1 (hnoread x (hsym x hx)).2
  -- the empty IF branch contributes neither symbols nor pairs
  rw [show translateStmt seen (.block [(c, [])] (some eb)) = (blockSymbols bl').map (blockStmt seen bl') from rfl,
    block_sound S seen bl' ρ ok]
  simp only [bl', pick, holds, eval, S.not_law, nmExec, execBlock]
  cases S.truth (eval S.I ρ c)
  · exact (execBody_plain S O eb ρ hplain).symm
  · rfl

/-- The statements generated for a block IF assign exactly the symbols assigned
    directly in some branch, once each, in first-occurrence order. -/
theorem block_targets (seen : List Sym) (brs : List (Expr × List Item)) (els : Option (List Item)) :
    targets (translateStmt seen (.block brs els)) = blockSymbols (mkBlocks brs els) := by
  simp only [translateStmt, reorderBlockStatements, targets]
  induction blockSymbols (mkBlocks brs els) with
  | nil => rfl
  | cons x xs ih => simp [blockStmt, Stmt.defs, ih]

/-! Non-vacuity: `Safe` holds on a program with a three-way block IF. -/

example : Safe [.asg "TV" (.sym "THETA(1)"),
                .block [(gt0 "X", [.asg "A" (.lit 1), .asg "TV" (.lit 5)]),
                        (gt0 "W", [.asg "A" (.lit 2)])]
                       (some [.asg "A" (.lit 3)]),
                .lif (gt0 "W") "A" (.f2 "add" (.sym "A") (.sym "TV"))] = true := by
  decide +kernel

end Pharmpy.C01
