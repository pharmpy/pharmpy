import PharmpyModel.C01.Advan
import Mathlib.Tactic.Ring
/-
  Arithmetic interpretation over a field; the two PREDPP table entries defined through the
  disposition rate constants, and the relations those definitions imply in any field.
-/
namespace Pharmpy.C01
open Pharmpy

def fieldI (K : Type) [Field K] : Interp K where
  lit n := (n : K)
  fn f args :=
    match f, args with
    | "add", [a, b] => a + b
    | "sub", [a, b] => a - b
    | "mul", [a, b] => a * b
    | "div", [a, b] => a / b
    | _, _ => 0

section
variable {K : Type} [Field K] (ρ : Env K) (a b : Expr)
theorem ev_add : (Expr.f2 "add" a b).eval (fieldI K) ρ = a.eval (fieldI K) ρ + b.eval (fieldI K) ρ := rfl
theorem ev_sub : (Expr.f2 "sub" a b).eval (fieldI K) ρ = a.eval (fieldI K) ρ - b.eval (fieldI K) ρ := rfl
theorem ev_mul : (Expr.f2 "mul" a b).eval (fieldI K) ρ = a.eval (fieldI K) ρ * b.eval (fieldI K) ρ := rfl
theorem ev_div : (Expr.f2 "div" a b).eval (fieldI K) ρ = a.eval (fieldI K) ρ / b.eval (fieldI K) ρ := rfl
theorem ev_sym (x : Sym) : (Expr.sym x).eval (fieldI K) ρ = ρ x := rfl
theorem ev_lit (n : Int) : (Expr.lit n).eval (fieldI K) ρ = (n : K) := rfl
end

/-- Rate expression of the `i`-th PREDPP flow. -/
def specRate (advan trans : String) (i : Nat) : Expr :=
  match ((specFlows advan trans).getD [])[i]? with
  | some f => f.rate
  | none => .lit 0

theorem specFlows_advan3_trans5 :
    let a : Expr := .sym "ALPHA"
    let b : Expr := .sym "BETA"
    let aob : Expr := .sym "AOB"
    let k21 : Expr := .f2 "div" (.f2 "add" (.f2 "mul" aob b) a) (.f2 "add" aob (.lit 1))
    let k : Expr := .f2 "div" (.f2 "mul" a b) k21
    specFlows "ADVAN3" "TRANS5"
      = some [⟨1, 3, k⟩, ⟨1, 2, .f2 "sub" (.f2 "sub" (.f2 "add" a b) k21) k⟩, ⟨2, 1, k21⟩] := by
  decide +kernel

theorem specFlows_advan11_trans6 :
    let a : Expr := .sym "ALPHA"
    let b : Expr := .sym "BETA"
    let g : Expr := .sym "GAMMA"
    let k21 : Expr := .sym "K21"
    let k31 : Expr := .sym "K31"
    let s : Expr := .f2 "add" (.f2 "add" a b) g
    let p : Expr := .f2 "add" (.f2 "add" (.f2 "mul" a b) (.f2 "mul" a g)) (.f2 "mul" b g)
    let k : Expr := .f2 "div" (.f2 "mul" (.f2 "mul" a b) g) (.f2 "mul" k21 k31)
    let k13 : Expr := .f2 "div"
      (.f2 "sub" (.f2 "sub" (.f2 "add" p (.f2 "mul" k31 k31)) (.f2 "mul" k31 s)) (.f2 "mul" k k21))
      (.f2 "sub" k21 k31)
    specFlows "ADVAN11" "TRANS6"
      = some [⟨1, 4, k⟩, ⟨1, 2, .f2 "sub" (.f2 "sub" (.f2 "sub" (.f2 "sub" s k) k13) k21) k31⟩,
              ⟨2, 1, k21⟩, ⟨1, 3, k13⟩, ⟨3, 1, k31⟩] := by
  decide +kernel

/-- `s`, `p`: sum and product of the two disposition rate constants; `K = p/K21`, `K12 = s - K21 - K`. -/
theorem vieta2 {K : Type} [Field K] (s p k21 : K) (h : k21 ≠ 0) :
    p / k21 + (s - k21 - p / k21) + k21 = s ∧ p / k21 * k21 = p :=
  ⟨by ring, div_mul_cancel₀ _ h⟩

/-- Three compartments.  Only `K13·(K21 - K31)` and `K·(K21·K31)` are needed, so each quotient is
    cancelled once and never expanded. -/
theorem vieta3 {K : Type} [Field K] (s p q k k13 k21 k31 : K)
    (h1 : k21 ≠ 0) (h2 : k31 ≠ 0) (h3 : k21 - k31 ≠ 0) (hk : k = q / (k21 * k31))
    (hk13 : k13 = (p + k31 * k31 - k31 * s - k * k21) / (k21 - k31)) :
    k + (s - k - k13 - k21 - k31) + k13 + k21 + k31 = s ∧
    k * k21 + k * k31 + k21 * k31 + k13 * k21 + (s - k - k13 - k21 - k31) * k31 = p ∧
    k * k21 * k31 = q := by
  refine ⟨by ring, ?_, by rw [hk, mul_assoc, div_mul_cancel₀ _ (mul_ne_zero h1 h2)]⟩
  calc _ = k13 * (k21 - k31) + (k * k21 + s * k31 - k31 * k31) := by ring
    _ = _ := by rw [hk13, div_mul_cancel₀ _ h3]; ring

end Pharmpy.C01
