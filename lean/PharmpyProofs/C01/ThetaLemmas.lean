import PharmpyModel.C01.Theta
namespace Pharmpy.C01.Theta

variable {I B F : Type}

/-- Loop invariant of `comment_names`: names so far + pending count = THETAs declared so far;
`intheta` ↔ a positive count is pending. -/
def Inv (s : St) (tot : Nat) : Prop :=
  s.names.length + s.n.toNat = tot ∧ (s.intheta = true → 1 ≤ s.n) ∧ (s.intheta = false → s.n = 0)

theorem inv_init : Inv St.init 0 := by simp [Inv, St.init]

theorem length_flush (names : List (Option String)) (n : Int) :
    (if n != 0 then pad names n else names).length = names.length + n.toNat := by
  by_cases h : n = 0
  · rw [h]; rfl
  · rw [if_pos (bne_iff_ne.mpr h), pad, List.length_append, List.length_replicate]

theorem foldl_inv (evs : List Ev) : ∀ (s : St) (tot : Nat), Inv s tot → (∀ m ∈ mults evs, 1 ≤ m) →
    Inv (evs.foldl step s) (tot + (mults evs).sum) := by
  induction evs with
  | nil => intro s tot h _; exact h
  | cons e r ih =>
    intro s tot ⟨h1, h2, h3⟩ hm
    cases e with
    | theta m =>
      -- a pending count is flushed as padding; the new count `m ≥ 1` becomes pending
      have hm1 : 1 ≤ m := hm m List.mem_cons_self
      have := ih (step s (.theta m)) (tot + m)
        ⟨by rw [step, length_flush, h1, Int.toNat_natCast], fun _ => Int.ofNat_le.mpr hm1, fun hc => nomatch hc⟩
        fun k hk => hm k (List.mem_cons_of_mem _ hk)
      rwa [Nat.add_assoc] at this
    | comment nm =>
      -- inside a theta a comment takes one of the pending names; outside it is ignored
      refine ih (step s (.comment nm)) tot ?_ hm
      rw [step]
      split
      · next hin =>
        have hn := h2 hin
        exact ⟨by simp; omega, fun hc => by simp at hc; show 1 ≤ s.n - 1; omega,
          fun hc => by simp at hc; show s.n - 1 = 0; omega⟩
      · exact ⟨h1, h2, h3⟩

theorem commentNames_length (evs : List Ev) (h : ∀ m ∈ mults evs, 1 ≤ m) :
    (commentNames evs).length = (mults evs).sum := by
  rw [commentNames, length_flush, (foldl_inv evs St.init 0 inv_init h).1, Nat.zero_add]

/-! `inits`, `bounds`, `fixs` and `specItems` are all `flatMap` of `replicate`; over several records they
are the same lists for the concatenated items. -/

theorem length_flatMap_replicate {α X : Type} (l : List α) (n : α → Nat) (f : α → X) :
    (l.flatMap (fun a => List.replicate (n a) (f a))).length = (l.map n).sum := by
  simp only [List.length_flatMap, List.length_replicate]

theorem zip_flatMap_replicate {α X Y : Type} (l : List α) (n : α → Nat) (f : α → X) (g : α → Y) :
    (l.flatMap (fun a => List.replicate (n a) (f a))).zip (l.flatMap (fun a => List.replicate (n a) (g a)))
      = l.flatMap (fun a => List.replicate (n a) (f a, g a)) := by
  induction l with
  | nil => rfl
  | cons a r ih =>
    rw [List.flatMap_cons, List.flatMap_cons, List.flatMap_cons,
      List.zip_append (by rw [List.length_replicate, List.length_replicate]), List.zip_replicate', ih]

theorem zip_items (items : List (Item I B F)) :
    (inits items).zip ((bounds items).zip (fixs items)) = specItems items := by
  unfold inits bounds fixs specItems
  rw [zip_flatMap_replicate, zip_flatMap_replicate]

def allItems (recs : List (Rec I B F)) : List (Item I B F) := recs.flatMap (·.items)

theorem parseInits_eq (recs : List (Rec I B F)) : parseInits recs = inits (allItems recs) := List.flatMap_assoc.symm
theorem parseBounds_eq (recs : List (Rec I B F)) : parseBounds recs = bounds (allItems recs) := List.flatMap_assoc.symm
theorem parseFixs_eq (recs : List (Rec I B F)) : parseFixs recs = fixs (allItems recs) := List.flatMap_assoc.symm
theorem specThetas_eq (recs : List (Rec I B F)) : specThetas recs = specItems (allItems recs) := List.flatMap_assoc.symm

theorem parseNames_length (recs : List (Rec I B F))
    (hwf : ∀ r ∈ recs, r.wf) (hpos : ∀ r ∈ recs, ∀ it ∈ r.items, 1 ≤ it.n) :
    (parseNames recs).length = ((allItems recs).map (·.n)).sum := by
  induction recs with
  | nil => rfl
  | cons r rs ih =>
    have hr : (commentNames r.evs).length = (r.items.map (·.n)).sum := by
      rw [commentNames_length r.evs, hwf r List.mem_cons_self]
      intro m hm
      rw [hwf r List.mem_cons_self] at hm
      obtain ⟨it, hit, rfl⟩ := List.mem_map.mp hm
      exact hpos r List.mem_cons_self it hit
    rw [parseNames, allItems, List.flatMap_cons, List.flatMap_cons, List.length_append, List.map_append,
      List.sum_append, hr]
    exact congrArg _ (ih (fun x hx => hwf x (List.mem_cons_of_mem _ hx)) (fun x hx => hpos x (List.mem_cons_of_mem _ hx)))

theorem buildFrom_zip (is : List I) (bs : List B) (fs : List F) :
    ∀ (names : List (Option String)) (i : Nat), i + names.length = is.length → is.length = bs.length →
      is.length = fs.length →
      buildFrom is bs fs i names = some ((is.drop i).zip ((bs.drop i).zip (fs.drop i)))
  | [], i, h, _, _ => by rw [List.drop_eq_nil_of_le (show is.length ≤ i from Nat.le_of_eq h.symm)]; rfl
  | _ :: rest, i, h, hb, hf => by
    have hi : i < is.length := by rw [← h, List.length_cons]; omega
    have ih := buildFrom_zip is bs fs rest (i + 1) (by rw [← h, List.length_cons]; omega) hb hf
    have hib : i < bs.length := hb ▸ hi
    have hif : i < fs.length := hf ▸ hi
    rw [List.drop_eq_getElem_cons hi, List.drop_eq_getElem_cons hib, List.drop_eq_getElem_cons hif]
    simp only [buildFrom, List.getElem?_eq_getElem hi, List.getElem?_eq_getElem hib, List.getElem?_eq_getElem hif, ih]
    rfl

theorem readThetas_spec (recs : List (Rec I B F))
    (hwf : ∀ r ∈ recs, r.wf) (hpos : ∀ r ∈ recs, ∀ it ∈ r.items, 1 ≤ it.n) :
    readThetas recs = some (specThetas recs) := by
  have hl := parseNames_length recs hwf hpos
  rw [readThetas, parseInits_eq, parseBounds_eq, parseFixs_eq, specThetas_eq, ← zip_items,
    buildFrom_zip _ _ _ _ 0 (by rw [Nat.zero_add, hl, inits, length_flatMap_replicate])
      (by rw [inits, bounds, length_flatMap_replicate, length_flatMap_replicate])
      (by rw [inits, fixs, length_flatMap_replicate, length_flatMap_replicate])]
  rfl

end Pharmpy.C01.Theta
