import PharmpyModel.C01.Rates
namespace Pharmpy.C01.Rates

/-- A `$PK` variable is taken as a rate constant exactly when its
    whole name is `K` + digits or `K` + digits + `T` + digits. -/
theorem rate_name_exact (name : String) :
    isRate name = true ↔
      ∃ d1, isDigits d1 = true ∧
        (name.toList = 'K' :: d1 ∨ ∃ d2, isDigits d2 = true ∧ name.toList = 'K' :: (d1 ++ 'T' :: d2)) := by
  unfold isRate
  constructor
  · intro h
    cases hn : name.toList with
    | nil => simp [hn, splitRate] at h
    | cons c rest =>
      simp only [hn, splitRate] at h
      by_cases hc : c = 'K'
      · subst hc
        have hsplit : rest = rest.takeWhile Char.isDigit ++ rest.dropWhile Char.isDigit :=
          (List.takeWhile_append_dropWhile).symm
        by_cases he : (rest.takeWhile Char.isDigit).isEmpty = true
        · simp [he] at h
        · have hd : isDigits (rest.takeWhile Char.isDigit) = true := by
            simp only [isDigits, Bool.and_eq_true, Bool.not_eq_true']
            exact ⟨by simpa using he, List.all_takeWhile⟩
          refine ⟨rest.takeWhile Char.isDigit, hd, ?_⟩
          cases hr : rest.dropWhile Char.isDigit with
          | nil =>
            left
            conv => lhs; rw [hsplit, hr]
            simp
          | cons c2 r2 =>
            by_cases hT : (c2 == 'T' && isDigits r2) = true
            · simp only [Bool.and_eq_true, beq_iff_eq] at hT
              obtain ⟨hT1, hT2⟩ := hT
              subst hT1
              right
              exact ⟨r2, hT2, by conv => lhs; rw [hsplit, hr]⟩
            · simp [he, hr, hT] at h
      · have : (c != 'K') = true := by simpa using hc
        simp [this] at h
  · rintro ⟨d1, hd1, h | ⟨d2, hd2, h⟩⟩
    all_goals simp only [isDigits, Bool.and_eq_true, Bool.not_eq_true', List.all_eq_true] at hd1
    · have ht := List.takeWhile_append_of_pos (l₂ := []) hd1.2
      have hd := List.dropWhile_append_of_pos (l₂ := []) hd1.2
      rw [List.append_nil] at ht hd
      simp [h, splitRate, ht, hd, hd1.1]
    · simp [h, splitRate, List.takeWhile_append_of_pos hd1.2, List.dropWhile_append_of_pos hd1.2, hd1.1, hd2]

/-- Names that merely start with, end with or contain a rate-constant name are
    ordinary variables. -/
theorem rate_name_not_prefix :
    isRate "K10HL" = false ∧ isRate "K20D" = false ∧ isRate "K12TOT" = false ∧ isRate "K1T2X" = false ∧
    isRate "XK12" = false ∧ isRate "K" = false ∧ isRate "KT2" = false ∧ isRate "K1T" = false ∧
    isRate "K12" = true ∧ isRate "K1T2" = true ∧ isRate "K10T11" = true := by
  decide +kernel

/-- Two digits: `Kij` is the flow i → j, `Ki0` the flow to the output compartment. -/
theorem rate_two_digits (ncomps : Nat) (a b : Char) :
    decode ncomps [a, b] none = .flow (natOf [a]) (if natOf [b] == 0 then ncomps else natOf [b]) := rfl

/-- `KiTj` is the flow i → j for numbers of any length. -/
theorem rate_T_form (ncomps : Nat) (d1 d2 : List Char) :
    decode ncomps d1 (some d2) = .flow (natOf d1) (if natOf d2 == 0 then ncomps else natOf d2) := rfl

example : findRates 4 ["K12", "K12X", "V1", "K1T3", "K20", "K20D", "K123"] = some [(1, 2, "K12"), (1, 3, "K1T3"), (2, 4, "K20")] := by
  decide +kernel

end Pharmpy.C01.Rates
