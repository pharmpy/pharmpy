import PharmpyProofs.C18.Basic
/-
  C18 — `_partitions` (`partsRev`): a child of a partition `P` opens the block `[x]` or appends `x` to one block `p`.
  The block relation on the old elements is unchanged and the old elements related to `x` are those of `p`;
  distinctness, completeness and the Stirling recurrence follow from that.
-/
namespace Pharmpy.C18

variable {α : Type}

theorem rel_nil (a b : α) : ¬ Rel ([] : List (List α)) a b := fun ⟨_, hp, _⟩ => nomatch hp

theorem rel_cons (p : List α) (P : List (List α)) (a b : α) :
    Rel (p :: P) a b ↔ (a ∈ p ∧ b ∈ p) ∨ Rel P a b := by
  simp only [Rel, List.mem_cons, or_and_right, exists_or, exists_eq_left]

theorem rel_append (P Q : List (List α)) (a b : α) :
    Rel (P ++ Q) a b ↔ Rel P a b ∨ Rel Q a b := by
  simp only [Rel, List.mem_append, or_and_right, exists_or]

theorem rel_symm {P : List (List α)} {a b : α} : Rel P a b → Rel P b a :=
  fun ⟨p, hp, ha, hb⟩ => ⟨p, hp, hb, ha⟩

theorem rel_mem_flatten_left {P : List (List α)} {a b : α} : Rel P a b → a ∈ P.flatten :=
  fun ⟨p, hp, ha, _⟩ => List.mem_flatten.mpr ⟨p, hp, ha⟩

theorem rel_of_perm {P Q : List (List α)} (h : P.Perm Q) (a b : α) : Rel P a b ↔ Rel Q a b :=
  ⟨fun ⟨p, hp, hab⟩ => ⟨p, h.mem_iff.mp hp, hab⟩, fun ⟨p, hp, hab⟩ => ⟨p, h.mem_iff.mpr hp, hab⟩⟩

theorem block_unique (P : List (List α)) (hnd : P.flatten.Nodup) (p q : List α) (hp : p ∈ P) (hq : q ∈ P)
    (y : α) (hyp : y ∈ p) (hyq : y ∈ q) : p = q := by
  induction P with
  | nil => cases hp
  | cons b bs ih =>
    obtain ⟨_, hbs, hdisj⟩ := List.nodup_append.mp (List.flatten_cons ▸ hnd)
    rcases List.mem_cons.mp hp with rfl | hp' <;> rcases List.mem_cons.mp hq with rfl | hq'
    · rfl
    · exact absurd rfl (hdisj y hyp y (List.mem_flatten.mpr ⟨q, hq', hyq⟩))
    · exact absurd rfl (hdisj y hyq y (List.mem_flatten.mpr ⟨p, hp', hyp⟩))
    · exact ih hbs hp' hq'

theorem mem_insertEach (x : α) (P Q : List (List α)) :
    Q ∈ insertEach x P ↔ ∃ L p R, P = L ++ p :: R ∧ Q = L ++ (p ++ [x]) :: R := by
  induction P generalizing Q with
  | nil => exact ⟨fun h => (nomatch h), fun ⟨L, _, _, h, _⟩ => by cases L <;> cases h⟩
  | cons b bs ih =>
    simp only [insertEach, List.mem_cons, List.mem_map, ih]
    constructor
    · rintro (rfl | ⟨_, ⟨L, p, R, rfl, rfl⟩, rfl⟩)
      · exact ⟨[], b, bs, rfl, rfl⟩
      · exact ⟨b :: L, p, R, rfl, rfl⟩
    · rintro ⟨L, p, R, hP, rfl⟩
      cases L with
      | nil => cases hP; exact Or.inl rfl
      | cons b' L' => cases hP; exact Or.inr ⟨_, ⟨L', p, R, rfl, rfl⟩, rfl⟩

theorem insertEach_length (x : α) (P : List (List α)) : (insertEach x P).length = P.length := by
  induction P with
  | nil => rfl
  | cons b bs ih => simp only [insertEach, List.length_cons, List.length_map, ih]

theorem length_of_mem_insertEach (x : α) (P Q : List (List α)) (h : Q ∈ insertEach x P) : Q.length = P.length := by
  obtain ⟨L, p, R, rfl, rfl⟩ := (mem_insertEach x P Q).mp h
  simp only [List.length_append, List.length_cons]

theorem step_rel_old (x : α) (P Q : List (List α)) (h : Q ∈ step x P)
    (a b : α) (ha : a ≠ x) (hb : b ≠ x) : Rel Q a b ↔ Rel P a b := by
  rcases List.mem_cons.mp h with rfl | h
  · simp only [rel_append, rel_cons, List.mem_singleton, ha, false_and, rel_nil, or_false]
  · obtain ⟨L, p, R, rfl, rfl⟩ := (mem_insertEach x P Q).mp h
    simp only [rel_append, rel_cons, List.mem_append, List.mem_singleton, ha, hb, or_false]

theorem newBlock_rel_x (x : α) (P : List (List α)) (hx : x ∉ P.flatten) (b : α) (hb : b ≠ x) :
    ¬ Rel (P ++ [[x]]) x b := by
  simp only [rel_append, rel_cons, List.mem_singleton, hb, and_false, rel_nil, or_false]
  exact fun h => hx (rel_mem_flatten_left h)

theorem joined_rel_x (x : α) (L R : List (List α)) (p : List α) (hx : x ∉ (L ++ p :: R).flatten) (b : α)
    (hb : b ≠ x) : Rel (L ++ (p ++ [x]) :: R) x b ↔ b ∈ p := by
  have hL : ¬ Rel L x b := fun h => hx (by simp [rel_mem_flatten_left h])
  have hR : ¬ Rel R x b := fun h => hx (by simp [rel_mem_flatten_left h])
  simp only [rel_append, rel_cons, List.mem_append, List.mem_singleton, hL, hR, hb, or_true, or_false, true_and,
    false_or]

theorem step_isPartition (x : α) (r : List α) (P Q : List (List α)) (hP : IsPartition r P)
    (h : Q ∈ step x P) : IsPartition (x :: r) Q := by
  rcases List.mem_cons.mp h with rfl | h
  · refine ⟨fun p hp => (List.mem_append.mp hp).elim (hP.1 p) fun h => ?_, ?_⟩
    · cases List.mem_singleton.mp h; exact List.cons_ne_nil _ _
    · simpa using List.perm_append_comm.trans (List.Perm.cons x hP.2)
  · obtain ⟨L, p, R, rfl, rfl⟩ := (mem_insertEach x P Q).mp h
    refine ⟨fun q hq => ?_, ?_⟩
    · rcases List.mem_append.mp hq with hq | hq
      · exact hP.1 q (List.mem_append_left _ hq)
      · rcases List.mem_cons.mp hq with rfl | hq
        · exact List.append_ne_nil_of_right_ne_nil _ (List.cons_ne_nil _ _)
        · exact hP.1 q (List.mem_append_right _ (List.mem_cons_of_mem _ hq))
    · refine List.Perm.trans ?_ (List.Perm.cons x hP.2)
      simpa [List.append_assoc] using
        (List.perm_middle (a := x) (l₁ := L.flatten ++ p) (l₂ := R.flatten))

theorem partsRev_isPartition (r : List α) : ∀ P, P ∈ partsRev r → IsPartition r P := by
  induction r with
  | nil =>
    intro P hP
    cases List.mem_singleton.mp hP
    exact ⟨fun _ h => (nomatch h), List.Perm.refl _⟩
  | cons x r ih =>
    intro Q hQ
    obtain ⟨P, hP, hQ⟩ := List.mem_flatMap.mp hQ
    exact step_isPartition x r P Q (ih P hP) hQ

theorem insertEach_pairwise (x : α) (P : List (List α)) (hP : ∀ p, p ∈ P → p ≠ [])
    (hnd : (x :: P.flatten).Nodup) :
    (insertEach x P).Pairwise
      (fun Q1 Q2 => ∃ c, c ≠ x ∧ c ∈ P.flatten ∧ ¬ (Rel Q1 x c ↔ Rel Q2 x c)) := by
  induction P with
  | nil => exact List.Pairwise.nil
  | cons p ps ih =>
    obtain ⟨hx, hnd2⟩ := List.nodup_cons.mp hnd
    have hxp : x ∉ p := fun h => hx (by simp [h])
    have hxps : x ∉ ps.flatten := fun h => hx (by simp [h])
    simp only [insertEach, List.pairwise_cons, List.mem_map, List.pairwise_map]
    constructor
    · -- `x` in the first block against `x` in a later block `q`: an element of `p` tells them apart
      rintro _ ⟨Q', hQ', rfl⟩
      obtain ⟨L, q, R, rfl, rfl⟩ := (mem_insertEach x ps Q').mp hQ'
      obtain ⟨c, hc⟩ := List.exists_mem_of_ne_nil p (hP p List.mem_cons_self)
      have hcx : c ≠ x := fun e => hxp (e ▸ hc)
      refine ⟨c, hcx, by simp [hc], fun hiff => ?_⟩
      have h1 := (joined_rel_x x [] (L ++ q :: R) p hx c hcx).mpr hc
      have h2 := (joined_rel_x x (p :: L) R q hx c hcx).mp (hiff.mp h1)
      exact (List.nodup_append.mp (List.flatten_cons ▸ hnd2)).2.2 c hc c (by simp [h2]) rfl
    · refine (ih (fun q hq => hP q (List.mem_cons_of_mem _ hq))
        (List.nodup_cons.mpr ⟨hxps, (List.nodup_append.mp (List.flatten_cons ▸ hnd2)).2.1⟩)).imp ?_
      rintro Q1 Q2 ⟨c, hc1, hc2, hc3⟩
      refine ⟨c, hc1, by simp [hc2], ?_⟩
      simpa only [rel_cons, hxp, false_and, false_or] using hc3

theorem step_pairwise (x : α) (r : List α) (P : List (List α)) (hP : IsPartition r P)
    (hnd : (x :: r).Nodup) : (step x P).Pairwise (Differ (x :: r)) := by
  have hx : x ∉ P.flatten := fun h => (List.nodup_cons.mp hnd).1 (hP.2.mem_iff.mp h)
  have hnd' : (x :: P.flatten).Nodup :=
    List.nodup_cons.mpr ⟨hx, (hP.2.nodup_iff).mpr (List.nodup_cons.mp hnd).2⟩
  refine List.pairwise_cons.mpr ⟨fun Q hQ => ?_, (insertEach_pairwise x P hP.1 hnd').imp ?_⟩
  · obtain ⟨L, p, R, rfl, rfl⟩ := (mem_insertEach x P Q).mp hQ
    obtain ⟨c, hc⟩ := List.exists_mem_of_ne_nil p (hP.1 p (by simp))
    have hcP : c ∈ (L ++ p :: R).flatten := by simp [hc]
    have hcx : c ≠ x := fun e => hx (e ▸ hcP)
    refine ⟨x, List.mem_cons_self, c, List.mem_cons_of_mem _ (hP.2.mem_iff.mp hcP), fun hiff => ?_⟩
    exact newBlock_rel_x x _ hx c hcx (hiff.mpr ((joined_rel_x x L R p hx c hcx).mpr hc))
  · rintro Q1 Q2 ⟨c, _, hc2, hc3⟩
    exact ⟨x, List.mem_cons_self, c, List.mem_cons_of_mem _ (hP.2.mem_iff.mp hc2), hc3⟩

theorem partsRev_pairwise_differ (r : List α) (hnd : r.Nodup) :
    (partsRev r).Pairwise (Differ r) := by
  induction r with
  | nil => exact List.pairwise_singleton _ _
  | cons x r ih =>
    obtain ⟨hx, hr⟩ := List.nodup_cons.mp hnd
    simp only [partsRev, List.pairwise_flatMap]
    refine ⟨fun P hP => step_pairwise x r P (partsRev_isPartition r P hP) hnd, (ih hr).imp ?_⟩
    rintro P1 P2 ⟨a, ha, b, hb, hne⟩ Q1 hQ1 Q2 hQ2
    have hax : a ≠ x := fun e => hx (e ▸ ha)
    have hbx : b ≠ x := fun e => hx (e ▸ hb)
    refine ⟨a, List.mem_cons_of_mem _ ha, b, List.mem_cons_of_mem _ hb, ?_⟩
    rwa [step_rel_old x P1 Q1 hQ1 a b hax hbx, step_rel_old x P2 Q2 hQ2 a b hax hbx]

theorem rel_iff_of_parts (x : α) (r : List α) (Q : List (List α)) (R : α → α → Prop) (hR : Equivalence R)
    (hxx : Rel Q x x) (hxb : ∀ b, b ∈ r → (Rel Q x b ↔ R x b))
    (hold : ∀ a, a ∈ r → ∀ b, b ∈ r → (Rel Q a b ↔ R a b)) :
    ∀ a, a ∈ x :: r → ∀ b, b ∈ x :: r → (Rel Q a b ↔ R a b) := by
  intro a ha b hb
  rcases List.mem_cons.mp ha with rfl | ha' <;> rcases List.mem_cons.mp hb with rfl | hb'
  · exact ⟨fun _ => hR.refl _, fun _ => hxx⟩
  · exact hxb b hb'
  · exact ⟨fun h => hR.symm ((hxb a ha').mp (rel_symm h)), fun h => rel_symm ((hxb a ha').mpr (hR.symm h))⟩
  · exact hold a ha' b hb'

theorem partsRev_complete (r : List α) (hnd : r.Nodup) (R : α → α → Prop) (hR : Equivalence R) :
    ∃ P, P ∈ partsRev r ∧ ∀ a, a ∈ r → ∀ b, b ∈ r → (Rel P a b ↔ R a b) := by
  induction r with
  | nil => exact ⟨[], List.mem_singleton.mpr rfl, fun a ha => nomatch ha⟩
  | cons x r ih =>
    obtain ⟨hxr, hr⟩ := List.nodup_cons.mp hnd
    obtain ⟨P, hP, hrel⟩ := ih hr
    have hpart := partsRev_isPartition r P hP
    have hx : x ∉ P.flatten := fun h => hxr (hpart.2.mem_iff.mp h)
    have hne : ∀ b, b ∈ r → b ≠ x := fun b hb e => hxr (e ▸ hb)
    have hold : ∀ Q, Q ∈ step x P → ∀ a, a ∈ r → ∀ b, b ∈ r → (Rel Q a b ↔ R a b) := fun Q hQ a ha b hb =>
      (step_rel_old x P Q hQ a b (hne a ha) (hne b hb)).trans (hrel a ha b hb)
    by_cases hex : ∃ y, y ∈ r ∧ R x y
    · -- `x` joins the block of an element `y` it is related to
      obtain ⟨y, hy, hxy⟩ := hex
      obtain ⟨p, hp, hyp⟩ := List.mem_flatten.mp (hpart.2.mem_iff.mpr hy)
      obtain ⟨L, R', rfl⟩ := List.append_of_mem hp
      have hQ : L ++ (p ++ [x]) :: R' ∈ step x (L ++ p :: R') :=
        List.mem_cons_of_mem _ ((mem_insertEach x _ _).mpr ⟨L, p, R', rfl, rfl⟩)
      refine ⟨_, List.mem_flatMap.mpr ⟨_, hP, hQ⟩, rel_iff_of_parts x r _ R hR ?_ (fun b hb => ?_) (hold _ hQ)⟩
      · exact ⟨p ++ [x], by simp, by simp, by simp⟩
      · rw [joined_rel_x x L R' p hx b (hne b hb)]
        constructor
        · exact fun hbp => hR.trans hxy ((hrel y hy b hb).mp ⟨p, hp, hyp, hbp⟩)
        · intro hxb
          obtain ⟨q, hq, hyq, hbq⟩ := (hrel y hy b hb).mpr (hR.trans (hR.symm hxy) hxb)
          exact block_unique _ (hpart.2.nodup_iff.mpr hr) p q hp hq y hyp hyq ▸ hbq
    · -- `x` is related to nothing: its own block
      have hQ : P ++ [[x]] ∈ step x P := List.mem_cons_self
      refine ⟨_, List.mem_flatMap.mpr ⟨P, hP, hQ⟩, rel_iff_of_parts x r _ R hR ?_ (fun b hb => ?_) (hold _ hQ)⟩
      · exact ⟨[x], by simp, by simp, by simp⟩
      · exact ⟨fun h => absurd h (newBlock_rel_x x P hx b (hne b hb)), fun h => absurd ⟨b, hb, h⟩ hex⟩

/-- one parent with `n` blocks has one child with `n + 1` blocks and `n` children with `n` blocks -/
theorem step_count (x : α) (P : List (List α)) (k : Nat) :
    (step x P).countP (fun Q => Q.length == k) =
      (if P.length + 1 = k then 1 else 0) + (if P.length = k then k else 0) := by
  have h1 : (insertEach x P).countP (fun Q => Q.length == k) = if P.length = k then k else 0 := by
    by_cases hk : P.length = k
    · rw [if_pos hk, List.countP_eq_length.mpr, insertEach_length, hk]
      exact fun Q hQ => by rw [length_of_mem_insertEach x P Q hQ, hk]; exact beq_self_eq_true k
    · rw [if_neg hk, List.countP_eq_zero]
      exact fun Q hQ => by rw [length_of_mem_insertEach x P Q hQ]; simpa using hk
  simp only [step, List.countP_cons, h1, List.length_append, List.length_singleton, beq_iff_eq]
  omega

/-- the recurrence `S(n+1, k) = S(n, k-1) + k · S(n, k)` on any list of parents -/
theorem flatMap_step_count (x : α) (L : List (List (List α))) (k : Nat) :
    (L.flatMap (step x)).countP (fun Q => Q.length == k) =
      L.countP (fun P => P.length + 1 == k) + k * L.countP (fun P => P.length == k) := by
  induction L with
  | nil => rfl
  | cons P L ih =>
    simp only [List.flatMap_cons, List.countP_append, step_count, ih, List.countP_cons, beq_iff_eq, Nat.mul_add]
    split <;> split <;> omega

theorem partsRev_count (r : List α) : ∀ k, (partsRev r).countP (fun P => P.length == k) = stirling2 r.length k := by
  induction r with
  | nil => intro k; cases k <;> rfl
  | cons x r ih =>
    intro k
    rw [partsRev, flatMap_step_count, ih k]
    cases k with
    | zero => simp [stirling2]
    | succ k =>
      simp only [Nat.reduceBeqDiff]
      rw [ih k, List.length_cons, stirling2]
      omega

theorem partsRev_block_count_le (r : List α) : ∀ P, P ∈ partsRev r → P.length ≤ r.length := by
  induction r with
  | nil => intro P hP; cases List.mem_singleton.mp hP; exact Nat.le_refl _
  | cons x r ih =>
    intro Q hQ
    obtain ⟨P, hP, hQ⟩ := List.mem_flatMap.mp hQ
    have := ih P hP
    rcases List.mem_cons.mp hQ with rfl | hQ
    · simp only [List.length_append, List.length_cons, List.length_nil]; omega
    · rw [length_of_mem_insertEach x P Q hQ, List.length_cons]; omega

theorem sumTo_indicator (m n : Nat) : sumTo (fun j => if m = j then 1 else 0) n = if m ≤ n then 1 else 0 := by
  induction n with
  | zero => simp only [sumTo, Nat.le_zero]
  | succ n ih => rw [sumTo, ih]; grind

theorem length_eq_sumTo_count (L : List (List (List α))) (n : Nat) (h : ∀ P, P ∈ L → P.length ≤ n) :
    L.length = sumTo (fun j => L.countP (fun P => P.length == j)) n := by
  induction L with
  | nil =>
    have : ∀ k, sumTo (fun _ => 0) k = 0 := fun k => by
      induction k with
      | zero => rfl
      | succ k ih => simp only [sumTo, ih]
    exact (this n).symm
  | cons a L ih =>
    simp only [List.length_cons, List.countP_cons, beq_iff_eq]
    rw [sumTo_add, ← ih fun P hP => h P (List.mem_cons_of_mem _ hP), sumTo_indicator,
      if_pos (h a List.mem_cons_self)]

theorem partsRev_length (r : List α) : (partsRev r).length = bell r.length := by
  rw [length_eq_sumTo_count (partsRev r) r.length (partsRev_block_count_le r), bell]
  congr 1
  funext j
  exact partsRev_count r j

end Pharmpy.C18
