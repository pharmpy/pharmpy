import PharmpyProofs.C18.Basic
/-
  C18 — `exhaustive_stepwise`: the created candidates are the allowed paths, layer by layer; what
  `_is_allowed` checks at one step holds between every two keys of a path.
-/
namespace Pharmpy.C18

theorem allowedFrom_append (funcs prev q r : List Key) :
    allowedFrom funcs prev (q ++ r) = (allowedFrom funcs prev q && allowedFrom funcs (prev ++ q) r) := by
  induction q generalizing prev with
  | nil => simp only [List.nil_append, allowedFrom, Bool.true_and, List.append_nil]
  | cons g q ih =>
    simp only [List.cons_append, allowedFrom, ih, List.append_assoc, List.nil_append, Bool.and_assoc]

theorem allowedPath_split (funcs q r : List Key) (f : Key) (h : allowedPath funcs (q ++ f :: r) = true) :
    allowedPath funcs q = true ∧ f ∈ funcs ∧ isAllowed funcs f q = true := by
  unfold allowedPath at h ⊢
  rw [allowedFrom_append] at h
  simp only [allowedFrom, List.nil_append, Bool.and_eq_true, List.contains_iff_mem] at h
  exact ⟨h.1, h.2.1.1, h.2.1.2⟩

theorem allowedPath_snoc (funcs q : List Key) (f : Key) :
    allowedPath funcs (q ++ [f]) = true ↔
      allowedPath funcs q = true ∧ f ∈ funcs ∧ isAllowed funcs f q = true := by
  unfold allowedPath
  rw [allowedFrom_append]
  simp only [allowedFrom, List.nil_append, Bool.and_true, Bool.and_eq_true, List.contains_iff_mem]

theorem allowedPath_prefix (funcs q r : List Key) (h : allowedPath funcs (q ++ r) = true) :
    allowedPath funcs q = true := by
  unfold allowedPath at h ⊢
  rw [allowedFrom_append, Bool.and_eq_true] at h
  exact h.1

/-- a relation that `_is_allowed` enforces between the new key and every earlier one holds along the path -/
theorem allowedPath_pairwise (funcs p : List Key) (h : allowedPath funcs p = true) (R : Key → Key → Prop)
    (hR : ∀ q f, isAllowed funcs f q = true → ∀ g, g ∈ q → R g f) : p.Pairwise R :=
  pairwise_of_splits p fun q f r e g hg => hR q f (allowedPath_split funcs q r f (e ▸ h)).2.2 g hg

theorem isAllowed_iff (funcs : List Key) (f : Key) (q : List Key) :
    isAllowed funcs f q = true ↔
      f ∉ q ∧
        if f.isPeripheral = true then isAllowedPeripheral funcs f q = true
        else
          f ∉ Gen.neverAllowed ∧ (∀ x, x ∈ q → ¬ x.kind = f.kind) ∧
            (q = [] ∨ ∀ a b, (a, b) ∈ Gen.notSupportedCombo → ∀ x, x ∈ q → comboHit (a, b) f x = false) := by
  simp [isAllowed]

theorem allowedPath_nodup_subset (funcs p : List Key) (h : allowedPath funcs p = true) : p.Nodup ∧ p ⊆ funcs := by
  refine ⟨allowedPath_pairwise funcs p h _ fun q f ha g hg e => ?_, fun x hx => ?_⟩
  · exact ((isAllowed_iff funcs f q).mp ha).1 (e ▸ hg)
  · obtain ⟨q, r, rfl⟩ := List.append_of_mem hx
    exact (allowedPath_split funcs q r x h).2.1

theorem allowedPath_length_le (funcs p : List Key) (h : allowedPath funcs p = true) : p.length ≤ funcs.length :=
  (allowedPath_nodup_subset funcs p h).1.length_le_of_subset (allowedPath_nodup_subset funcs p h).2

theorem mem_extendPath (funcs q p : List Key) :
    p ∈ extendPath funcs q ↔ ∃ f, f ∈ funcs ∧ isAllowed funcs f q = true ∧ p = q ++ [f] := by
  simp only [extendPath, List.mem_map, List.mem_filter, and_assoc, eq_comm]

theorem mem_layer (funcs : List Key) (k : Nat) (p : List Key) :
    p ∈ layer funcs k ↔ allowedPath funcs p = true ∧ p.length = k := by
  induction k generalizing p with
  | zero =>
    simp only [layer, List.mem_singleton, List.length_eq_zero_iff]
    exact ⟨fun h => ⟨h ▸ rfl, h⟩, And.right⟩
  | succ k ih =>
    simp only [layer, nextLayer, List.mem_flatMap, mem_extendPath]
    constructor
    · rintro ⟨q, hq, f, hf, ha, rfl⟩
      obtain ⟨h1, h2⟩ := (ih q).mp hq
      exact ⟨(allowedPath_snoc funcs q f).mpr ⟨h1, hf, ha⟩, by simp [h2]⟩
    · rintro ⟨hp, hlen⟩
      rcases List.eq_nil_or_concat p with rfl | ⟨q, f, rfl⟩
      · cases hlen
      · rw [List.concat_eq_append] at hp hlen ⊢
        obtain ⟨h1, hf, ha⟩ := (allowedPath_snoc funcs q f).mp hp
        exact ⟨q, (ih q).mpr ⟨h1, by simpa using hlen⟩, f, hf, ha, rfl⟩

/-- an empty sweep ends the loop, but then no longer allowed path exists either: prefixes of allowed paths are allowed -/
theorem mem_stepwiseAux (funcs : List Key) (fuel k : Nat) (p : List Key) :
    p ∈ stepwiseAux funcs fuel (layer funcs k) ↔
      allowedPath funcs p = true ∧ k < p.length ∧ p.length ≤ k + fuel := by
  induction fuel generalizing k with
  | zero => simp only [stepwiseAux, List.not_mem_nil, false_iff]; omega
  | succ fuel ih =>
    simp only [stepwiseAux]
    rw [show nextLayer funcs (layer funcs k) = layer funcs (k + 1) from rfl]
    by_cases he : (layer funcs (k + 1)).isEmpty = true
    · rw [if_pos he]
      simp only [List.not_mem_nil, false_iff]
      rintro ⟨ha, h1, _⟩
      have hpre : p.take (k + 1) ∈ layer funcs (k + 1) :=
        (mem_layer funcs _ _).mpr ⟨allowedPath_prefix funcs _ (p.drop (k + 1)) (by rwa [List.take_append_drop]),
          by rw [List.length_take]; omega⟩
      rw [List.isEmpty_iff.mp he] at hpre
      cases hpre
    · rw [if_neg he, List.mem_append, ih (k + 1), mem_layer, ← and_or_left]
      exact and_congr_right fun _ => by omega

theorem mem_stepwiseAux_root (funcs : List Key) (fuel : Nat) (hf : funcs.length + 1 ≤ fuel) (p : List Key) :
    p ∈ stepwiseAux funcs fuel [[]] ↔ allowedPath funcs p = true ∧ p ≠ [] := by
  rw [show ([[]] : List (List Key)) = layer funcs 0 from rfl, mem_stepwiseAux, ← List.length_pos_iff]
  exact ⟨fun ⟨ha, h1, _⟩ => ⟨ha, h1⟩, fun ⟨ha, h1⟩ => ⟨ha, h1, by have := allowedPath_length_le funcs p ha; omega⟩⟩

theorem isPeripheral_iff (f : Key) : f.isPeripheral = true ↔ f.kind = "PERIPHERALS" := by
  simp [Key.isPeripheral]

theorem comboHit_symm (c : List String × List String) (f g : Key) : comboHit c f g = comboHit c g f := by
  simp only [comboHit]
  rw [Bool.or_comm]
  congr 1 <;> rw [Bool.and_comm]

theorem isPrefixOf_kind (l : List String) (f : Key) (hl : l ≠ []) (h : l.isPrefixOf f = true) :
    f.kind = l.headD "" := by
  cases l with
  | nil => exact absurd rfl hl
  | cons a l =>
    cases f with
    | nil => cases h
    | cons b f =>
      simp only [List.isPrefixOf, Bool.and_eq_true, beq_iff_eq] at h
      simp [Key.kind, h.1]

/-- the exclusion table and the literal early exits never mention PERIPHERALS
    (re-checked against the regenerated table on every run) -/
theorem tables_have_no_peripherals :
    (∀ c, c ∈ Gen.notSupportedCombo →
      c.1 ≠ [] ∧ c.1.headD "" ≠ "PERIPHERALS" ∧ c.2 ≠ [] ∧ c.2.headD "" ≠ "PERIPHERALS") ∧
    (∀ k, k ∈ Gen.neverAllowed → Key.isPeripheral k = false) := by
  decide

theorem comboHit_peripheral (c : List String × List String) (hc : c ∈ Gen.notSupportedCombo) (f g : Key)
    (hf : f.isPeripheral = true) : comboHit c f g = false := by
  obtain ⟨h1, h2, h3, h4⟩ := tables_have_no_peripherals.1 c hc
  have hk := (isPeripheral_iff f).mp hf
  have e1 : c.1.isPrefixOf f = false :=
    Bool.eq_false_iff.mpr fun h => h2 ((isPrefixOf_kind c.1 f h1 h).symm.trans hk)
  have e2 : c.2.isPrefixOf f = false :=
    Bool.eq_false_iff.mpr fun h => h4 ((isPrefixOf_kind c.2 f h3 h).symm.trans hk)
  simp only [comboHit, e1, e2, Bool.false_and, Bool.or_self]

theorem extendPath_nodup (funcs q : List Key) (hf : funcs.Nodup) : (extendPath funcs q).Nodup :=
  List.Pairwise.map _ (fun _ _ hab h => hab (List.singleton_inj.mp (List.append_cancel_left h)))
    (hf.sublist List.filter_sublist)

theorem layer_nodup (funcs : List Key) (hf : funcs.Nodup) : ∀ k, (layer funcs k).Nodup := by
  intro k
  induction k with
  | zero => exact List.pairwise_singleton _ _
  | succ k ih =>
    show List.Pairwise (· ≠ ·) _
    simp only [layer, nextLayer, List.pairwise_flatMap]
    refine ⟨fun q _ => extendPath_nodup funcs q hf, ih.imp ?_⟩
    intro q1 q2 hne x hx y hy hxy
    obtain ⟨f1, _, _, rfl⟩ := (mem_extendPath funcs q1 x).mp hx
    obtain ⟨f2, _, _, rfl⟩ := (mem_extendPath funcs q2 y).mp hy
    exact hne (List.append_inj' hxy rfl).1

theorem stepwiseAux_nodup (funcs : List Key) (hf : funcs.Nodup) (fuel k : Nat) :
    (stepwiseAux funcs fuel (layer funcs k)).Nodup := by
  induction fuel generalizing k with
  | zero => exact List.nodup_nil
  | succ fuel ih =>
    simp only [stepwiseAux]
    rw [show nextLayer funcs (layer funcs k) = layer funcs (k + 1) from rfl]
    split
    · exact List.nodup_nil
    · refine List.nodup_append.mpr ⟨layer_nodup funcs hf (k + 1), ih (k + 1), ?_⟩
      rintro a ha _ hb rfl
      have l1 := ((mem_layer funcs _ a).mp ha).2
      have l2 := ((mem_stepwiseAux funcs fuel (k + 1) a).mp hb).2.1
      omega

end Pharmpy.C18
