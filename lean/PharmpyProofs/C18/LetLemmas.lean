import PharmpyModel.C18.Let
/- C18 — helper lemmas for LetProperties.lean (interpreters commute with the definition lookup / statement filters). -/
namespace Pharmpy.C18

theorem covsOf_interpret (ts : List LStmt) : covsOf (interpret ts) = (covsOf ts).map interpCov := by
  induction ts with
  | nil => rfl
  | cons t ts ih =>
    cases t with
    | letDef n v => simpa [interpret, interpStmt, covsOf] using ih
    | cov c => simpa [interpret, interpStmt, covsOf] using ih

theorem lookupDef_interpret (ts : List LStmt) (x : String) :
    lookupDef (interpret ts) x = (lookupDef ts x).map (·.map upper) := by
  induction ts with
  | nil => rfl
  | cons t ts ih =>
    cases t with
    | letDef n v =>
      have ih' : lookupDef (List.map interpStmt ts) x = (lookupDef ts x).map (·.map upper) := ih
      simp only [interpret, List.map_cons, interpStmt, lookupDef, ih']
      cases lookupDef ts x with
      | some w => simp
      | none => by_cases h : n = x <;> simp [h]
    | cov c => simpa [interpret, interpStmt, lookupDef] using ih

theorem covsOf_map_cov (l : List Cov) (f : Cov → Cov) :
    covsOf (l.map fun c => LStmt.cov (f c)) = l.map f := by
  induction l with
  | nil => rfl
  | cons c l ih => simp [covsOf, ih]

theorem lookupDef_map_cov (l : List Cov) (f : Cov → Cov) (x : String) :
    lookupDef (l.map fun c => LStmt.cov (f c)) x = none := by
  induction l with
  | nil => rfl
  | cons c l ih => simp [lookupDef, ih]

theorem covsOf_explicit (ts : List LStmt) :
    covsOf (interpret (explicit ts)) = (covsOf ts).map fun c =>
      interpCov { c with parameter := explicitSym ts c.parameter, covariate := explicitSym ts c.covariate } := by
  rw [covsOf_interpret, explicit, covsOf_map_cov, List.map_map]
  rfl

theorem lookupDef_explicit' (ts : List LStmt) (x : String) : lookupDef (explicit ts) x = none := by
  rw [explicit, lookupDef_map_cov]

theorem lookupDef_explicit (ts : List LStmt) (x : String) : lookupDef (interpret (explicit ts)) x = none := by
  rw [lookupDef_interpret, lookupDef_explicit']
  rfl

theorem symVals_explicit (env : Env) (ts : List LStmt) (wild : List String) (s : CSym) :
    symVals env (interpret ts) wild (interpSym s)
      = symVals env (interpret (explicit ts)) wild (interpSym (explicitSym ts s)) := by
  cases s with
  | vals l => simp [interpSym, explicitSym, symVals]
  | wild => simp [interpSym, explicitSym, symVals]
  | ref name =>
    cases h : lookupDef ts name with
    | some v => simp [interpSym, explicitSym, symVals, lookupDef_interpret, h]
    | none => simp [interpSym, explicitSym, symVals, lookupDef_interpret, lookupDef_explicit', h]

end Pharmpy.C18
