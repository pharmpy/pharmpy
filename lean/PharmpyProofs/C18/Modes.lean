import PharmpyProofs.C18.Basic
/-
  C18 — the single-attribute statement classes (Absorption, Elimination, LagTime): `+`, `-`, `==`
  against the sets of expanded modes.
-/
namespace Pharmpy.C18

theorem filterNotIn_names (xs b : List String) :
    filterNotIn xs (.names b) = .ok (xs.filter fun a => !b.contains a) := by
  cases xs <;> rfl

theorem mem_filter_not_contains (xs b : List String) (x : String) :
    x ∈ xs.filter (fun a => !b.contains a) ↔ x ∈ xs ∧ x ∉ b := by
  simp only [List.mem_filter, Bool.not_eq_true', List.contains_eq_mem, decide_eq_false_iff_not]

theorem mem_ite_dedup (c : Bool) (l : List String) (x : String) :
    x ∈ (if c then dedup l else l) ↔ x ∈ l := by
  cases c
  · exact Iff.rfl
  · exact mem_dedup x l

/-- a tuple `d` with known members, replaced by the 1-tuple `(s,)` when empty -/
theorem orDefault_spec (d : List String) (s : String) (P : String → Prop) (hd : ∀ x, x ∈ d ↔ P x) :
    ((∃ x, P x) → ∀ x, x ∈ (if d.isEmpty then [s] else d) ↔ P x) ∧
      ((¬ ∃ x, P x) → (if d.isEmpty then [s] else d) = [s]) := by
  cases d with
  | nil => exact ⟨fun ⟨x, hx⟩ => absurd ((hd x).mpr hx) List.not_mem_nil, fun _ => rfl⟩
  | cons y ys => exact ⟨fun _ => hd, fun hno => absurd ⟨y, (hd y).mp List.mem_cons_self⟩ hno⟩

theorem modesAdd_names (k : ModeKind) (a b : List String) :
    ∃ r, modesAdd k (.names a) (.names b) = .ok (.names r) ∧ ∀ x, x ∈ r ↔ x ∈ a ∨ x ∈ b := by
  refine ⟨if k.addDedup then dedup (a ++ b.filter fun y => !a.contains y)
    else a ++ b.filter fun y => !a.contains y, ?_, fun x => ?_⟩
  · simp only [modesAdd, Modes.isWild, Bool.or_self, Bool.false_eq_true, if_false, Modes.iter,
      filterNotIn_names, bind, Except.bind]
  · rw [mem_ite_dedup, List.mem_append, mem_filter_not_contains]
    by_cases hx : x ∈ a <;> simp only [hx, true_or, false_or, not_false_eq_true, and_true]

theorem modesAdd_wild (k : ModeKind) (a b : Modes) (h : a.isWild = true ∨ b.isWild = true) :
    modesAdd k a b = .ok .wild := by
  simp only [modesAdd, Bool.or_eq_true, h, if_true]

/-- a wildcard or a tuple: what `.eval` turns into a tuple -/
def Modes.NotBare (m : Modes) : Prop := m = .wild ∨ ∃ l, m = .names l

theorem valid_expand_subset (wc : List String) (m : Modes) (hv : m.valid wc = true) (hm : m.NotBare) :
    ∀ x, x ∈ m.expand wc → x ∈ wc := by
  rcases hm with rfl | ⟨l, rfl⟩
  · exact fun _ h => h
  · simpa only [Modes.valid, Modes.expand, List.all_eq_true, List.contains_iff_mem] using hv

theorem modesAdd_expand (k : ModeKind) (a b m : Modes) (h : modesAdd k a b = .ok m)
    (ha : a.NotBare) (hb : b.NotBare) (hva : a.valid k.wildcard = true) (hvb : b.valid k.wildcard = true)
    (x : String) : x ∈ m.expand k.wildcard ↔ x ∈ a.expand k.wildcard ∨ x ∈ b.expand k.wildcard := by
  have va := valid_expand_subset k.wildcard a hva ha x
  have vb := valid_expand_subset k.wildcard b hvb hb x
  rcases ha with rfl | ⟨al, rfl⟩
  · cases (modesAdd_wild k .wild b (Or.inl rfl)).symm.trans h
    exact ⟨Or.inl, fun h => h.elim id vb⟩
  · rcases hb with rfl | ⟨bl, rfl⟩
    · cases (modesAdd_wild k (.names al) .wild (Or.inr rfl)).symm.trans h
      exact ⟨Or.inr, fun h => h.elim va id⟩
    · obtain ⟨r, hr, hmem⟩ := modesAdd_names k al bl
      cases hr.symm.trans h
      exact hmem x

theorem modesSub_wild_rhs (k : ModeKind) (a : Modes) : modesSub k a .wild = .ok (.names [k.subDefault]) :=
  rfl

theorem modesSub_spec (k : ModeKind) (a : Modes) (b : List String) (ha : a.NotBare) :
    ∃ r, modesSub k a (.names b) = .ok (.names r) ∧
      ((∃ x, x ∈ a.expand k.wildcard ∧ x ∉ b) → ∀ x, x ∈ r ↔ x ∈ a.expand k.wildcard ∧ x ∉ b) ∧
      ((¬ ∃ x, x ∈ a.expand k.wildcard ∧ x ∉ b) → r = [k.subDefault]) := by
  rcases ha with rfl | ⟨l, rfl⟩
  · refine ⟨_, ?_, orDefault_spec (k.wildcard.filter fun y => !b.contains y) _ _
      (mem_filter_not_contains k.wildcard b)⟩
    simp only [modesSub, Modes.isWild, Bool.false_eq_true, if_false, if_true, filterNotIn_names,
      bind, Except.bind]
  · refine ⟨_, ?_, orDefault_spec
      (if k.subDedup then dedup (l.filter fun y => !b.contains y) else l.filter fun y => !b.contains y)
      _ _ fun x => (mem_ite_dedup _ _ x).trans (mem_filter_not_contains l b x)⟩
    simp only [modesSub, Modes.isWild, Bool.false_eq_true, if_false, Modes.iter, filterNotIn_names,
      bind, Except.bind, pure, Except.pure]

theorem iter_ok {m : Modes} {l : List String} (h : m.iter = .ok l) : m = .names l := by
  cases m <;> cases h <;> rfl

theorem modesEq_ok (a b : Modes) (r : Bool) (h : modesEq a b = .ok r) :
    ∃ al bl, a = .names al ∧ b = .names bl ∧ r = setEq al bl := by
  unfold modesEq at h
  obtain ⟨al, ha, h⟩ := bind_eq_ok.mp h
  obtain ⟨bl, hb, h⟩ := bind_eq_ok.mp h
  exact ⟨al, bl, iter_ok ha, iter_ok hb, (pure_eq_ok.mp h).symm⟩

end Pharmpy.C18
