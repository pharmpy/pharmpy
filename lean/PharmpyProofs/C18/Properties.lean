import PharmpyProofs.C18.Lemmas
/-
  C18 — Search spaces are parsed, combined and enumerated exactly.  Property theorems only.

  A set partition is identified with the equivalence relation "in a common block" (`Rel`);
  a search space with its explicitly expanded feature atoms (`MF.atoms`).
-/
namespace Pharmpy.C18

/-! ## partitions.py -/

/-- Everything `_partitions` yields is a set partition of the input: non-empty blocks
    whose concatenation is a permutation of the input. -/
theorem raw_partitions_are_partitions {α : Type} (l : List α) :
    ∀ P, P ∈ rawPartitions l → IsPartition l P := by
  intro P hP
  have h := partsRev_isPartition l.reverse P hP
  exact ⟨h.1, h.2.trans (List.reverse_perm l)⟩

/-- Completeness: every equivalence relation on the elements (= every set partition)
    is the block relation of one of the yielded partitions. -/
theorem raw_partitions_complete {α : Type} (l : List α) (hl : l.Nodup)
    (R : α → α → Prop) (hR : Equivalence R) :
    ∃ P, P ∈ rawPartitions l ∧ ∀ a, a ∈ l → ∀ b, b ∈ l → (Rel P a b ↔ R a b) := by
  obtain ⟨P, hP, h⟩ := partsRev_complete l.reverse ((List.reverse_perm l).nodup_iff.mpr hl) R hR
  exact ⟨P, hP, fun a ha b hb => h a (List.mem_reverse.mpr ha) b (List.mem_reverse.mpr hb)⟩

/-- No duplicates: two different positions of the output never describe the same set
    partition (they differ on some pair of elements). -/
theorem raw_partitions_distinct {α : Type} (l : List α) (hl : l.Nodup) :
    (rawPartitions l).Pairwise (Differ l) := by
  refine (partsRev_pairwise_differ l.reverse ((List.reverse_perm l).nodup_iff.mpr hl)).imp ?_
  rintro P Q ⟨a, ha, b, hb, h⟩
  exact ⟨a, List.mem_reverse.mp ha, b, List.mem_reverse.mp hb, h⟩

/-- The number of yielded partitions with exactly `k` blocks is the Stirling number of the
    second kind, for every list (duplicate-free or not). -/
theorem raw_partitions_count_stirling {α : Type} (l : List α) (k : Nat) :
    (rawPartitions l).countP (fun P => P.length == k) = stirling2 l.length k := by
  unfold rawPartitions
  rw [partsRev_count, List.length_reverse]

theorem raw_partitions_count_bell {α : Type} (l : List α) :
    (rawPartitions l).length = bell l.length := by
  unfold rawPartitions
  rw [partsRev_length, List.length_reverse]

example : (List.range 8).map bell = [1, 1, 2, 5, 15, 52, 203, 877] := by decide

theorem partitions_perm (l : List Nat) :
    (partitions l).Perm ((rawPartitions l).map shortlexSorted) :=
  List.mergeSort_perm _ _

theorem shortlexSorted_perm (P : List (List Nat)) : (shortlexSorted P).Perm P :=
  List.mergeSort_perm _ _

/-- Every element of `partitions l` is a set partition of `l`. -/
theorem partitions_are_partitions (l : List Nat) :
    ∀ P, P ∈ partitions l → IsPartition l P := by
  intro P hP
  have hP' := (partitions_perm l).mem_iff.mp hP
  obtain ⟨Q, hQ, rfl⟩ := List.mem_map.mp hP'
  have h := raw_partitions_are_partitions l Q hQ
  have hp := shortlexSorted_perm Q
  exact ⟨fun p hp' => h.1 p (hp.mem_iff.mp hp'), hp.flatten.trans h.2⟩

/-- `partitions` enumerates every set partition of a duplicate-free list … -/
theorem partitions_complete (l : List Nat) (hl : l.Nodup) (R : Nat → Nat → Prop) (hR : Equivalence R) :
    ∃ P, P ∈ partitions l ∧ ∀ a, a ∈ l → ∀ b, b ∈ l → (Rel P a b ↔ R a b) := by
  obtain ⟨Q, hQ, h⟩ := raw_partitions_complete l hl R hR
  refine ⟨shortlexSorted Q, (partitions_perm l).mem_iff.mpr (List.mem_map.mpr ⟨Q, hQ, rfl⟩), ?_⟩
  intro a ha b hb
  rw [rel_of_perm (shortlexSorted_perm Q)]
  exact h a ha b hb

/-- … exactly once. -/
theorem partitions_distinct (l : List Nat) (hl : l.Nodup) :
    (partitions l).Pairwise (Differ l) := by
  have h1 : ((rawPartitions l).map shortlexSorted).Pairwise (Differ l) := by
    rw [List.pairwise_map]
    refine (raw_partitions_distinct l hl).imp ?_
    rintro P Q ⟨a, ha, b, hb, h⟩
    refine ⟨a, ha, b, hb, ?_⟩
    rw [rel_of_perm (shortlexSorted_perm P), rel_of_perm (shortlexSorted_perm Q)]
    exact h
  refine (partitions_perm l).symm.pairwise h1 ?_
  rintro P Q ⟨a, ha, b, hb, h⟩
  exact ⟨a, ha, b, hb, fun h' => h h'.symm⟩

/-- In particular the output list has no repeated entry. -/
theorem partitions_nodup (l : List Nat) (hl : l.Nodup) : (partitions l).Nodup := by
  refine (partitions_distinct l hl).imp ?_
  rintro P Q ⟨a, _, b, _, h⟩ rfl
  exact h Iff.rfl

theorem partitions_count_bell (l : List Nat) : (partitions l).length = bell l.length := by
  rw [(partitions_perm l).length_eq, List.length_map, raw_partitions_count_bell]

/-! ## subsets.py -/

/-- `itertools.combinations(l, r)` as used by `subsets`: exactly the sub-lists (in position
    order) of length `r` … -/
theorem combinations_spec {α : Type} (r : Nat) (l s : List α) :
    s ∈ combs r l ↔ s.Sublist l ∧ s.length = r := combs_mem_iff r l s

/-- … each once … -/
theorem combinations_nodup {α : Type} (r : Nat) (l : List α) (hl : l.Nodup) : (combs r l).Nodup :=
  combs_nodup r l hl

/-- … `C(n, r)` of them. -/
theorem combinations_count {α : Type} (r : Nat) (l : List α) :
    (combs r l).length = choose l.length r := by
  induction l generalizing r with
  | nil => cases r <;> rfl
  | cons x xs ih => cases r <;> simp [combs, choose, ih]

/-- `subsets(l, a, b)` for `0 ≤ a`, `0 ≤ b`: it does not raise, and yields exactly the
    sub-lists of `l` whose length is in `[a, b]`, each once. -/
theorem subsets_spec {α : Type} (l : List α) (a b : Nat) :
    ∃ L, subsets l (a : Int) (b : Int) = .ok L ∧
      (∀ s, s ∈ L ↔ s.Sublist l ∧ a ≤ s.length ∧ s.length ≤ b) ∧ (l.Nodup → L.Nodup) :=
  ⟨subsetsL l a b, subsets_core l a b b (if_neg (by omega)), fun s => mem_subsetsL l s a b, subsetsL_nodup l a b⟩

/-- A negative `max_size` is relative to the length: `-1 - k` means `len(l) - k`. -/
theorem subsets_relative_max {α : Type} (l : List α) (a k : Nat) (hk : k ≤ l.length) :
    subsets l (a : Int) (-1 - (k : Int)) = .ok (subsetsL l a (l.length - k)) :=
  subsets_core l a (l.length - k) (-1 - (k : Int)) (by
    have : (-1 - (k : Int)) < 0 := by omega
    simp only [this, if_true]; omega)

/-- A requested negative size reaches `itertools.combinations` and raises `ValueError`. -/
theorem subsets_negative_min_raises {α : Type} (l : List α) (a : Nat) (b : Nat) :
    subsets l (-(a : Int) - 1) (b : Int) = .error .valueError := by
  have h1 : ¬ ((b : Int) < 0) := by omega
  have h2 : ((b : Int) + 1 - (-(a : Int) - 1)).toNat = (b + a + 1) + 1 := by omega
  -- the range is not empty and starts at the negative `min_size`
  have h3 : -(a : Int) - 1 + Int.ofNat 0 < 0 := by show -(a : Int) - 1 + 0 < 0; omega
  simp only [subsets, intRange, if_neg h1, h2]
  rw [List.range_succ_eq_map]
  simp only [List.map_cons, List.any_cons, h3, decide_true, Bool.true_or, if_true]

/-- `non_empty_subsets(l)`: never raises; exactly the non-empty sub-lists of `l`, each once;
    `2^n - 1` of them. -/
theorem non_empty_subsets_spec {α : Type} (l : List α) :
    ∃ L, nonEmptySubsets l = .ok L ∧
      (∀ s, s ∈ L ↔ s.Sublist l ∧ s ≠ []) ∧ (l.Nodup → L.Nodup) ∧ L.length = 2 ^ l.length - 1 := by
  refine ⟨subsetsL l 1 l.length, subsets_core l 1 l.length (-1) (by simp; omega), fun s => ?_,
    subsetsL_nodup l 1 l.length, ?_⟩
  · rw [mem_subsetsL_one]
    exact ⟨fun h => ⟨h.1, h.2.1⟩, fun h => ⟨h.1, h.2, h.1.length_le⟩⟩
  · -- all `2^n` sub-lists but the empty one
    have h := congrArg List.length (subsetsL_zero l l.length)
    rw [subsetsL_zero_length, sumTo_combs l _ (Nat.le_refl _), List.length_cons] at h
    omega

/-- `non_empty_proper_subsets(l)`: the non-empty sub-lists other than `l` itself. -/
theorem non_empty_proper_subsets_spec {α : Type} (l : List α) (hl : l ≠ []) :
    ∃ L, nonEmptyProperSubsets l = .ok L ∧
      (∀ s, s ∈ L ↔ s.Sublist l ∧ s ≠ [] ∧ s ≠ l) ∧ (l.Nodup → L.Nodup) := by
  have hlen : 1 ≤ l.length := List.length_pos_iff.mpr hl
  refine ⟨subsetsL l 1 (l.length - 1), ?_, fun s => ?_, subsetsL_nodup l 1 (l.length - 1)⟩
  · simpa [nonEmptyProperSubsets] using subsets_relative_max l 1 1 hlen
  · rw [mem_subsetsL_one]
    refine ⟨fun ⟨hs, hne, h2⟩ => ⟨hs, hne, fun e => ?_⟩, fun ⟨hs, hne, hnl⟩ => ⟨hs, hne, ?_⟩⟩
    · rw [e] at h2; omega
    · have := hs.length_le
      have : s.length ≠ l.length := fun h => hnl (hs.eq_of_length h)
      omega

/-! ## iivsearch -/

/-- `td_exhaustive_block_structure` drops nothing but the current block structure: every set
    partition of the etas whose block relation differs from the current one is a candidate … -/
theorem block_structures_all_but_current (etas : List Nat) (hl : etas.Nodup) (current : List (List Nat))
    (hc : IsPartition etas current) (R : Nat → Nat → Prop) (hR : Equivalence R)
    (hdiff : ∃ a, a ∈ etas ∧ ∃ b, b ∈ etas ∧ ¬ (R a b ↔ Rel current a b)) :
    ∃ P, P ∈ blockStructureCandidates etas current ∧ ∀ a, a ∈ etas → ∀ b, b ∈ etas → (Rel P a b ↔ R a b) := by
  obtain ⟨P, hP, hrel⟩ := partitions_complete etas hl R hR
  refine ⟨P, ?_, hrel⟩
  simp only [blockStructureCandidates, List.mem_filter, hP, true_and, Bool.not_eq_true', isRvBlockStructure]
  cases hall : current.all (P.contains ·) with
  | false => rfl
  | true =>
    exfalso
    rw [List.all_eq_true] at hall
    have hsub : ∀ c, c ∈ current → c ∈ P := fun c hc' => List.contains_iff_mem.mp (hall c hc')
    have hPpart := partitions_are_partitions etas P hP
    have hPnd : P.flatten.Nodup := hPpart.2.nodup_iff.mpr hl
    obtain ⟨a, ha, b, hb, hne⟩ := hdiff
    apply hne
    rw [← hrel a ha b hb]
    constructor
    · rintro ⟨q, hq, haq, hbq⟩
      -- the block of `current` containing `a` is a block of `P`, hence it is `q`
      obtain ⟨c, hc', hac⟩ := List.mem_flatten.mp (hc.2.mem_iff.mpr ha)
      have := block_unique P hPnd c q (hsub c hc') hq a hac haq
      subst this
      exact ⟨c, hc', hac, hbq⟩
    · rintro ⟨c, hc', hac, hbc⟩
      exact ⟨c, hsub c hc', hac, hbc⟩

/-- … the candidates are distinct set partitions, and the current structure is not among them. -/
theorem block_structures_distinct_without_current (etas : List Nat) (hl : etas.Nodup) (current : List (List Nat)) :
    (blockStructureCandidates etas current).Pairwise (Differ etas) ∧
      (∀ P, P ∈ blockStructureCandidates etas current → IsPartition etas P) ∧
      current ∉ blockStructureCandidates etas current := by
  refine ⟨(partitions_distinct etas hl).sublist List.filter_sublist, ?_, ?_⟩
  · intro P hP
    exact partitions_are_partitions etas P (List.mem_filter.mp hP).1
  · intro h
    have := (List.mem_filter.mp h).2
    simp [isRvBlockStructure] at this

/-! ## tools/mfl/helpers.py -/

/-- `itertools.product(*gs)`: exactly the tuples taking one element of every list … -/
theorem product_spec {β : Type} (gs : List (List β)) (t : List β) : t ∈ product gs ↔ pickOne t gs := by
  induction gs generalizing t with
  | nil =>
    simp only [product, List.mem_singleton]
    cases t <;> simp [pickOne]
  | cons g gs ih =>
    simp only [product, List.mem_flatMap, List.mem_map]
    cases t with
    | nil => simp [pickOne]
    | cons a t =>
      simp only [pickOne, ← ih]
      constructor
      · rintro ⟨a', ha, t', ht', h⟩
        cases h; exact ⟨ha, ht'⟩
      · rintro ⟨ha, ht⟩; exact ⟨a, ha, t, ht, rfl⟩

/-- … each once, `∏ len(g)` of them. -/
theorem product_nodup_count {β : Type} (gs : List (List β)) :
    ((∀ g, g ∈ gs → g.Nodup) → (product gs).Nodup) ∧
      (product gs).length = (gs.map List.length).foldr (· * ·) 1 := by
  constructor
  · intro h
    induction gs with
    | nil => simp [product]
    | cons g gs ih =>
      show List.Pairwise (· ≠ ·) _
      simp only [product, List.pairwise_flatMap]
      have hg := h g List.mem_cons_self
      have hgs := ih (fun g' hg' => h g' (List.mem_cons_of_mem _ hg'))
      refine ⟨fun a _ => List.Pairwise.map _ (fun x y hxy e => hxy (List.tail_eq_of_cons_eq e)) hgs, ?_⟩
      refine List.Pairwise.imp ?_ hg
      intro a b hab x hx y hy hxy
      obtain ⟨_, _, rfl⟩ := List.mem_map.mp hx
      obtain ⟨_, _, rfl⟩ := List.mem_map.mp hy
      exact hab (List.head_eq_of_cons_eq hxy)
  · induction gs with
    | nil => simp [product]
    | cons g gs ih =>
      simp only [product, List.length_flatMap, List.length_map, ih, List.map_cons, List.foldr_cons]
      simp [List.map_const', List.sum_replicate_nat]

/-- `_group_incompatible_features`, whatever the key order of the function table: the group names are
    distinct, the group of a category is exactly its keys (in table order, non-empty), and every
    key's category has a group. -/
theorem feature_groups_are_the_categories (keys : List Key) :
    ((groupByKind keys).map (·.1)).Nodup ∧
      (∀ e, e ∈ groupByKind keys → e.2 = keys.filter (fun k => k.kind == e.1) ∧ e.2 ≠ []) ∧
      (∀ k, k ∈ keys → k.kind ∈ (groupByKind keys).map (·.1)) := by
  obtain ⟨h1, h2, h3⟩ := groupByKind_spec keys
  refine ⟨h1, fun e he => ?_, fun k hk => (h3 k.kind).mpr ⟨k, hk, rfl⟩⟩
  have he2 : e.2 = keys.filter (fun k => k.kind == e.1) := by rw [← h2, get_of_mem _ h1 e he]
  refine ⟨he2, fun hnil => ?_⟩
  obtain ⟨k, hk, hke⟩ := (h3 e.1).mp (List.mem_map_of_mem he)
  have : k ∈ e.2 := he2 ▸ List.mem_filter.mpr ⟨hk, by simpa using hke⟩
  rw [hnil] at this
  cases this

/-- The grouping does not depend on the key order: permuting the table permutes nothing but the
    order inside and between the groups. -/
theorem feature_groups_order_invariant (k1 k2 : List Key) (h : k1.Perm k2) :
    ∀ e1, e1 ∈ groupByKind k1 → ∃ e2, e2 ∈ groupByKind k2 ∧ e2.1 = e1.1 ∧ e1.2.Perm e2.2 := by
  intro e1 he1
  obtain ⟨n1, g1, m1⟩ := groupByKind_spec k1
  obtain ⟨n2, g2, m2⟩ := groupByKind_spec k2
  -- a key of the category of `e1` is in both tables, so `k2` has a group of that name
  obtain ⟨k, hk, hke⟩ := (m1 e1.1).mp (List.mem_map_of_mem he1)
  obtain ⟨e2, he2, h12⟩ := List.mem_map.mp ((m2 e1.1).mpr ⟨k, h.mem_iff.mp hk, hke⟩)
  refine ⟨e2, he2, h12, ?_⟩
  rw [← get_of_mem _ n1 e1 he1, ← get_of_mem _ n2 e2 he2, h12, g1, g2]
  exact h.filter _

/-- Every combination `all_combinations` / `exhaustive` yields is non-empty, uses keys of the table
    only and has at most one feature per category — for every key order of the table. -/
theorem all_combinations_one_per_category (keys : List Key) :
    ∀ c, c ∈ allCombinations keys →
      c ≠ [] ∧ (∀ k, k ∈ c → k ∈ keys) ∧ c.Pairwise (fun a b => a.kind ≠ b.kind) := by
  intro c hc
  simp only [allCombinations, List.mem_filter, List.mem_map] at hc
  obtain ⟨⟨t, ht, rfl⟩, hne⟩ := hc
  obtain ⟨g1, g2, _⟩ := feature_groups_are_the_categories keys
  have hkind : ∀ e, e ∈ groupByKind keys → ∀ k, k ∈ e.2 → k.kind = e.1 := by
    intro e he k hk
    rw [(g2 e he).1] at hk
    simpa using (List.mem_filter.mp hk).2
  obtain ⟨p1, p2⟩ := pick_groups (groupByKind keys) g1 hkind t ((product_spec _ t).mp ht)
  refine ⟨by intro h; simp [h] at hne, ?_, p2⟩
  intro k hk
  obtain ⟨e, he, hke⟩ := p1 k hk
  rw [(g2 e he).1] at hke
  exact (List.mem_filter.mp hke).1

/-! ## MFL statement classes (Absorption, Elimination, LagTime) -/

/-- `a + b` on explicit mode tuples is the set union (for each of the three classes). -/
theorem stmt_add_is_union (k : ModeKind) (a b : List String) :
    ∃ r, modesAdd k (.names a) (.names b) = .ok (.names r) ∧ ∀ x, x ∈ r ↔ x ∈ a ∨ x ∈ b :=
  modesAdd_names k a b

/-- A wildcard operand gives the wildcard, whose expansion contains every valid mode. -/
theorem stmt_add_wildcard (k : ModeKind) (a b : Modes) (h : a.isWild = true ∨ b.isWild = true) :
    modesAdd k a b = .ok .wild := modesAdd_wild k a b h

/-- `a - b` on explicit mode tuples is the set difference; when that is empty the class default
    is re-inserted ("difference modulo defaults"). -/
theorem stmt_sub_is_difference_modulo_default (k : ModeKind) (a b : List String) :
    ∃ r, modesSub k (.names a) (.names b) = .ok (.names r) ∧
      ((∃ x, x ∈ a ∧ x ∉ b) → ∀ x, x ∈ r ↔ x ∈ a ∧ x ∉ b) ∧
      ((¬ ∃ x, x ∈ a ∧ x ∉ b) → r = [k.subDefault]) :=
  modesSub_spec k (.names a) b (Or.inr ⟨a, rfl⟩)

/-- `a == b` on explicit mode tuples is set equality. -/
theorem stmt_eq_is_set_equality (a b : List String) :
    ∃ r, modesEq (.names a) (.names b) = .ok r ∧ (r = true ↔ ∀ x, x ∈ a ↔ x ∈ b) :=
  ⟨setEq a b, rfl, setEq_iff a b⟩

/-- `a - b` is the set difference of the expanded modes, modulo the class default, also with wildcard
    operands (true since fix f9eda08; before, `x - *` stored a bare `Name`, for Elimination `INST`).
    `a` is a wildcard or a tuple of grammatical mode names, `b` a wildcard or any tuple. -/
theorem stmt_sub_is_difference_full (k : ModeKind) (a b : Modes)
    (ha : a = .wild ∨ ∃ l, a = .names l) (hb : b = .wild ∨ ∃ l, b = .names l) (hva : a.valid k.wildcard = true) :
    ∃ r, modesSub k a b = .ok (.names r) ∧
      ((∃ x, x ∈ a.expand k.wildcard ∧ x ∉ b.expand k.wildcard) →
        ∀ x, x ∈ r ↔ x ∈ a.expand k.wildcard ∧ x ∉ b.expand k.wildcard) ∧
      ((¬ ∃ x, x ∈ a.expand k.wildcard ∧ x ∉ b.expand k.wildcard) → r = [k.subDefault]) := by
  rcases hb with rfl | ⟨bl, rfl⟩
  · refine ⟨[k.subDefault], modesSub_wild_rhs k a, ?_, fun _ => rfl⟩
    rintro ⟨x, hx, hnx⟩
    exact absurd (valid_expand_subset k.wildcard a hva ha x hx) hnx
  · exact modesSub_spec k a bl ha

/-- in particular `x - *` is the class default as a 1-tuple, on which `len` works -/
theorem stmt_sub_wildcard_rhs (k : ModeKind) (a : Modes) :
    modesSub k a .wild = .ok (.names [k.subDefault]) ∧ Modes.len k (.names [k.subDefault]) = .ok 1 :=
  ⟨modesSub_wild_rhs k a, rfl⟩

/-- What remains false of the code with a wildcard operand: `==` raises (`set(self.modes)`). -/
theorem stmt_wildcard_witness :
    modesEq .wild (.names ["FO"]) = .error .typeError ∧
    modesSub eliminationKind (.names ["MM"]) .wild = .ok (.names ["FO"]) ∧
    ("FO" ∈ Gen.eliminationWildcard) := by
  decide +kernel

/-! ## ModelFeatures

The `_witness` and `_example` statements are checked by evaluating the model, which the
correspondence run ties to the code on the same inputs. -/

/-- `contain_subset` (after fix 87505a7), for every tool value and every pair of search spaces on
    which it does not raise: `True` exactly when every atom of `b` outside TRANSITS (and, for
    modelsearch/None, outside the metabolite peripherals) is an atom of `a` and `_subset_transits`
    succeeds.  The only deviation from set inclusion is the transits test (next theorem). -/
theorem contain_subset_iff (a b : MF) (modelsearch v : Bool) (h : a.containSubset b modelsearch = .ok v) :
    v = true ↔
      (∀ x, x ∈ b.atoms → x.isTrans = false → (modelsearch = true → x.isMetPeri = false) → x ∈ a.atoms) ∧
        subsetTransits a b = .ok true := by
  obtain ⟨s, d, m, hp, rfl⟩ := containSubset_parts a b modelsearch v h
  obtain ⟨hs, hd, hm, hvalid⟩ := containParts_spec a b s d m hp
  constructor
  · intro hv
    simp only [Bool.and_eq_true, Bool.or_eq_true] at hv
    obtain ⟨⟨hs', hd'⟩, hm'⟩ := hv
    obtain ⟨sa, se, st, sl⟩ := hs.mp hs'
    refine ⟨?_, st⟩
    intro x hx hnt hmet
    cases x with
    | abs y => exact sa y hx
    | elim y => exact se y hx
    | lag y => exact sl y hx
    | trans c d => cases hnt
    | peri c md =>
      rcases hvalid c md hx with rfl | rfl
      · exact hm'.elim (fun hms => nomatch hmet hms) fun hm'' => hm.mp hm'' c hx
      · exact hd.mp hd' c hx
  · rintro ⟨hall, st⟩
    have hs' : s = true := hs.mpr ⟨fun y hy => hall _ hy rfl (fun _ => rfl), fun y hy => hall _ hy rfl (fun _ => rfl), st,
      fun y hy => hall _ hy rfl (fun _ => rfl)⟩
    have hd' : d = true := hd.mpr (fun c hc => hall _ hc rfl (fun _ => rfl))
    have hm' : modelsearch = true ∨ m = true := by
      cases modelsearch with
      | true => exact Or.inl rfl
      | false => exact Or.inr (hm.mpr (fun c hc => hall _ hc rfl (fun h' => by cases h')))
    simp only [hs', hd', Bool.and_true, Bool.true_and, Bool.or_eq_true]
    exact hm'

/-- a true subset is reported for every tool; a missing metabolite peripheral matters exactly for the
    tools other than modelsearch -/
theorem contain_subset_fixed_example :
    let a := mfOf [.absorption (.names ["FO", "ZO"])]
    let b := mfOf [.absorption (.names ["FO"])]
    let bm := mfOf [.absorption (.names ["FO"]), .peripherals ⟨[1], .names ["MET"]⟩]
    MF.containSubset a b true = .ok true ∧ MF.containSubset a b false = .ok true ∧
      MF.containSubset a bm true = .ok true ∧ MF.containSubset a bm false = .ok false := by
  decide +kernel

/-- The remaining deviation: transit counts and depots are compared separately. -/
theorem contain_subset_transits_witness :
    let a := mfOf [.transits ⟨[1], .names ["DEPOT"]⟩, .transits ⟨[2], .names ["NODEPOT"]⟩]
    let b := mfOf [.transits ⟨[2], .names ["DEPOT"]⟩]
    Atom.trans 2 "DEPOT" ∈ b.atoms ∧ Atom.trans 2 "DEPOT" ∉ a.atoms ∧
      MF.containSubset a b true = .ok true ∧ MF.containSubset a b false = .ok true := by
  decide +kernel

/-- `Transits.__eq__` (after fix bfc9c9b) on explicit depots: a `bool`, true exactly when the count
    sets and the depot sets are equal. -/
theorem transits_eq_spec (c1 c2 : List Nat) (d1 d2 : List String) :
    ∃ r, Transits.eq ⟨c1, .names d1⟩ ⟨c2, .names d2⟩ = .ok r ∧
      (r = true ↔ (∀ x, x ∈ c1 ↔ x ∈ c2) ∧ (∀ x, x ∈ d1 ↔ x ∈ d2)) := by
  refine ⟨setEq c1 c2 && setEq d1 d2, rfl, ?_⟩
  rw [Bool.and_eq_true, setEq_iff, setEq_iff]

/-- `==` is not equality of the expanded spaces: it depends on how PERIPHERALS is split into
    statements. -/
theorem eq_peripherals_split_witness :
    let a := mfOf [.peripherals ⟨[0, 1], .names ["DRUG"]⟩]
    let b := mfOf [.peripherals ⟨[0], .names ["DRUG"]⟩, .peripherals ⟨[1], .names ["DRUG"]⟩]
    sameAtoms a.atoms b.atoms = true ∧ MF.eq a b = .ok false := by
  decide +kernel

/-- `==`, `-` raise on a wildcard; `+` raises on `PERIPHERALS(n,*)` (still present). -/
theorem wildcard_raises_witness :
    let a := mfOf [.absorption .wild]
    let b := mfOf [.absorption (.names ["FO"])]
    let p := mfOf [.peripherals ⟨[1], .wild⟩]
    MF.eq a b = .error .typeError ∧ (MF.sub a b).toOption = none ∧ (MF.add p b).toOption = none := by
  decide +kernel

/-- `least_number_of_transformations(tool='modelsearch')` (after fix e311de7) never returns a
    metabolite-peripheral key `('PERIPHERALS', n, 'METABOLITE')`, for all search spaces. -/
theorem lnt_modelsearch_pk_only (a b : MF) (ks : List Key) (h : MF.lnt a b true = .ok ks) :
    ∀ key, key ∈ ks → ¬ (key.kind = "PERIPHERALS" ∧ key.length = 3) := by
  unfold MF.lnt at h
  obtain ⟨k1, h1, h⟩ := bind_eq_ok.mp h
  obtain ⟨k2, h2, h⟩ := bind_eq_ok.mp h
  obtain ⟨k3, h3, h⟩ := bind_eq_ok.mp h
  obtain ⟨k4, h4, h⟩ := bind_eq_ok.mp h
  obtain ⟨k5, h5, h⟩ := bind_eq_ok.mp h
  cases pure_eq_ok.mp h
  intro key hk ⟨hkind, hlen⟩
  simp only [List.mem_append] at hk
  rcases hk with (((hk | hk) | hk) | hk) | hk
  · have := lntHelper_shape _ _ _ _ h1 key hk; omega
  · have := lntHelper_shape _ _ _ _ h2 key hk; omega
  · have := lntTransits_shape a b _ h3 key hk; rw [this] at hkind; exact absurd hkind (by decide)
  · have := lntPeripherals_drug_shape a b _ h4 key hk; omega
  · have := lntHelper_shape _ _ _ _ h5 key hk; omega

/-- modelsearch gets the pk transformation only, `tool=None` additionally the metabolite peripheral -/
theorem lnt_fixed_example :
    let a := mfOf [.absorption (.names ["FO"])]
    let b := mfOf [.absorption (.names ["ZO"]), .peripherals ⟨[1], .names ["MET"]⟩]
    MF.lnt a b true = .ok [["ABSORPTION", "ZO"]] ∧
      MF.lnt a b false = .ok [["ABSORPTION", "ZO"], ["PERIPHERALS", "1", "METABOLITE"]] := by
  decide +kernel

/-- where `+`, `-` do agree with set operations: a sample with every category, ranges and both
    depots (non-vacuity of the correspondence monitors `add-not-union` / `sub-not-difference-modulo-defaults`) -/
example :
    let a := mfOf [.absorption (.names ["FO", "ZO"]), .transits ⟨[0, 1, 3], .wild⟩, .peripherals ⟨[0, 1], .names ["DRUG"]⟩]
    let b := mfOf [.absorption (.names ["ZO", "INST"]), .transits ⟨[1], .names ["NODEPOT"]⟩, .transits ⟨[4], .names ["DEPOT"]⟩]
    (match MF.add a b with
      | .ok c => sameAtoms c.atoms (a.atoms ++ b.atoms)
      | .error _ => false) = true ∧
    (match MF.sub a b with
      | .ok c => sameAtoms c.atoms ((a.atoms.filter (fun x => !b.atoms.contains x)) ++ [Atom.elim "FO", Atom.lag "OFF"])
      | .error _ => false) = true := by
  decide +kernel

/-- `ModelFeatures.__add__`, for every pair of search spaces on which it does not raise: the result
    contains every atom of both operands, and nothing but those and the documented defaults that
    `create` inserts for a missing category. -/
theorem add_atoms_sandwich (a b c : MF) (h : MF.add a b = .ok c) (hva : a.valid = true) (hvb : b.valid = true) :
    (∀ x, x ∈ a.atoms ∨ x ∈ b.atoms → x ∈ c.atoms) ∧
      (∀ x, x ∈ c.atoms → x ∈ a.atoms ∨ x ∈ b.atoms ∨ x ∈ defaultAtoms) := by
  obtain ⟨A, E, L, T, P, hc, hm, _⟩ := add_spec a b c h hva hvb
  constructor
  · intro x hx
    exact (create_atoms A E T P L c hc x).1 ((hm x).mpr hx)
  · intro x hx
    rcases (create_atoms A E T P L c hc x).2 hx with h' | h'
    · exact ((hm x).mp h').imp_right Or.inl
    · exact Or.inr (Or.inr h')

/-- Clause `add_is_union` of DESIGN §6 C18 under the decidable side condition that the left operand
    has every PK category (which `create` establishes for every non-degenerate description):
    `atoms (a + b)` is exactly `atoms a ∪ atoms b`. -/
theorem add_is_union_partial (a b c : MF) (h : MF.add a b = .ok c) (hva : a.valid = true) (hvb : b.valid = true)
    (hfull : a.full = true) : ∀ x, x ∈ c.atoms ↔ x ∈ a.atoms ∨ x ∈ b.atoms := by
  obtain ⟨A, E, L, T, P, hc, hm, hA, hE, hL⟩ := add_spec a b c h hva hvb
  simp only [MF.full, Bool.and_eq_true, Bool.not_eq_true', List.isEmpty_eq_false_iff] at hfull
  obtain ⟨⟨⟨⟨fa, fe⟩, fl⟩, ft⟩, fp⟩ := hfull
  -- `a` has a transit and a peripheral atom, so the sum has transit and peripheral statements
  have hTne : T ≠ [] := by
    rintro rfl
    obtain ⟨x, hx⟩ := List.exists_mem_of_ne_nil _ ft
    obtain ⟨c', k', rfl⟩ := transits_atoms_only_trans _ x hx
    exact nomatch (mem_atoms _ _).mp ((hm _).mpr (Or.inl ((mem_atoms a (.trans c' k')).mpr hx)))
  have hPne : P ≠ [] := by
    rintro rfl
    obtain ⟨x, hx⟩ := List.exists_mem_of_ne_nil _ fp
    obtain ⟨c', k', rfl⟩ := peripherals_atoms_only_peri _ x hx
    exact nomatch (mem_atoms _ _).mp ((hm _).mpr (Or.inl ((mem_atoms a (.peri c' k')).mpr hx)))
  have := create_full A E T P L c hc (hA fa) (hE fe) (hL fl) hTne hPne
  subst this
  exact hm

/-- Without the side condition the full statement is false: `create` adds defaults. -/
theorem add_is_union_witness :
    let a : MF := ⟨some (.names ["FO"]), none, [], [], none⟩
    ∃ c, MF.add a a = .ok c ∧ Atom.elim "FO" ∈ c.atoms ∧ Atom.elim "FO" ∉ a.atoms := by
  refine ⟨⟨some (.names ["FO"]), some (.names ["FO"]), [⟨[0], .names ["DEPOT"]⟩], [⟨[0], .names ["DRUG"]⟩], some (.names ["OFF"])⟩, ?_⟩
  decide +kernel

/-- non-vacuity of `add_is_union_partial`: a parsed description with ranges, both depots through
    the wildcard and two peripheral kinds satisfies the side conditions and `+` does not raise -/
example :
    let a := mfOf [.absorption (.names ["FO", "ZO"]), .transits ⟨[0, 1, 3], .wild⟩,
                   .peripherals ⟨[0, 1], .names ["DRUG", "MET"]⟩]
    let b := mfOf [.elimination .wild, .transits ⟨[1], .names ["NODEPOT"]⟩, .transits ⟨[4], .names ["DEPOT"]⟩]
    a.valid = true ∧ b.valid = true ∧ a.full = true ∧ (MF.add a b).toOption.isSome = true := by
  decide +kernel

/-- `_add_sub_transits(add=False)` (used by `-`): the (count, depot) atoms of the result are the
    set difference, for all transit statements (wildcards, overlapping statements, …). -/
theorem sub_transits_is_difference (a b : MF) (ts : List Transits) (h : addSubTransits a b false = .ok ts)
    (c : Nat) (k : String) :
    Atom.trans c k ∈ ts.flatMap Transits.atoms ↔ Atom.trans c k ∈ a.atoms ∧ Atom.trans c k ∉ b.atoms := by
  rw [mem_atoms, mem_atoms]
  exact addSubTransits_spec a b false ts h c k

/-- `ModelFeatures.__sub__`, for every pair of search spaces on which it does not raise: every atom of
    `a` that is not an atom of `b` is in `a - b`, and `a - b` contains nothing else but re-inserted
    defaults (the class default of an emptied ABSORPTION/ELIMINATION/LAGTIME, or `create`'s). -/
theorem sub_is_difference_modulo_defaults (a b c : MF) (h : MF.sub a b = .ok c) :
    (∀ x, x ∈ a.atoms → x ∉ b.atoms → x ∈ c.atoms) ∧
      (∀ x, x ∈ c.atoms → (x ∈ a.atoms ∧ x ∉ b.atoms) ∨ x ∈ defaultAtoms) := by
  obtain ⟨A, E, L, T, P, hc, hs⟩ := sub_spec a b c h
  constructor
  · intro x hx hnx
    exact (create_atoms A E T P L c hc x).1 ((hs x).1 hx hnx)
  · intro x hx
    exact ((create_atoms A E T P L c hc x).2 hx).elim (hs x).2 Or.inr

/-- Plain set difference is false of the code: a category emptied by `==` is dropped (`a - a` is the
    empty space), one emptied by `-` gets the class default and `create` then fills in the rest. -/
theorem sub_defaults_witness :
    let a := mfOf [.absorption (.names ["FO"])]
    let b := mfOf [.absorption (.names ["FO", "ZO"])]
    (MF.sub a a).toOption.map MF.atoms = some [] ∧
      (MF.sub a b).toOption.map (fun c => sameAtoms c.atoms defaultAtoms) = some true := by
  decide +kernel

/-! ## modelsearch: `exhaustive_stepwise` -/

/-- `exhaustive_stepwise` creates exactly the non-empty root paths every step of which is accepted
    by `_is_allowed` given the features applied before it … -/
theorem stepwise_paths_exact (funcs p : List Key) :
    p ∈ exhaustiveStepwise funcs ↔ allowedPath funcs p = true ∧ p ≠ [] :=
  mem_stepwiseAux_root funcs _ (Nat.le_refl _) p

/-- … each path once (the key list of a dict has no duplicates). -/
theorem stepwise_each_path_once (funcs : List Key) (hf : funcs.Nodup) : (exhaustiveStepwise funcs).Nodup :=
  stepwiseAux_nodup funcs hf (funcs.length + 1) 0

/-- Termination of the `while True` loop: a path never repeats a key, so after
    `len(mfl_funcs) + 1` sweeps nothing is created any more; more sweeps change nothing. -/
theorem stepwise_fuel_irrelevant (funcs : List Key) (fuel : Nat) (hf : funcs.length + 1 ≤ fuel) (p : List Key) :
    p ∈ stepwiseAux funcs fuel [[]] ↔ p ∈ exhaustiveStepwise funcs :=
  (mem_stepwiseAux_root funcs fuel hf p).trans (stepwise_paths_exact funcs p).symm

/-- a path never repeats a feature and uses only features of the table -/
theorem stepwise_path_nodup (funcs p : List Key) (h : p ∈ exhaustiveStepwise funcs) : p.Nodup ∧ p ⊆ funcs :=
  allowedPath_nodup_subset funcs p ((stepwise_paths_exact funcs p).mp h).1

/-- One feature per category on a path: two features of one kind on a path are both
    PERIPHERALS. -/
theorem stepwise_one_feature_per_category (funcs p : List Key) (h : p ∈ exhaustiveStepwise funcs) :
    p.Pairwise (fun g f => g.kind = f.kind → g.isPeripheral = true ∧ f.isPeripheral = true) := by
  refine allowedPath_pairwise funcs p ((stepwise_paths_exact funcs p).mp h).1 _ fun q f ha g hg hk => ?_
  have := ((isAllowed_iff funcs f q).mp ha).2
  cases hp : Key.isPeripheral f with
  | false => rw [hp] at this; exact absurd hk (this.2.1 g hg)
  | true => exact ⟨by rw [isPeripheral_iff] at hp ⊢; rw [hk, hp], rfl⟩

/-- The documented incompatible combinations (and the in-code ones) never co-occur on a path. -/
theorem stepwise_excluded_pairs_never_cooccur (funcs p : List Key) (h : p ∈ exhaustiveStepwise funcs) :
    p.Pairwise (fun g f => ∀ c, c ∈ Gen.notSupportedCombo → comboHit c f g = false ∧ comboHit c g f = false) := by
  refine allowedPath_pairwise funcs p ((stepwise_paths_exact funcs p).mp h).1 _ fun q f ha g hg c hc => ?_
  suffices hfg : comboHit c f g = false from ⟨hfg, (comboHit_symm c g f).trans hfg⟩
  cases hp : Key.isPeripheral f with
  | true => exact comboHit_peripheral c hc f g hp
  | false =>
    have := ((isAllowed_iff funcs f q).mp ha).2
    rw [hp] at this
    rcases this.2.2 with rfl | hq
    · cases hg
    · exact hq c.1 c.2 hc g hg

/-- `TRANSITS(0, NODEPOT)` is never applied. -/
theorem stepwise_never_allowed_absent (funcs p : List Key) (h : p ∈ exhaustiveStepwise funcs) :
    ∀ f, f ∈ p → f ∉ Gen.neverAllowed := by
  intro f hf
  obtain ⟨q, r, rfl⟩ := List.append_of_mem hf
  have := ((isAllowed_iff funcs f q).mp (allowedPath_split funcs q r f ((stepwise_paths_exact funcs _).mp h).1).2.2).2
  cases hp : Key.isPeripheral f with
  | true => exact fun hm => nomatch hp.symm.trans (tables_have_no_peripherals.2 f hm)
  | false => rw [hp] at this; exact this.1

/-- The first peripheral feature on a path is the smallest count of the table. -/
theorem stepwise_first_peripheral_is_min (funcs q : List Key) (f : Key)
    (h : (q ++ [f]) ∈ exhaustiveStepwise funcs) (hf : f.isPeripheral = true)
    (hq : ∀ g, g ∈ q → g.isPeripheral = false) : f.arg0 = listMin (periCounts funcs) := by
  have := ((isAllowed_iff funcs f q).mp (allowedPath_split funcs q [] f ((stepwise_paths_exact funcs _).mp h).1).2.2).2
  have hnil : q.filter Key.isPeripheral = [] := List.filter_eq_nil_iff.mpr fun g hg => by simp [hq g hg]
  simpa only [hf, if_true, isAllowedPeripheral, hnil, List.isEmpty_nil, beq_iff_eq] using this

/-- "Peripheral compartments are added in increasing order, one at a time" is false of the code
    as soon as the table has three counts: `_is_allowed_peripheral` only looks at the table entry
    before `n`, not at what was applied. -/
theorem stepwise_peripherals_increasing_witness :
    let funcs : List Key := [["PERIPHERALS", "1"], ["PERIPHERALS", "2"], ["PERIPHERALS", "3"]]
    [["PERIPHERALS", "1"], ["PERIPHERALS", "3"]] ∈ exhaustiveStepwise funcs ∧
    [["PERIPHERALS", "1"], ["PERIPHERALS", "3"], ["PERIPHERALS", "2"]] ∈ exhaustiveStepwise funcs := by
  decide +kernel

/-- and a documented path is missing when the counts are not listed in ascending order -/
theorem stepwise_peripherals_listing_order_witness :
    let funcs : List Key := [["PERIPHERALS", "4"], ["PERIPHERALS", "0"]]
    [["PERIPHERALS", "0"], ["PERIPHERALS", "4"]] ∉ exhaustiveStepwise funcs ∧
    exhaustiveStepwise funcs = [[["PERIPHERALS", "0"]]] := by
  decide +kernel

/-- non-vacuity: the documented example of docs/modelsearch.rst has 15 candidates -/
example : (exhaustiveStepwise [["ABSORPTION", "ZO"], ["ELIMINATION", "MM"], ["PERIPHERALS", "1"]]).length = 15 := by
  decide +kernel

end Pharmpy.C18
