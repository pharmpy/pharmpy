import PharmpyModel.C18.Spec
/-
  C18 — shared tools: reading a successful `Except` computation, invariants of left folds, `Pairwise` from the
  splits of a list, an insertion-ordered dict of lists.
-/
namespace Pharmpy.C18

theorem bind_eq_ok {ε α β : Type} {x : Except ε α} {f : α → Except ε β} {b : β} :
    x >>= f = .ok b ↔ ∃ a, x = .ok a ∧ f a = .ok b := by
  cases x with
  | error e => exact ⟨fun h => (by cases h), fun ⟨_, h, _⟩ => (by cases h)⟩
  | ok a => exact ⟨fun h => ⟨a, rfl, h⟩, fun ⟨_, h, h'⟩ => by cases h; exact h'⟩

theorem pure_eq_ok {ε α : Type} {a b : α} : (pure a : Except ε α) = .ok b ↔ a = b :=
  ⟨fun h => by cases h; rfl, fun h => by rw [h]; rfl⟩

/-- the invariant speaks of the consumed prefix and the accumulator -/
theorem foldlM_ok_inv {ε α β : Type} {f : β → α → Except ε β} (I : List α → β → Prop)
    (step : ∀ pre a b b', I pre b → f b a = .ok b' → I (pre ++ [a]) b')
    {l : List α} {b b' : β} (h : l.foldlM f b = .ok b') (h0 : I [] b) : I l b' := by
  suffices ∀ pre b, I pre b → l.foldlM f b = .ok b' → I (pre ++ l) b' from this [] b h0 h
  clear h h0
  induction l with
  | nil => intro pre b hI h; cases h; rwa [List.append_nil]
  | cons a l ih =>
    intro pre b hI h
    rw [List.foldlM_cons] at h
    obtain ⟨b1, h1, h2⟩ := bind_eq_ok.mp h
    have := ih (pre ++ [a]) b1 (step pre a b b1 hI h1) h2
    rwa [List.append_assoc] at this

theorem foldl_inv {α β : Type} {f : β → α → β} (I : List α → β → Prop)
    (step : ∀ pre a b, I pre b → I (pre ++ [a]) (f b a)) (l : List α) {b : β} (h0 : I [] b) :
    I l (l.foldl f b) := by
  suffices ∀ pre b, I pre b → I (pre ++ l) (l.foldl f b) from this [] b h0
  induction l with
  | nil => intro pre b hI; rwa [List.append_nil]
  | cons a l ih =>
    intro pre b hI
    have := ih (pre ++ [a]) (f b a) (step pre a b hI)
    rwa [List.append_assoc] at this

theorem pairwise_of_splits {α : Type} {R : α → α → Prop} :
    ∀ (p : List α), (∀ q f r, p = q ++ f :: r → ∀ g, g ∈ q → R g f) → p.Pairwise R
  | [], _ => List.Pairwise.nil
  | a :: p, h => by
    refine List.Pairwise.cons (fun b hb => ?_) (pairwise_of_splits p fun q f r e => ?_)
    · obtain ⟨q, r, rfl⟩ := List.append_of_mem hb
      exact h (a :: q) b r rfl a List.mem_cons_self
    · intro g hg
      exact h (a :: q) f r (by rw [e]; rfl) g (List.mem_cons_of_mem _ hg)

theorem sumTo_add (f g : Nat → Nat) (n : Nat) : sumTo (fun j => f j + g j) n = sumTo f n + sumTo g n := by
  induction n with
  | zero => rfl
  | succ n ih => simp only [sumTo, ih]; omega

theorem mem_dedup {α : Type} [BEq α] [LawfulBEq α] (x : α) (l : List α) : x ∈ dedup l ↔ x ∈ l := by
  induction l with
  | nil => exact Iff.rfl
  | cons y ys ih =>
    by_cases hxy : x = y
    · simp only [dedup, List.mem_cons, hxy, true_or]
    · simp only [dedup, List.mem_cons, List.mem_filter, ih, hxy, false_or, Bool.not_eq_true',
        beq_eq_false_iff_ne, ne_eq, not_false_eq_true, and_true]

theorem setEq_iff {α : Type} [BEq α] [LawfulBEq α] (a b : List α) :
    setEq a b = true ↔ ∀ x, x ∈ a ↔ x ∈ b := by
  simp only [setEq, Bool.and_eq_true, List.all_eq_true, List.contains_iff_mem]
  exact ⟨fun ⟨h1, h2⟩ x => ⟨h1 x, h2 x⟩, fun h => ⟨fun x => (h x).mp, fun x => (h x).mpr⟩⟩

/-! `d[a].extend(vs)` and `d.get(a, [])` on an insertion-ordered `defaultdict(list)`: `dictExtend`, `dictGet`
(`_add_helper`) and `insertGroup` (`_group_incompatible_features`) are instances. -/

section Dict
variable {κ ν : Type} [DecidableEq κ]

def extend (a : κ) (vs : List ν) : List (κ × List ν) → List (κ × List ν)
  | [] => [(a, vs)]
  | (k, w) :: rest => if k = a then (k, w ++ vs) :: rest else (k, w) :: extend a vs rest

def get : List (κ × List ν) → κ → List ν
  | [], _ => []
  | (k, w) :: rest, a => if k = a then w else get rest a

def keys (d : List (κ × List ν)) : List κ := d.map (·.1)

theorem get_extend (a : κ) (vs : List ν) (d : List (κ × List ν)) (b : κ) :
    get (extend a vs d) b = if b = a then get d a ++ vs else get d b := by
  induction d with
  | nil => grind [extend, get]
  | cons kv rest ih => grind [extend, get]

theorem mem_keys_extend (a : κ) (vs : List ν) (d : List (κ × List ν)) (k : κ) :
    k ∈ keys (extend a vs d) ↔ k = a ∨ k ∈ keys d := by
  induction d with
  | nil => simp [extend, keys]
  | cons kv rest ih =>
    obtain ⟨k', w⟩ := kv
    by_cases hk : k' = a
    · subst hk; simp [extend, keys]
    · have ih' : k ∈ List.map (·.1) (extend a vs rest) ↔ k = a ∨ k ∈ List.map (·.1) rest := ih
      simp only [extend, hk, if_false, keys, List.map_cons, List.mem_cons, ih', or_left_comm]

theorem keys_extend_nodup (a : κ) (vs : List ν) (d : List (κ × List ν)) (h : (keys d).Nodup) :
    (keys (extend a vs d)).Nodup := by
  induction d with
  | nil => simp [extend, keys]
  | cons kv rest ih =>
    obtain ⟨k, w⟩ := kv
    by_cases hk : k = a
    · simpa only [extend, hk, if_true, keys, List.map_cons] using h
    · obtain ⟨h1, h2⟩ := List.nodup_cons.mp h
      simp only [extend, hk, if_false]
      refine List.nodup_cons.mpr ⟨fun hm => ?_, ih h2⟩
      exact ((mem_keys_extend a vs rest k).mp hm).elim hk h1

theorem get_of_mem (d : List (κ × List ν)) (hnd : (keys d).Nodup) (kv : κ × List ν) (h : kv ∈ d) :
    get d kv.1 = kv.2 := by
  induction d with
  | nil => cases h
  | cons e rest ih =>
    obtain ⟨h1, h2⟩ := List.nodup_cons.mp hnd
    rcases List.mem_cons.mp h with rfl | h'
    · simp [get]
    · have hne : ¬ e.1 = kv.1 := fun e' => h1 (List.mem_map.mpr ⟨kv, h', e'.symm⟩)
      simp only [get, hne, if_false, ih h2 h']

theorem get_nil_of_not_key (d : List (κ × List ν)) (k : κ) (h : k ∉ keys d) : get d k = [] := by
  induction d with
  | nil => rfl
  | cons e rest ih =>
    have h' : ¬ e.1 = k ∧ k ∉ keys rest := by
      simpa only [keys, List.map_cons, List.mem_cons, not_or, eq_comm] using h
    simp only [get, h'.1, if_false, ih h'.2]

theorem entry_of_mem_get (d : List (κ × List ν)) (k : κ) (c : ν) (h : c ∈ get d k) :
    (k, get d k) ∈ d := by
  induction d with
  | nil => cases h
  | cons e rest ih =>
    obtain ⟨k', w⟩ := e
    by_cases hk : k' = k
    · subst hk; simp [get]
    · simp only [get, hk, if_false] at h ⊢
      exact List.mem_cons_of_mem _ (ih h)

end Dict

end Pharmpy.C18
