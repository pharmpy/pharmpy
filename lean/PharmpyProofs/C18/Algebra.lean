import PharmpyProofs.C18.Modes
/-
  C18 — `ModelFeatures.__add__`, `__sub__`, `contain_subset` against the expanded atoms; for
  `least_number_of_transformations` the shape of the keys it returns.  Each category is specified through the
  atoms of its own statement list; `mem_atoms` ties these to `MF.atoms`.
-/
namespace Pharmpy.C18

theorem mem_atoms (a : MF) (x : Atom) :
    x ∈ a.atoms ↔
      match x with
      | .abs m => m ∈ optExpand Gen.absorptionWildcard a.absorption
      | .elim m => m ∈ optExpand Gen.eliminationWildcard a.elimination
      | .trans c d => Atom.trans c d ∈ a.transits.flatMap Transits.atoms
      | .peri c m => Atom.peri c m ∈ a.peripherals.flatMap Peripherals.atoms
      | .lag m => m ∈ optExpand Gen.lagtimeWildcard a.lagtime := by
  cases x <;> simp [MF.atoms, Transits.atoms, Peripherals.atoms]

theorem mem_transits_atoms (t : Transits) (c : Nat) (d : String) :
    Atom.trans c d ∈ t.atoms ↔ c ∈ t.counts ∧ d ∈ t.depot.expand Gen.transitsDepotWildcard := by
  simp [Transits.atoms]

theorem mem_peripherals_atoms (p : Peripherals) (c : Nat) (m : String) :
    Atom.peri c m ∈ p.atoms ↔ c ∈ p.counts ∧ m ∈ p.modes.expand Gen.peripheralsModesWildcard := by
  simp [Peripherals.atoms]

theorem transits_atoms_only_trans (ts : List Transits) (x : Atom) (h : x ∈ ts.flatMap Transits.atoms) :
    ∃ c k, x = Atom.trans c k := by
  simp only [List.mem_flatMap, Transits.atoms, List.mem_map] at h
  obtain ⟨_, _, c, _, k, _, rfl⟩ := h
  exact ⟨c, k, rfl⟩

theorem peripherals_atoms_only_peri (ps : List Peripherals) (x : Atom) (h : x ∈ ps.flatMap Peripherals.atoms) :
    ∃ c m, x = Atom.peri c m := by
  simp only [List.mem_flatMap, Peripherals.atoms, List.mem_map] at h
  obtain ⟨_, _, c, _, m, _, rfl⟩ := h
  exact ⟨c, m, rfl⟩

theorem mem_insertSorted (n x : Nat) (l : List Nat) : x ∈ insertSorted n l ↔ x = n ∨ x ∈ l := by
  induction l with
  | nil => simp [insertSorted]
  | cons m ms ih =>
    simp only [insertSorted]
    split
    · simp
    · split
      · rename_i h; simp only [beq_iff_eq] at h; simp [h]
      · simp only [List.mem_cons, ih, or_left_comm]

theorem mem_sortDedup (x : Nat) (l : List Nat) : x ∈ sortDedup l ↔ x ∈ l := by
  induction l with
  | nil => exact Iff.rfl
  | cons a l ih =>
    show x ∈ insertSorted a (sortDedup l) ↔ _
    rw [mem_insertSorted, ih, List.mem_cons]

def dictKeys (d : List (String × List Nat)) : List String := d.map (·.1)

theorem dictExtend_eq (a : String) (vs : List Nat) (d : List (String × List Nat)) :
    dictExtend a vs d = extend a vs d := by
  induction d with
  | nil => rfl
  | cons kv rest ih => simp only [dictExtend, extend, beq_iff_eq, ih]

theorem dictGet_eq (d : List (String × List Nat)) (a : String) : dictGet d a = get d a := by
  induction d with
  | nil => rfl
  | cons kv rest ih =>
    unfold dictGet at ih ⊢
    by_cases h : kv.1 = a <;> simp [get, h, ih]

theorem dictGet_nil_of_not_key (d : List (String × List Nat)) (k : String) (h : k ∉ dictKeys d) : dictGet d k = [] := by
  rw [dictGet_eq]
  exact get_nil_of_not_key d k h

theorem evalDepot_ok (t : Transits) (ds : List String) (h : t.evalDepot = .ok ds) :
    ds = t.depot.expand Gen.transitsDepotWildcard := by
  unfold Transits.evalDepot at h
  cases hd : t.depot <;> rw [hd] at h <;> cases h <;> rfl

theorem joinDict_spec (ts : List Transits) (D : List (String × List Nat)) (h : joinDict ts = .ok D) :
    (keys D).Nodup ∧ ∀ k c, c ∈ dictGet D k ↔ Atom.trans c k ∈ ts.flatMap Transits.atoms := by
  refine foldlM_ok_inv
    (fun pre D => (keys D).Nodup ∧ ∀ k c, c ∈ dictGet D k ↔ Atom.trans c k ∈ pre.flatMap Transits.atoms)
    ?_ h ⟨List.nodup_nil, fun _ _ => by simp [dictGet]⟩
  rintro pre t D D' ⟨h1, h2⟩ hstep
  obtain ⟨ds, hds, hD'⟩ := bind_eq_ok.mp hstep
  cases pure_eq_ok.mp hD'
  -- one statement: `d[a].extend(counts)` for each of its depots `a`
  obtain ⟨f1, f2⟩ := foldl_inv (f := fun d a => dictExtend a t.counts d)
    (fun seen D' => (keys D').Nodup ∧ ∀ b c, c ∈ get D' b ↔ c ∈ get D b ∨ (b ∈ seen ∧ c ∈ t.counts))
    (by
      rintro seen a D' ⟨k1, k2⟩
      rw [dictExtend_eq]
      refine ⟨keys_extend_nodup a _ D' k1, fun b c => ?_⟩
      rw [get_extend]
      by_cases hb : b = a
      · subst hb
        simp only [if_true, List.mem_append, k2, List.mem_singleton, or_true, true_and]
        exact ⟨fun h => h.elim (fun h => h.elim Or.inl fun h => Or.inr h.2) Or.inr,
          fun h => h.elim (fun h => Or.inl (Or.inl h)) Or.inr⟩
      · simp [k2, hb])
    ds ⟨h1, by simp⟩
  refine ⟨f1, fun k c => ?_⟩
  rw [dictGet_eq, f2, ← dictGet_eq, h2, List.flatMap_append, List.mem_append, List.flatMap_singleton,
    mem_transits_atoms, ← evalDepot_ok t ds hds, and_comm]

theorem mem_toTransits_atoms (d : List (String × List Nat)) (c : Nat) (k : String) :
    Atom.trans c k ∈ (toTransits d).flatMap Transits.atoms ↔ ∃ vs, (k, vs) ∈ d ∧ c ∈ vs := by
  simp only [toTransits, List.flatMap_map, List.mem_flatMap, mem_transits_atoms, Modes.expand, List.mem_singleton]
  exact ⟨fun ⟨kv, hkv, hc, hk⟩ => ⟨kv.2, hk ▸ hkv, hc⟩, fun ⟨vs, hkv, hc⟩ => ⟨(k, vs), hkv, hc, rfl⟩⟩

theorem filteredDict_atoms (d : List (String × List Nat)) (hnd : (keys d).Nodup) (f : String → Nat → Bool)
    (k : String) (c : Nat) :
    Atom.trans c k ∈ (toTransits ((d.map (fun kv => (kv.1, (sortDedup kv.2).filter (f kv.1)))).filter
        (fun kv => !kv.2.isEmpty))).flatMap Transits.atoms ↔
      c ∈ dictGet d k ∧ f k c = true := by
  rw [dictGet_eq, mem_toTransits_atoms]
  simp only [List.mem_filter, List.mem_map]
  constructor
  · rintro ⟨_, ⟨⟨kv, hkv, he⟩, _⟩, hc⟩
    cases he
    rw [get_of_mem d hnd kv hkv]
    simpa only [List.mem_filter, mem_sortDedup] using hc
  · rintro ⟨hc, hf⟩
    have hcm : c ∈ (sortDedup (get d k)).filter (f k) := List.mem_filter.mpr ⟨(mem_sortDedup _ _).mpr hc, hf⟩
    refine ⟨_, ⟨⟨_, entry_of_mem_get d k c hc, rfl⟩, ?_⟩, hcm⟩
    cases hl : (sortDedup (get d k)).filter (f k) with
    | nil => rw [hl] at hcm; cases hcm
    | cons _ _ => rfl

theorem addHelper_spec (s1 s2 : List Transits) (l r j : List (String × List Nat))
    (h : addHelper s1 s2 = .ok (l, r, j)) (c : Nat) (k : String) :
    (Atom.trans c k ∈ (toTransits l).flatMap Transits.atoms ↔
      Atom.trans c k ∈ s1.flatMap Transits.atoms ∧ Atom.trans c k ∉ s2.flatMap Transits.atoms) ∧
    (Atom.trans c k ∈ (toTransits r).flatMap Transits.atoms ↔
      Atom.trans c k ∈ s2.flatMap Transits.atoms ∧ Atom.trans c k ∉ s1.flatMap Transits.atoms) ∧
    (Atom.trans c k ∈ (toTransits j).flatMap Transits.atoms ↔
      Atom.trans c k ∈ s1.flatMap Transits.atoms ∧ Atom.trans c k ∈ s2.flatMap Transits.atoms) := by
  unfold addHelper at h
  obtain ⟨d1, h1, h⟩ := bind_eq_ok.mp h
  obtain ⟨d2, h2, h⟩ := bind_eq_ok.mp h
  obtain ⟨n1, g1⟩ := joinDict_spec _ _ h1
  obtain ⟨n2, g2⟩ := joinDict_spec _ _ h2
  cases pure_eq_ok.mp h
  rw [filteredDict_atoms d1 n1 (fun k c => !(dictGet d2 k).contains c),
    filteredDict_atoms d2 n2 (fun k c => !(dictGet d1 k).contains c),
    filteredDict_atoms d1 n1 (fun k c => (dictGet d2 k).contains c), ← g1, ← g2]
  simp only [Bool.not_eq_true', List.contains_eq_mem, decide_eq_false_iff_not, decide_eq_true_eq, and_self]

theorem toTransits_atoms_only_trans (E : List (String × List Nat)) (x : Atom) (h : x ∈ (toTransits E).flatMap Transits.atoms) :
    ∃ c k, x = Atom.trans c k :=
  transits_atoms_only_trans _ x h

theorem addSubTransits_spec (a b : MF) (add : Bool) (ts : List Transits) (h : addSubTransits a b add = .ok ts)
    (c : Nat) (k : String) :
    Atom.trans c k ∈ ts.flatMap Transits.atoms ↔
      if add then Atom.trans c k ∈ a.transits.flatMap Transits.atoms ∨ Atom.trans c k ∈ b.transits.flatMap Transits.atoms
      else Atom.trans c k ∈ a.transits.flatMap Transits.atoms ∧ Atom.trans c k ∉ b.transits.flatMap Transits.atoms := by
  unfold addSubTransits at h
  obtain ⟨⟨l, r, j⟩, hh, h⟩ := bind_eq_ok.mp h
  obtain ⟨hl, hr, hj⟩ := addHelper_spec _ _ l r j hh c k
  cases add
  · cases pure_eq_ok.mp h
    exact hl
  · cases pure_eq_ok.mp h
    rw [List.flatMap_append, List.flatMap_append, List.mem_append, List.mem_append, hl, hr, hj]
    by_cases m1 : Atom.trans c k ∈ a.transits.flatMap Transits.atoms <;>
      by_cases m2 : Atom.trans c k ∈ b.transits.flatMap Transits.atoms <;> simp [m1, m2]

theorem extractPeripherals_atoms (ps : List Peripherals) (r : List Nat × List Nat) (h : extractPeripherals ps = .ok r) :
    ∀ c m, Atom.peri c m ∈ ps.flatMap Peripherals.atoms ↔ (m = "MET" ∧ c ∈ r.1) ∨ (m = "DRUG" ∧ c ∈ r.2) := by
  refine foldlM_ok_inv (fun pre r => ∀ c m, Atom.peri c m ∈ pre.flatMap Peripherals.atoms ↔
      (m = "MET" ∧ c ∈ r.1) ∨ (m = "DRUG" ∧ c ∈ r.2)) ?_ h (by simp)
  rintro pre p acc acc' I hstep
  obtain ⟨ms, hms, hfold⟩ := bind_eq_ok.mp hstep
  -- the inner loop over the modes of one statement: `seen` are the modes already handled
  have J := foldlM_ok_inv (fun seen (r : List Nat × List Nat) => ∀ c m,
      (Atom.peri c m ∈ pre.flatMap Peripherals.atoms ∨ (c ∈ p.counts ∧ m ∈ seen)) ↔
        (m = "MET" ∧ c ∈ r.1) ∨ (m = "DRUG" ∧ c ∈ r.2))
    (by
      rintro seen m0 r r' K hm c m
      simp only [List.mem_append, List.mem_singleton, and_or_left, ← or_assoc, K c m]
      by_cases e1 : m0 = "MET"
      · subst e1
        cases pure_eq_ok.mp hm
        by_cases e : m = "MET" <;> simp [e, mem_sortDedup, or_comm]
      · by_cases e2 : m0 = "DRUG"
        · subst e2
          cases pure_eq_ok.mp hm
          by_cases e : m = "DRUG" <;> simp [e, mem_sortDedup, or_comm]
        · simp [e1, e2] at hm)
    hfold (by simpa using I)
  intro c m
  rw [← J, List.flatMap_append, List.mem_append, List.flatMap_singleton, mem_peripherals_atoms, iter_ok hms]
  rfl

/-- the statement `_add_sub_peripherals` builds for one kind, if it has any count -/
theorem builtPeripheral_atoms (cs : List Nat) (md : String) (c : Nat) (m : String) :
    Atom.peri c m ∈ (if cs.isEmpty then [] else [(⟨cs, .names [md]⟩ : Peripherals)]).flatMap Peripherals.atoms ↔
      (m = md ∧ c ∈ cs) := by
  cases cs with
  | nil => simp
  | cons x xs =>
    show Atom.peri c m ∈ [(⟨x :: xs, .names [md]⟩ : Peripherals)].flatMap Peripherals.atoms ↔ _
    rw [List.flatMap_singleton, mem_peripherals_atoms, and_comm]
    simp [Modes.expand]

theorem addSubPeripherals_spec (a b : MF) (add : Bool) (ps : List Peripherals) (h : addSubPeripherals a b add = .ok ps)
    (c : Nat) (m : String) :
    Atom.peri c m ∈ ps.flatMap Peripherals.atoms ↔
      if add then Atom.peri c m ∈ a.peripherals.flatMap Peripherals.atoms ∨ Atom.peri c m ∈ b.peripherals.flatMap Peripherals.atoms
      else Atom.peri c m ∈ a.peripherals.flatMap Peripherals.atoms ∧ Atom.peri c m ∉ b.peripherals.flatMap Peripherals.atoms := by
  unfold addSubPeripherals at h
  obtain ⟨⟨lm, ld⟩, h1, h⟩ := bind_eq_ok.mp h
  obtain ⟨⟨rm, rd⟩, h2, h⟩ := bind_eq_ok.mp h
  cases pure_eq_ok.mp h
  rw [List.flatMap_append, List.mem_append, builtPeripheral_atoms, builtPeripheral_atoms,
    extractPeripherals_atoms _ _ h1, extractPeripherals_atoms _ _ h2]
  cases add
  · simp only [Bool.false_eq_true, if_false, List.mem_filter, Bool.not_eq_true', List.contains_eq_mem,
      decide_eq_false_iff_not]
    by_cases e1 : m = "MET"
    · subst e1; simp
    · by_cases e2 : m = "DRUG"
      · subst e2; simp
      · simp [e1, e2]
  · simp only [if_true, mem_sortDedup, List.mem_append]
    by_cases e1 : m = "MET" <;> by_cases e2 : m = "DRUG" <;> simp [e1, e2]

theorem truthy_ok (k : ModeKind) (m : Option Modes) (b : Bool) (h : truthy k m = .ok b) :
    if b then ∃ m', m = some m' ∧ m'.NotBare else optExpand k.wildcard m = [] := by
  cases m with
  | none => cases h; rfl
  | some m' =>
    cases m' with
    | wild =>
      cases b
      · simpa [truthy, Modes.len, Modes.eval, bind, Except.bind, pure, Except.pure, optExpand, Modes.expand] using h
      · exact ⟨_, rfl, Or.inl rfl⟩
    | names l =>
      cases b
      · simpa [truthy, Modes.len, Modes.eval, bind, Except.bind, pure, Except.pure, optExpand, Modes.expand] using h
      · exact ⟨_, rfl, Or.inr ⟨l, rfl⟩⟩
    | bare s => cases h

theorem optAdd_cases (k : ModeKind) (l r res : Option Modes) (h : optAdd k l r = .ok res) :
    (res = l ∧ optExpand k.wildcard r = []) ∨ (res = r ∧ optExpand k.wildcard l = [] ∧ r.isSome = true) ∨
      ∃ a b m, l = some a ∧ r = some b ∧ res = some m ∧ modesAdd k a b = .ok m ∧ a.NotBare ∧ b.NotBare := by
  unfold optAdd at h
  obtain ⟨b1, h1, h⟩ := bind_eq_ok.mp h
  have t1 := truthy_ok k l b1 h1
  cases b1
  · obtain ⟨b2, h2, h⟩ := bind_eq_ok.mp h
    have t2 := truthy_ok k r b2 h2
    cases b2
    · exact Or.inl ⟨(pure_eq_ok.mp h).symm, t2⟩
    · obtain ⟨b, rfl, _⟩ := t2
      exact Or.inr (Or.inl ⟨(pure_eq_ok.mp h).symm, t1, rfl⟩)
  · obtain ⟨b2, h2, h⟩ := bind_eq_ok.mp h
    have t2 := truthy_ok k r b2 h2
    cases b2
    · exact Or.inl ⟨(pure_eq_ok.mp h).symm, t2⟩
    · obtain ⟨a, rfl, ha⟩ := t1
      obtain ⟨b, rfl, hb⟩ := t2
      obtain ⟨m, hm, h⟩ := bind_eq_ok.mp h
      exact Or.inr (Or.inr ⟨a, b, m, rfl, rfl, (pure_eq_ok.mp h).symm, hm, ha, hb⟩)

theorem optAdd_expand (k : ModeKind) (l r res : Option Modes) (h : optAdd k l r = .ok res)
    (hl : optValid k.wildcard l = true) (hr : optValid k.wildcard r = true) (x : String) :
    x ∈ optExpand k.wildcard res ↔ x ∈ optExpand k.wildcard l ∨ x ∈ optExpand k.wildcard r := by
  rcases optAdd_cases k l r res h with ⟨rfl, e⟩ | ⟨rfl, e, _⟩ | ⟨a, b, m, rfl, rfl, rfl, hm, ha, hb⟩
  · simp [e]
  · simp [e]
  · exact modesAdd_expand k a b m hm ha hb hl hr x

theorem optAdd_isSome (k : ModeKind) (l r res : Option Modes) (h : optAdd k l r = .ok res) (hl : l.isSome = true) :
    res.isSome = true := by
  rcases optAdd_cases k l r res h with ⟨rfl, _⟩ | ⟨rfl, _, hr⟩ | ⟨_, _, _, _, _, rfl, _⟩
  · exact hl
  · exact hr
  · rfl

theorem optSub_cases (k : ModeKind) (l r res : Option Modes) (h : optSub k l r = .ok res) :
    (res = l ∧ (optExpand k.wildcard l = [] ∨ optExpand k.wildcard r = [])) ∨
      ∃ al bl, l = some (.names al) ∧ r = some (.names bl) ∧
        if setEq al bl then res = none else ∃ m, modesSub k (.names al) (.names bl) = .ok m ∧ res = some m := by
  unfold optSub at h
  obtain ⟨b1, h1, h⟩ := bind_eq_ok.mp h
  have t1 := truthy_ok k l b1 h1
  cases b1
  · exact Or.inl ⟨(pure_eq_ok.mp h).symm, Or.inl t1⟩
  · obtain ⟨b2, h2, h⟩ := bind_eq_ok.mp h
    have t2 := truthy_ok k r b2 h2
    cases b2
    · exact Or.inl ⟨(pure_eq_ok.mp h).symm, Or.inr t2⟩
    · obtain ⟨a, rfl, _⟩ := t1
      obtain ⟨b, rfl, _⟩ := t2
      obtain ⟨e, he, h⟩ := bind_eq_ok.mp h
      obtain ⟨al, bl, rfl, rfl, rfl⟩ := modesEq_ok a b e he
      refine Or.inr ⟨al, bl, rfl, rfl, ?_⟩
      cases hs : setEq al bl
      · rw [hs] at h
        obtain ⟨m, hm, h⟩ := bind_eq_ok.mp h
        exact ⟨m, hm, (pure_eq_ok.mp h).symm⟩
      · rw [hs] at h
        exact (pure_eq_ok.mp h).symm

theorem optSub_expand (k : ModeKind) (l r res : Option Modes) (h : optSub k l r = .ok res) :
    (∀ x, x ∈ optExpand k.wildcard l → x ∉ optExpand k.wildcard r → x ∈ optExpand k.wildcard res) ∧
    (∀ x, x ∈ optExpand k.wildcard res →
      (x ∈ optExpand k.wildcard l ∧ x ∉ optExpand k.wildcard r) ∨ x = k.subDefault) := by
  rcases optSub_cases k l r res h with ⟨rfl, e | e⟩ | ⟨al, bl, rfl, rfl, hres⟩
  · simp [e]
  · exact ⟨fun x hx _ => hx, fun x hx => Or.inl ⟨hx, by simp [e]⟩⟩
  · cases hs : setEq al bl
    · rw [hs] at hres
      obtain ⟨m, hm, rfl⟩ := hres
      obtain ⟨rr, hr, d1, d2⟩ := modesSub_spec k (.names al) bl (Or.inr ⟨al, rfl⟩)
      cases hr.symm.trans hm
      by_cases hex : ∃ x, x ∈ al ∧ x ∉ bl
      · exact ⟨fun x h1 h2 => (d1 hex x).mpr ⟨h1, h2⟩, fun x hx => Or.inl ((d1 hex x).mp hx)⟩
      · rw [d2 hex]
        exact ⟨fun x h1 h2 => absurd ⟨x, h1, h2⟩ hex, fun x hx => Or.inr (List.mem_singleton.mp hx)⟩
    · rw [hs] at hres
      subst hres
      exact ⟨fun x h1 h2 => absurd (((setEq_iff al bl).mp hs x).mp h1) h2, fun x hx => nomatch hx⟩

theorem create_cases (A E : Option Modes) (T : List Transits) (P : List Peripherals) (L : Option Modes) (c : MF)
    (h : MF.create A E T P L = .ok c) :
    c = ⟨A, E, T, P, L⟩ ∨
    c = ⟨some (A.getD (.names Gen.defaultAbsorption)), some (E.getD (.names Gen.defaultElimination)),
          (if T.isEmpty then [⟨Gen.defaultTransitsCounts, .names Gen.defaultTransitsDepot⟩] else T),
          (if P.isEmpty then [⟨Gen.defaultPeripheralsCounts, .names Gen.defaultPeripheralsModes⟩] else P),
          some (L.getD (.names Gen.defaultLagtime))⟩ := by
  unfold MF.create at h
  obtain ⟨pk, _, h⟩ := bind_eq_ok.mp h
  cases pk
  · exact Or.inl (pure_eq_ok.mp h).symm
  · exact Or.inr (pure_eq_ok.mp h).symm

theorem optExpand_getD (wc d : List String) (A : Option Modes) (m : String) :
    (m ∈ optExpand wc A → m ∈ optExpand wc (some (A.getD (.names d)))) ∧
      (m ∈ optExpand wc (some (A.getD (.names d))) → m ∈ optExpand wc A ∨ m ∈ d) := by
  cases A with
  | none => exact ⟨fun h => (nomatch h), Or.inr⟩
  | some a => exact ⟨id, Or.inl⟩

theorem flatMap_orDefault {α β : Type} (T : List α) (d : α) (f : α → List β) (x : β) :
    (x ∈ T.flatMap f → x ∈ (if T.isEmpty then [d] else T).flatMap f) ∧
      (x ∈ (if T.isEmpty then [d] else T).flatMap f → x ∈ T.flatMap f ∨ x ∈ f d) := by
  cases T with
  | nil => exact ⟨fun h => (nomatch h), fun h => Or.inr (by simpa using h)⟩
  | cons t ts => exact ⟨id, Or.inl⟩

/-- what `create` fills in are `defaultAtoms` (re-checked against the regenerated defaults) -/
theorem defaults_mem :
    (∀ m, m ∈ Gen.defaultAbsorption → Atom.abs m ∈ defaultAtoms) ∧
    (∀ m, m ∈ Gen.defaultElimination → Atom.elim m ∈ defaultAtoms) ∧
    (∀ x, x ∈ Transits.atoms ⟨Gen.defaultTransitsCounts, .names Gen.defaultTransitsDepot⟩ → x ∈ defaultAtoms) ∧
    (∀ x, x ∈ Peripherals.atoms ⟨Gen.defaultPeripheralsCounts, .names Gen.defaultPeripheralsModes⟩ → x ∈ defaultAtoms) ∧
    (∀ m, m ∈ Gen.defaultLagtime → Atom.lag m ∈ defaultAtoms) := by
  decide

theorem create_atoms (A E : Option Modes) (T : List Transits) (P : List Peripherals) (L : Option Modes) (c : MF)
    (h : MF.create A E T P L = .ok c) (x : Atom) :
    (x ∈ (MF.mk A E T P L).atoms → x ∈ c.atoms) ∧
      (x ∈ c.atoms → x ∈ (MF.mk A E T P L).atoms ∨ x ∈ defaultAtoms) := by
  obtain ⟨dA, dE, dT, dP, dL⟩ := defaults_mem
  rcases create_cases A E T P L c h with rfl | rfl
  · exact ⟨id, Or.inl⟩
  · simp only [mem_atoms]
    cases x
    · exact ⟨(optExpand_getD _ _ A _).1, fun h => ((optExpand_getD _ _ A _).2 h).imp_right (dA _)⟩
    · exact ⟨(optExpand_getD _ _ E _).1, fun h => ((optExpand_getD _ _ E _).2 h).imp_right (dE _)⟩
    · exact ⟨(flatMap_orDefault T _ _ _).1, fun h => ((flatMap_orDefault T _ _ _).2 h).imp_right (dT _)⟩
    · exact ⟨(flatMap_orDefault P _ _ _).1, fun h => ((flatMap_orDefault P _ _ _).2 h).imp_right (dP _)⟩
    · exact ⟨(optExpand_getD _ _ L _).1, fun h => ((optExpand_getD _ _ L _).2 h).imp_right (dL _)⟩

theorem create_full (A E : Option Modes) (T : List Transits) (P : List Peripherals) (L : Option Modes) (c : MF)
    (h : MF.create A E T P L = .ok c) (hA : A.isSome = true) (hE : E.isSome = true) (hL : L.isSome = true)
    (hT : T ≠ []) (hP : P ≠ []) : c = ⟨A, E, T, P, L⟩ := by
  obtain ⟨_, rfl⟩ := Option.isSome_iff_exists.mp hA
  obtain ⟨_, rfl⟩ := Option.isSome_iff_exists.mp hE
  obtain ⟨_, rfl⟩ := Option.isSome_iff_exists.mp hL
  obtain ⟨_, _, rfl⟩ := List.exists_cons_of_ne_nil hT
  obtain ⟨_, _, rfl⟩ := List.exists_cons_of_ne_nil hP
  rcases create_cases _ _ _ _ _ c h with rfl | rfl <;> rfl

/-- what `__add__` hands to `create`: the union, with every category the left operand has -/
theorem add_spec (a b c : MF) (h : MF.add a b = .ok c) (hva : a.valid = true) (hvb : b.valid = true) :
    ∃ A E L T P, MF.create A E T P L = .ok c ∧
      (∀ x, x ∈ (MF.mk A E T P L).atoms ↔ x ∈ a.atoms ∨ x ∈ b.atoms) ∧
      (a.absorption.isSome = true → A.isSome = true) ∧ (a.elimination.isSome = true → E.isSome = true) ∧
      (a.lagtime.isSome = true → L.isSome = true) := by
  unfold MF.add at h
  obtain ⟨T, hT, h⟩ := bind_eq_ok.mp h
  obtain ⟨P, hP, h⟩ := bind_eq_ok.mp h
  obtain ⟨A, hA, h⟩ := bind_eq_ok.mp h
  obtain ⟨E, hE, h⟩ := bind_eq_ok.mp h
  obtain ⟨L, hL, h⟩ := bind_eq_ok.mp h
  simp only [MF.valid, Bool.and_eq_true] at hva hvb
  refine ⟨A, E, L, T, P, h, fun x => ?_, optAdd_isSome _ _ _ _ hA, optAdd_isSome _ _ _ _ hE, optAdd_isSome _ _ _ _ hL⟩
  simp only [mem_atoms]
  cases x
  · exact optAdd_expand absorptionKind _ _ _ hA hva.1.1 hvb.1.1 _
  · exact optAdd_expand eliminationKind _ _ _ hE hva.1.2 hvb.1.2 _
  · exact addSubTransits_spec a b true T hT _ _
  · exact addSubPeripherals_spec a b true P hP _ _
  · exact optAdd_expand lagtimeKind _ _ _ hL hva.2 hvb.2 _

/-- the class defaults `__sub__` re-inserts are `defaultAtoms` too -/
theorem subDefaults_are_defaults :
    Atom.abs absorptionKind.subDefault ∈ defaultAtoms ∧ Atom.elim eliminationKind.subDefault ∈ defaultAtoms ∧
      Atom.lag lagtimeKind.subDefault ∈ defaultAtoms := by decide

theorem sub_spec (a b c : MF) (h : MF.sub a b = .ok c) :
    ∃ A E L T P, MF.create A E T P L = .ok c ∧ ∀ x,
      (x ∈ a.atoms → x ∉ b.atoms → x ∈ (MF.mk A E T P L).atoms) ∧
      (x ∈ (MF.mk A E T P L).atoms → (x ∈ a.atoms ∧ x ∉ b.atoms) ∨ x ∈ defaultAtoms) := by
  unfold MF.sub at h
  obtain ⟨T, hT, h⟩ := bind_eq_ok.mp h
  obtain ⟨P, hP, h⟩ := bind_eq_ok.mp h
  obtain ⟨A, hA, h⟩ := bind_eq_ok.mp h
  obtain ⟨E, hE, h⟩ := bind_eq_ok.mp h
  obtain ⟨L, hL, h⟩ := bind_eq_ok.mp h
  obtain ⟨da, de, dl⟩ := subDefaults_are_defaults
  refine ⟨A, E, L, T, P, h, fun x => ?_⟩
  simp only [mem_atoms]
  cases x
  · exact ⟨(optSub_expand _ _ _ _ hA).1 _, fun hx => ((optSub_expand _ _ _ _ hA).2 _ hx).imp_right fun e => by rw [e]; exact da⟩
  · exact ⟨(optSub_expand _ _ _ _ hE).1 _, fun hx => ((optSub_expand _ _ _ _ hE).2 _ hx).imp_right fun e => by rw [e]; exact de⟩
  · exact ⟨fun h1 h2 => (addSubTransits_spec a b false T hT _ _).mpr ⟨h1, h2⟩,
      fun hx => Or.inl ((addSubTransits_spec a b false T hT _ _).mp hx)⟩
  · exact ⟨fun h1 h2 => (addSubPeripherals_spec a b false P hP _ _).mpr ⟨h1, h2⟩,
      fun hx => Or.inl ((addSubPeripherals_spec a b false P hP _ _).mp hx)⟩
  · exact ⟨(optSub_expand _ _ _ _ hL).1 _, fun hx => ((optSub_expand _ _ _ _ hL).2 _ hx).imp_right fun e => by rw [e]; exact dl⟩

theorem evalModes_ok (k : ModeKind) (m : Option Modes) (l : List String) (h : evalModes k m = .ok l) :
    l = optExpand k.wildcard m := by
  cases m with
  | none => cases h
  | some m' => cases m' <;> cases h <;> rfl

theorem subsetModes_spec (k : ModeKind) (l r : Option Modes) (v : Bool) (h : subsetModes k l r = .ok v) :
    v = true ↔ ∀ x, x ∈ optExpand k.wildcard r → x ∈ optExpand k.wildcard l := by
  unfold subsetModes at h
  obtain ⟨rl, hr, h⟩ := bind_eq_ok.mp h
  cases evalModes_ok k r rl hr
  cases hrl : optExpand k.wildcard r with
  | nil => rw [hrl] at h; cases pure_eq_ok.mp h; simp
  | cons y ys =>
    rw [hrl] at h
    obtain ⟨ll, hl, h⟩ := bind_eq_ok.mp h
    cases evalModes_ok k l ll hl
    cases pure_eq_ok.mp h
    simp only [List.all_eq_true, List.contains_iff_mem]

/-- a short-circuiting `x and y` whose operands may raise -/
theorem andM_spec {x y : Except Err Bool} {P Q : Prop} (hx : ∀ v, x = .ok v → (v = true ↔ P))
    (hy : ∀ v, y = .ok v → (v = true ↔ Q)) (v : Bool)
    (h : (do if !(← x) then pure false else y) = .ok v) : v = true ↔ P ∧ Q := by
  obtain ⟨vx, h1, h2⟩ := bind_eq_ok.mp h
  have px := hx vx h1
  cases vx
  · cases pure_eq_ok.mp h2
    exact ⟨fun h => (nomatch h), fun h => px.mpr h.1⟩
  · exact (hy v h2).trans ⟨fun h => ⟨px.mp rfl, h⟩, And.right⟩

theorem containParts_spec (a b : MF) (s d m : Bool) (h : a.containParts b = .ok (s, d, m)) :
    (s = true ↔ (∀ x, Atom.abs x ∈ b.atoms → Atom.abs x ∈ a.atoms) ∧ (∀ x, Atom.elim x ∈ b.atoms → Atom.elim x ∈ a.atoms) ∧
        subsetTransits a b = .ok true ∧ (∀ x, Atom.lag x ∈ b.atoms → Atom.lag x ∈ a.atoms)) ∧
    (d = true ↔ ∀ c, Atom.peri c "DRUG" ∈ b.atoms → Atom.peri c "DRUG" ∈ a.atoms) ∧
    (m = true ↔ ∀ c, Atom.peri c "MET" ∈ b.atoms → Atom.peri c "MET" ∈ a.atoms) ∧
    (∀ c md, Atom.peri c md ∈ b.atoms → md = "MET" ∨ md = "DRUG") := by
  unfold MF.containParts at h
  obtain ⟨tr, ht, h⟩ := bind_eq_ok.mp h
  obtain ⟨⟨lm, ld⟩, h1, h⟩ := bind_eq_ok.mp h
  obtain ⟨⟨rm, rd⟩, h2, h⟩ := bind_eq_ok.mp h
  obtain ⟨s', hs, h⟩ := bind_eq_ok.mp h
  cases pure_eq_ok.mp h
  have e1 := extractPeripherals_atoms _ _ h1
  have e2 := extractPeripherals_atoms _ _ h2
  simp only [mem_atoms, List.all_eq_true, List.contains_iff_mem, e1, e2]
  refine ⟨?_, by simp, by simp, fun c md h => h.imp And.left And.left⟩
  refine andM_spec (fun v => subsetModes_spec absorptionKind _ _ v)
    (andM_spec (fun v => subsetModes_spec eliminationKind _ _ v) fun v hv => ?_) s hs
  rw [ht]
  cases tr
  · cases pure_eq_ok.mp hv
    exact ⟨fun h => (nomatch h), fun h => (nomatch h.1)⟩
  · exact (subsetModes_spec lagtimeKind _ _ v hv).trans ⟨fun h => ⟨rfl, h⟩, And.right⟩

theorem containSubset_parts (a b : MF) (ms v : Bool) (h : a.containSubset b ms = .ok v) :
    ∃ s d m, a.containParts b = .ok (s, d, m) ∧ v = (s && d && (ms || m)) := by
  unfold MF.containSubset at h
  obtain ⟨⟨s, d, m⟩, hp, h⟩ := bind_eq_ok.mp h
  refine ⟨s, d, m, hp, ?_⟩
  cases s
  · exact (pure_eq_ok.mp h).symm
  · cases ms
    · exact (pure_eq_ok.mp h).symm
    · cases pure_eq_ok.mp h; cases v <;> rfl

theorem modeKeys_shape (k : ModeKind) (m : Option Modes) (ks : List Key) (h : modeKeys k m = .ok ks) :
    ∀ key, key ∈ ks → key.length = 2 := by
  have map_shape : ∀ l : List String, ∀ key, key ∈ l.map (fun x => [k.name, x]) → key.length = 2 := by
    intro l key hk
    obtain ⟨x, _, rfl⟩ := List.mem_map.mp hk
    rfl
  cases m with
  | none => cases h; exact fun _ hk => nomatch hk
  | some m' =>
    cases m' with
    | bare s => cases h
    | _ =>
      simp only [modeKeys, Modes.eval] at h
      split at h
      · cases h; exact map_shape _
      · cases h

theorem lntHelper_shape (k : ModeKind) (l r : Option Modes) (ks : List Key) (h : lntHelper k l r = .ok ks) :
    ∀ key, key ∈ ks → key.length = 2 := by
  cases l <;> cases r
  · cases h; exact fun _ hk => nomatch hk
  · cases h
  · cases h
  · unfold lntHelper at h
    obtain ⟨ll, _, h⟩ := bind_eq_ok.mp h
    obtain ⟨rl, _, h⟩ := bind_eq_ok.mp h
    split at h
    · cases pure_eq_ok.mp h; exact fun _ hk => nomatch hk
    · obtain ⟨mk, hmk, h⟩ := bind_eq_ok.mp h
      split at h
      · cases h
      · rename_i key rest hd
        cases pure_eq_ok.mp h
        intro key' hk
        cases List.mem_singleton.mp hk
        exact modeKeys_shape k _ mk hmk key ((mem_dedup _ _).mp (hd ▸ List.mem_cons_self))

theorem lntTransits_shape (a b : MF) (ks : List Key) (h : lntTransits a b = .ok ks) :
    ∀ key, key ∈ ks → key.kind = "TRANSITS" := by
  unfold lntTransits at h
  obtain ⟨⟨l, r, c⟩, _, h⟩ := bind_eq_ok.mp h
  have single : ∀ (x y : String) key, key ∈ [["TRANSITS", x, y]] → Key.kind key = "TRANSITS" :=
    fun x y key hk => by cases List.mem_singleton.mp hk; rfl
  dsimp only at h
  split at h
  · obtain ⟨_, _, h⟩ := bind_eq_ok.mp h
    split at h
    · cases pure_eq_ok.mp h; exact single _ _
    · split at h
      · cases pure_eq_ok.mp h; exact single _ _
      · cases pure_eq_ok.mp h; exact fun _ hk => nomatch hk
  · cases pure_eq_ok.mp h; exact fun _ hk => nomatch hk

theorem lntPeripherals_drug_shape (a b : MF) (ks : List Key) (h : lntPeripherals a b false = .ok ks) :
    ∀ key, key ∈ ks → key.length = 2 := by
  unfold lntPeripherals at h
  obtain ⟨⟨lm, ld⟩, _, h⟩ := bind_eq_ok.mp h
  obtain ⟨⟨rm, rd⟩, _, h⟩ := bind_eq_ok.mp h
  obtain ⟨_, _, h⟩ := bind_eq_ok.mp h
  cases pure_eq_ok.mp h
  intro key hk
  split at hk
  · cases rd with
    | nil => cases hk
    | cons c _ => cases List.mem_singleton.mp hk; rfl
  · cases hk

end Pharmpy.C18
