import PharmpyProofs.C18.Partitions
import PharmpyProofs.C18.Subsets
import PharmpyProofs.C18.Groups
import PharmpyProofs.C18.Stepwise
import PharmpyProofs.C18.Algebra
/-
  C18 — what `Properties.lean` imports: the lemma modules above (`Basic` and `Modes` come with them), and
  that `dedup` leaves no repetition.
-/
namespace Pharmpy.C18

theorem dedup_nodup {α : Type} [BEq α] [LawfulBEq α] (l : List α) : (dedup l).Nodup := by
  induction l with
  | nil => exact List.nodup_nil
  | cons y ys ih =>
    simp only [dedup, List.nodup_cons, List.mem_filter]
    exact ⟨by simp, ih.sublist List.filter_sublist⟩

end Pharmpy.C18
