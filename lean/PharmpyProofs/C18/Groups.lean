import PharmpyProofs.C18.Basic
/-
  C18 — `_group_incompatible_features` and the tuples `all_combinations` draws from the groups
  (tools/mfl/helpers.py).
-/
namespace Pharmpy.C18

theorem insertGroup_eq (k : Key) (G : List (String × List Key)) : insertGroup k G = extend k.kind [k] G := by
  induction G with
  | nil => rfl
  | cons e rest ih => simp only [insertGroup, extend, beq_iff_eq, ih]

theorem groupByKind_spec (ks : List Key) :
    (keys (groupByKind ks)).Nodup ∧ (∀ s, get (groupByKind ks) s = ks.filter (fun k => k.kind == s)) ∧
      (∀ s, s ∈ keys (groupByKind ks) ↔ ∃ k, k ∈ ks ∧ k.kind = s) := by
  unfold groupByKind
  refine foldl_inv (b := []) (fun pre G => (keys G).Nodup ∧ (∀ s, get G s = pre.filter (fun k => k.kind == s)) ∧
      (∀ s, s ∈ keys G ↔ ∃ k, k ∈ pre ∧ k.kind = s)) ?_ ks ⟨List.nodup_nil, fun _ => rfl, by simp [keys]⟩
  rintro pre k G ⟨h1, h2, h3⟩
  rw [insertGroup_eq]
  refine ⟨keys_extend_nodup _ _ G h1, fun s => ?_, fun s => ?_⟩
  · rw [get_extend, List.filter_append, h2, h2]
    by_cases hs : s = k.kind
    · simp [hs]
    · simp [hs, Ne.symm hs]
  · rw [mem_keys_extend, h3]
    constructor
    · rintro (rfl | ⟨j, hj, rfl⟩)
      · exact ⟨k, List.mem_append_right _ List.mem_cons_self, rfl⟩
      · exact ⟨j, List.mem_append_left _ hj, rfl⟩
    · rintro ⟨j, hj, rfl⟩
      exact (List.mem_append.mp hj).elim (fun h => Or.inr ⟨j, h, rfl⟩) fun h => Or.inl (by rw [List.mem_singleton.mp h])

theorem pick_groups (G : List (String × List Key)) (hnd : (keys G).Nodup)
    (hk : ∀ e, e ∈ G → ∀ k, k ∈ e.2 → k.kind = e.1) :
    ∀ t, pickOne t (G.map (fun g => none :: g.2.map some)) →
      (∀ k, k ∈ t.filterMap id → ∃ e, e ∈ G ∧ k ∈ e.2) ∧
      (t.filterMap id).Pairwise (fun a b => a.kind ≠ b.kind) := by
  induction G with
  | nil => intro t ht; cases t <;> simp_all [pickOne]
  | cons e rest ih =>
    intro t ht
    cases t with
    | nil => simp [pickOne] at ht
    | cons a t' =>
      simp only [List.map_cons, pickOne] at ht
      obtain ⟨ha, ht'⟩ := ht
      have hs : e.1 ∉ keys rest := (List.nodup_cons.mp hnd).1
      obtain ⟨i1, i2⟩ := ih (List.nodup_cons.mp hnd).2 (fun e' he' => hk e' (List.mem_cons_of_mem _ he')) t' ht'
      cases a with
      | none =>
        simp only [List.filterMap_cons, id]
        exact ⟨fun k hk' => by obtain ⟨e', he', h⟩ := i1 k hk'; exact ⟨e', List.mem_cons_of_mem _ he', h⟩, i2⟩
      | some k0 =>
        have hk0 : k0 ∈ e.2 := by simpa using ha
        simp only [List.filterMap_cons, id]
        refine ⟨?_, ?_⟩
        · intro k hk'
          rcases List.mem_cons.mp hk' with rfl | hk''
          · exact ⟨e, List.mem_cons_self, hk0⟩
          · obtain ⟨e', he', h⟩ := i1 k hk''; exact ⟨e', List.mem_cons_of_mem _ he', h⟩
        · rw [List.pairwise_cons]
          refine ⟨?_, i2⟩
          intro b hb heq
          obtain ⟨e', he', hbe⟩ := i1 b hb
          have h1 := hk e List.mem_cons_self k0 hk0
          have h2 := hk e' (List.mem_cons_of_mem _ he') b hbe
          apply hs
          rw [← h1, heq, h2]
          exact List.mem_map.mpr ⟨e', he', rfl⟩


end Pharmpy.C18
