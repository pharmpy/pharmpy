import PharmpyProofs.C08.Lemmas
import PharmpyModel.C08.Mfl
import PharmpyModel.C08.Ledger
set_option linter.unusedSimpArgs false
/-
  C08 — Structural feature setters: detectable, idempotent, reversible, total.
  The theorems about the feature machine and the graph classifiers hold for every feature vector,
  i.e. every number of transit and peripheral compartments; the ledger theorems for every model,
  the MFL theorems for every key list.
-/
namespace Pharmpy.C08

/-! ## the feature machine against the statement -/

/-- Outside the enumerated defect classes the setters do what the statement demands: the requested
    feature is detected, the other categories are unchanged (up to the inherent/documented couplings
    spelled out in `frame`), or the request is refused for the documented reason; never an internal
    error, never a graph outside the family. -/
theorem setFV_allowed_partial (c : Ctx) (r : Req) (s : FV) (hwf : s.WF) (hd : defectOf c r s = none) :
    Allowed r s (setFV c r s) = true := by
  cases r with
  | abs a =>
    cases a <;> simp only [setFV, setAbs] <;> repeat' split
    all_goals simp_all [defectOf, Allowed, achieves, frame, FV.abs_inst, FV.abs_zo, FV.abs_fo, FV.abs_seq, FV.chain]
  | transits m keep =>
    rw [setFV, setTransits_of_noDefect hd]
    split
    · cases keep <;> simp_all [Allowed, mayRefuse]
    · simp [Allowed, achieves, frame]
  | _ => simp [setFV, Allowed, achieves, frame]


/-- Non-vacuity: a non-trivial request outside every defect class. -/
example : (FV.mk false 0 true 2 .mm true true).WF ∧ defectOf ⟨false, false⟩ (.transits 3 true) ⟨false, 0, true, 2, .mm, false, true⟩ = none
    ∧ setFV ⟨false, false⟩ (.transits 3 true) ⟨false, 0, true, 2, .mm, false, true⟩ = .ok ⟨false, 3, true, 2, .mm, false, true⟩ := by decide

/-- The full statement (without the side-condition) is false of the code: every defect class has a
    well-formed witness on which `setFV` — the mirror of the code — is not what the statement allows. -/
theorem setFV_allowed_witness :
    ∀ c : DefectClass, ∃ x r s, s.WF ∧ defectOf x r s = some c ∧ Allowed r s (setFV x r s) = false := by
  intro c
  cases c
  · exact ⟨⟨false, false⟩, .transits 3 true, ⟨false, 0, true, 0, .fo, true, false⟩, by decide⟩
  · exact ⟨⟨false, false⟩, .transits 0 true, ⟨false, 3, true, 0, .fo, false, true⟩, by decide⟩
  · exact ⟨⟨true, false⟩, .transits 2 false, ⟨false, 1, true, 0, .fo, false, false⟩, by decide⟩
  · exact ⟨⟨false, false⟩, .transits 1 true, ⟨true, 0, false, 0, .fo, false, false⟩, by decide⟩
  · exact ⟨⟨false, false⟩, .abs .fo, ⟨true, 2, true, 0, .fo, false, false⟩, by decide⟩
  · exact ⟨⟨false, false⟩, .abs .fo, ⟨true, 0, true, 0, .fo, true, false⟩, by decide⟩
  · exact ⟨⟨false, false⟩, .abs .zo, ⟨false, 3, true, 0, .fo, false, false⟩, by decide⟩
  · exact ⟨⟨false, false⟩, .abs .seq, ⟨false, 2, true, 0, .fo, false, false⟩, by decide⟩
  · exact ⟨⟨false, false⟩, .abs .seq, ⟨true, 0, false, 0, .fo, false, true⟩, by decide⟩
  · exact ⟨⟨false, false⟩, .abs .inst, ⟨false, 2, false, 0, .fo, false, false⟩, by decide⟩
  · exact ⟨⟨false, false⟩, .abs .inst, ⟨true, 0, true, 0, .fo, false, false⟩, by decide⟩
  · exact ⟨⟨false, false⟩, .abs .inst, ⟨false, 0, true, 0, .fo, false, true⟩, by decide⟩

/-- Totality: outside the defect classes a request either succeeds or is refused for the documented
    reason (one transit compartment without a depot behind it); nothing else happens. -/
theorem setFV_total_partial (c : Ctx) (r : Req) (s : FV) (hwf : s.WF) (hd : defectOf c r s = none) :
    (∃ s', setFV c r s = .ok s') ∨ (setFV c r s = .refuse ∧ mayRefuse r s = true) := by
  have h := setFV_allowed_partial c r s hwf hd
  cases ho : setFV c r s with
  | ok s' => exact Or.inl ⟨s', rfl⟩
  | refuse => rw [ho] at h; exact Or.inr ⟨rfl, by simpa [Allowed] using h⟩
  | internal => rw [ho] at h; simp [Allowed] at h
  | off => rw [ho] at h; simp [Allowed] at h
  | internalOrOk s' => rw [ho] at h; simp [Allowed] at h
  | internalOrOff => rw [ho] at h; simp [Allowed] at h

/-- A refusal of the machine is always the documented one (no side-condition). -/
theorem setFV_refuse_documented (c : Ctx) (r : Req) (s : FV) (h : setFV c r s = .refuse) : mayRefuse r s = true := by
  cases r with
  | abs a => exact absurd h (setAbs_ne_refuse s a)
  | transits m keep =>
    obtain ⟨h1, h2⟩ := setTransits_refuse h
    simp [mayRefuse, h1, h2]
  | _ => simp [setFV] at h

/-- Elimination and peripheral compartments are orthogonal to everything else — without any
    side-condition: no request of another category ever changes them, and their own requests change
    nothing else. -/
theorem setFV_frame_elim_periph (c : Ctx) (r : Req) (s s' : FV) (h : setFV c r s = .ok s') :
    ((∀ e, r ≠ .elim e) → s'.elim = s.elim) ∧
    ((∀ k, r ≠ .periph k) → r ≠ .periphAdd → r ≠ .periphRemove → s'.periph = s.periph) ∧
    ((∃ e, r = .elim e) ∨ (∃ k, r = .periph k) ∨ r = .periphAdd ∨ r = .periphRemove →
      s'.zo = s.zo ∧ s'.transits = s.transits ∧ s'.depot = s.depot ∧ s'.lag = s.lag ∧ s'.bio = s.bio) := by
  cases r with
  | abs a => have := setAbs_ok h; simp [this]
  | transits m keep => have := setTransits_ok h; simp [this]
  | _ => simp [setFV] at h; subst h; simp

/-- Well-formedness (a lone transit compartment is never produced as "transits = 1, no depot"). -/
theorem setFV_wf (c : Ctx) (r : Req) (s s' : FV) (hwf : s.WF) (h : setFV c r s = .ok s') : s'.WF := by
  cases r with
  | abs a => exact (setAbs_ok h).2.2 hwf
  | transits m keep => exact (setTransits_ok h).2.2.2.2.2.2 hwf
  | _ => simp [setFV] at h; subst h; simpa [FV.WF] using hwf

/-- Requesting the same feature again changes nothing (every request except the two relative ones
    `add_/remove_peripheral_compartment`, which are not feature requests). -/
theorem setFV_idempotent_partial (c c' : Ctx) (r : Req) (s s' : FV) (hwf : s.WF) (hd : defectOf c r s = none)
    (hr : r ≠ .periphAdd ∧ r ≠ .periphRemove) (h : setFV c r s = .ok s') : setFV c' r s' = .ok s' := by
  cases r with
  | abs a =>
    -- the first call achieved `a`, and a request for the category already there is the identity
    have ha := setFV_allowed_partial c _ s hwf hd
    simp only [h, Allowed, Bool.and_eq_true] at ha
    exact setAbs_self (by simpa [achieves] using ha.1)
  | transits m keep =>
    -- `s'` has m transits, no lag time, and no depot when keep_depot=False: the second call has
    -- nothing to remove and takes the first branch of the tail
    obtain ⟨h1, h2, h3, -⟩ := setTransits_ok h
    have hcond : (!keep && s'.depot) = false := by rw [h2]; cases keep <;> simp
    have hs' : ({ s' with lag := false } : FV) = s' := by cases s'; simp_all
    simp only [setFV, setTransits, hs', hcond, Bool.false_eq_true, if_false]
    exact transitsTail_self s' m _ h1
  | periphAdd => simp at hr
  | periphRemove => simp at hr
  | _ => simp [setFV] at h; subst h; simp [setFV]

/-- The full idempotence statement is false of the code: one transit compartment requested on a
    zero-order model is accepted, and the same request on the result is accepted again with a
    different outcome (on the real code it raises NetworkXUnfeasible). -/
theorem setFV_idempotent_witness :
    ∃ c r s, s.WF ∧ setFV c r s ≠ .refuse ∧ (∀ s', setFV c r s = .ok s' → setFV c r s' ≠ .ok s') ∧ defectOf c r s ≠ none :=
  ⟨⟨false, false⟩, .transits 1 true, ⟨true, 0, false, 0, .fo, false, false⟩, by decide, by decide, by simp [setFV, setTransits, transitsTail, defectTransitsTail, FV.abs, FV.chain], by decide⟩

/-- Undoing an added feature restores the feature vector: for a request that adds structure, outside
    the defect classes (of the request and of its undo) and when no lag time is involved in an
    absorption change (the documented INST / SEQ-ZO-FO coupling). -/
theorem undo_restores_partial (c c' : Ctx) (r : Req) (s s' : FV) (hwf : s.WF) (hadd : additive r s = true)
    (hd : defectOf c r s = none) (h : setFV c r s = .ok s') (hd' : defectOf c' (undo r s) s' = none)
    (hlag : (∃ a, r = .abs a) → s.lag = false) :
    setFV c' (undo r s) s' = .ok s := by
  obtain ⟨zo, n, d, k, e, l, b⟩ := s
  cases r with
  | abs a =>
    have hl : l = false := hlag ⟨a, rfl⟩
    subst hl
    -- `additive` leaves INST → FO/ZO/SEQ, ZO → SEQ and FO → SEQ; only then is the setter unfolded
    cases a <;> cases zo <;> cases d <;> by_cases h0 : n = 0 <;>
      simp [additive, FV.abs, FV.chain, h0] at hadd <;>
      simp_all [setFV, setAbs, FV.abs, FV.chain, FV.WF, defectOf, undo] <;>
      (subst h; simp_all [setAbs, FV.abs, FV.chain, defectOf])
  | transits m keep =>
    obtain ⟨hlt, hkeep⟩ : n < m ∧ (keep && d) = d := by
      cases keep <;> simp_all [additive]
    rw [setFV, setTransits_of_noDefect hd] at h
    split at h; · cases h
    cases h
    -- no depot is removed, so outside the defect classes adding transits means there was no lag time
    have hl : l = false := by
      have hk : (!keep && d) = false := by cases keep <;> simp_all
      have : defectTransitsTail ⟨zo, n, d, k, e, l, b⟩ m l = none := by simpa [defectOf, hk] using hd
      unfold defectTransitsTail at this
      repeat' split at this
      all_goals simp_all [FV.abs_inst]
      cases l <;> simp_all
    subst hl
    rw [undo, setFV, setTransits_of_noDefect hd']
    split
    · rename_i hc
      simp only at hc
      omega
    · simp [hkeep]
  | elim e' => simp [setFV] at h; subst h; simp [setFV, undo]
  | periph k' => simp [setFV] at h; subst h; simp [setFV, undo]
  | periphAdd => simp [setFV] at h; subst h; simp [setFV, undo]
  | periphRemove => simp [additive] at hadd
  | lag on => simp [setFV] at h; subst h; simp_all [setFV, undo, additive]
  | bio on => simp [setFV] at h; subst h; simp_all [setFV, undo, additive]

/-- Three transits in front of a depot, then back: with a bioavailability the undo request lies in
    defect class `transitsDropBio`. -/
example : let s : FV := ⟨false, 0, true, 1, .mix, false, true⟩
    additive (.transits 3 true) s = true ∧ defectOf ⟨false, false⟩ (.transits 3 true) s = none ∧
    setFV ⟨false, false⟩ (.transits 3 true) s = .ok ⟨false, 3, true, 1, .mix, false, true⟩ ∧
    undo (.transits 3 true) s = .transits 0 true ∧
    defectOf ⟨true, false⟩ (.transits 0 true) ⟨false, 3, true, 1, .mix, false, true⟩ = some .transitsDropBio := by decide

/-- … and the full undo statement is false of the code: with a bioavailability the way back loses it. -/
theorem undo_restores_witness :
    ∃ c r s s', s.WF ∧ additive r s = true ∧ defectOf c r s = none ∧ setFV c r s = .ok s' ∧
      ∀ c', setFV c' (undo r s) s' ≠ .ok s :=
  ⟨⟨false, false⟩, .transits 3 true, ⟨false, 0, true, 0, .fo, false, true⟩, ⟨false, 3, true, 0, .fo, false, true⟩,
    by decide, by decide, by decide, by decide, by intro c'; cases c' with | mk b b' => cases b <;> cases b' <;> decide⟩

/-! ## the graph classifiers on the canonical family (every n, every k) -/

/-- `central_compartment` of the canonical graph is CENTRAL, whatever the numbers of transit and
    peripheral compartments, depot, dose, lag time, bioavailability. -/
theorem central_canon (s : FV) : (canonGraph s).central = some .central := by
  simp [Graph.central, canon_preds_out]

/-- The four elimination detectors single out exactly the elimination of the feature vector
    (zero-order = Michaelis–Menten rate with POP_KM fixed) — for every n and k. -/
theorem detectElim_canon (s : FV) : detectElim (canon s) = some s.elim := by
  have hc := central_canon s
  have hf := canon_flow_central_out s
  cases he : s.elim <;>
    simp [detectElim, State.hasFOElim, State.hasZOElim, State.hasMMElim, State.hasMixElim, State.elimRate,
      canon, hc, hf, he, rElim]

/-- The detectors recover the feature vector from the canonical graph (instances used as
    non-vacuity checks of the classifiers; the correspondence run compares the same classifiers with the
    real detectors on every real graph). -/
example : detect (canon ⟨false, 3, true, 2, .mix, true, true⟩) = some ⟨false, 3, true, 2, .mix, true, true⟩ := by decide
example : detect (canon ⟨true, 2, false, 0, .zo, false, true⟩) = some ⟨true, 2, false, 0, .zo, false, true⟩ := by decide
example : detect (canon ⟨true, 0, false, 1, .fo, true, false⟩) = some ⟨true, 0, false, 1, .fo, true, false⟩ := by decide
example : detect (canon ⟨false, 0, true, 0, .mm, false, false⟩) = some ⟨false, 0, true, 0, .mm, false, false⟩ := by decide
/-- "One transit directly into central is a depot": the non-well-formed vector is detected as its normal form. -/
example : detect (canon ⟨false, 1, false, 0, .fo, false, false⟩) = some ⟨false, 0, true, 0, .fo, false, false⟩ := by decide

/-! ## the parameter ledger: nothing without influence is left behind -/

/-- A removing setter whose `symbols` cover everything the removed sites read leaves no parameter behind
    that was not already without influence — for every model (any sites, any parameters). -/
theorem removeSites_no_new_dead (m : PModel) (gone symbols : List Nat)
    (hcover : ∀ s ∈ m.sites, s.id ∈ gone → ∀ p ∈ s.reads, p ∈ symbols) :
    ∀ p ∈ (m.removeSites gone symbols).dead, p ∈ m.dead := by
  intro p hp
  simp only [PModel.dead, PModel.removeSites, List.mem_filter] at hp ⊢
  obtain ⟨⟨hpm, hkeep⟩, hdead⟩ := hp
  refine ⟨hpm, ?_⟩
  -- `p` is read by no remaining site; if a removed site read it, it is in `symbols`, so it would have gone
  cases hr : PModel.readBy m.sites p with
  | false => rfl
  | true =>
    exfalso
    simp only [PModel.readBy, List.any_eq_true] at hr
    obtain ⟨s, hs, hps⟩ := hr
    have hps : p ∈ s.reads := by simpa using hps
    have hnot : PModel.readBy (m.sites.filter (fun s => s.id ∉ gone)) p = false := by simpa using hdead
    by_cases hg : s.id ∈ gone
    · have : p ∈ symbols := hcover s hs hg p hps
      rcases (of_decide_eq_true hkeep) with h | h
      · exact h this
      · rw [hnot] at h; cases h
    · have : PModel.readBy (m.sites.filter (fun s => s.id ∉ gone)) p = true := by
        simp only [PModel.readBy, List.any_eq_true]
        exact ⟨s, by simp [List.mem_filter, hs, hg], by simpa using hps⟩
      rw [this] at hnot; exact absurd hnot (by simp)

/-- … in particular when the setter takes `symbols` from all the sites it removes. -/
theorem removeByCode_no_new_dead (m : PModel) (gone srcs : List Nat) (h : ∀ i ∈ gone, i ∈ srcs) :
    ∀ p ∈ (m.removeByCode gone srcs).dead, p ∈ m.dead := by
  apply removeSites_no_new_dead
  intro s hs hg p hp
  simp only [PModel.symbolsOf, List.mem_flatMap, List.mem_filter]
  exact ⟨s, ⟨hs, by simpa using h _ hg⟩, hp⟩

/-- `remove_peripheral_compartment` as the source has it (clean-up table regenerated on every run) takes the
    symbols of both flows of the removed compartment … -/
theorem removePeripheral_symbols_cover (toP fromP : Nat) :
    ∀ i ∈ [toP, fromP], i ∈ removePeripheralSrcs toP fromP := by
  intro i hi
  simp only [removePeripheralSrcs, removePeripheralSymbolFlows, removePeripheralRemoved] at *
  simp at hi
  rcases hi with h | h <;> subst h <;> simp [List.filterMap]

/-- … hence leaves no parameter without influence behind, whatever the parameterisation of the model
    (clearance/volume, rate constants, anything). -/
theorem removePeripheral_no_new_dead (m : PModel) (toP fromP : Nat) :
    ∀ p ∈ (removePeripheral m toP fromP).dead, p ∈ m.dead :=
  removeByCode_no_new_dead m _ _ (removePeripheral_symbols_cover toP fromP)

/-- Undo on the ledger: adding sites with fresh ids and fresh parameters and removing them again, with
    `symbols` containing the new parameters and only such old ones as an old site still reads, restores
    sites and parameters exactly. -/
theorem add_remove_restores (m : PModel) (new : List Site) (ps symbols : List Nat)
    (hid : ∀ s ∈ m.sites, s.id ∉ new.map (·.id))
    (hfresh : ∀ p ∈ ps, p ∈ symbols ∧ PModel.readBy m.sites p = false)
    (hold : ∀ p ∈ m.params, p ∈ symbols → PModel.readBy m.sites p = true) :
    (m.addSites new ps).removeSites (new.map (·.id)) symbols = m := by
  have hsites : (m.sites ++ new).filter (fun s => s.id ∉ new.map (·.id)) = m.sites := by
    rw [List.filter_append]
    have h1 : m.sites.filter (fun s => s.id ∉ new.map (·.id)) = m.sites :=
      List.filter_eq_self.mpr (fun s hs => by simpa using hid s hs)
    have h2 : new.filter (fun s => s.id ∉ new.map (·.id)) = [] :=
      List.filter_eq_nil_iff.mpr (fun s hs => by simp; exact ⟨s, hs, rfl⟩)
    rw [h1, h2, List.append_nil]
  obtain ⟨sites, params⟩ := m
  simp only [PModel.addSites, PModel.removeSites, hsites, PModel.mk.injEq, true_and]
  rw [List.filter_append]
  have h1 : params.filter (fun p => decide (p ∉ symbols ∨ PModel.readBy sites p = true)) = params :=
    List.filter_eq_self.mpr (fun p hp => by
      by_cases hs : p ∈ symbols
      · simp [hold p hp hs]
      · simp [hs])
  have h2 : ps.filter (fun p => decide (p ∉ symbols ∨ PModel.readBy sites p = true)) = [] :=
    List.filter_eq_nil_iff.mpr (fun p hp => by
      have := hfresh p hp
      simp [this.1, this.2])
  rw [h1, h2, List.append_nil]

/-- Why the clause needs *both* flows: with rate constants (elimination reads K, central→peripheral reads
    KCP, peripheral→central reads KPC) a clean-up from the flow back only leaves KCP behind without influence;
    with clearance and volume (QP/V, QP/VP) the flow back alone happens to suffice. -/
theorem removeSites_uncovered_leaks :
    let rc : PModel := ⟨[⟨0, [10]⟩, ⟨1, [11]⟩, ⟨2, [12]⟩], [10, 11, 12]⟩
    let cv : PModel := ⟨[⟨0, [20, 21]⟩, ⟨1, [22, 21]⟩, ⟨2, [22, 23]⟩], [20, 21, 22, 23]⟩
    (rc.removeByCode [1, 2] [2]).dead = [11] ∧ (rc.removeByCode [1, 2] [1, 2]).dead = [] ∧
    (cv.removeByCode [1, 2] [2]).dead = [] := by decide

/-! ## the MFL feature table (regenerated from the source on every run) -/

/-- Every structural MFL key has a row, and every row denotes its request with the setter and keyword
    arguments the machine assumes (`n=count`; NODEPOT ⇒ `n=count+1, keep_depot=False`). -/
theorem feature_table_total :
    (∀ k ∈ structuralKeys, keyCovered k = true) ∧ (∀ e ∈ mflTable, rowOk e = true) := by
  decide

/-- A feature table whose entries freeze their arguments is faithful for every statement, however many
    values it expands to: each entry performs the request of its own key. -/
theorem frozenTable_faithful {κ : Type} (keys : List κ) (f : κ → Req) :
    ∀ e ∈ frozenTable keys f, e.2 = f e.1 := by
  intro e he
  simp only [frozenTable, List.mem_map] at he
  obtain ⟨k, _, rfl⟩ := he
  rfl

/-- … in particular `TRANSITS(counts, depots)`: entry (count, DEPOT) is `set_transit_compartments(n=count)`,
    entry (count, NODEPOT) is `set_transit_compartments(n=count+1, keep_depot=False)`, for all count lists, and
    this is the request `reqOfKey` assigns to the key. -/
theorem transits_table_faithful (counts : List Nat) (depots : List Bool) :
    ∀ e ∈ frozenTable (transitKeys counts depots) reqOfTransitKey,
      reqOfKey "TRANSITS" (if e.1.2 then "DEPOT" else "NODEPOT") e.1.1 = some e.2 := by
  intro e he
  rw [frozenTable_faithful _ _ e he]
  obtain ⟨⟨c, d⟩, r⟩ := e
  cases d <;> simp [reqOfKey, reqOfTransitKey]

/-- A table whose entries read the loop variables late is faithful only for its last key: the witness is
    `TRANSITS([0,1,3],*)`, where the entry (1, DEPOT) performs `set_transit_compartments(4, keep_depot=False)`;
    a single-valued statement is unaffected. -/
theorem lateTable_unfaithful_witness :
    (lateTable (transitKeys [0, 1, 3] [true, false]) reqOfTransitKey).lookup (1, true) = some (.transits 4 false) ∧
    reqOfTransitKey (1, true) = .transits 1 true ∧
    lateTable (transitKeys [3] [true]) reqOfTransitKey = frozenTable (transitKeys [3] [true]) reqOfTransitKey := by
  decide

/-- The lag-time couplings that `frame` tolerates are the ones modelsearch declares unsupported. -/
theorem lag_couplings_declared :
    (["LAGTIME", "ON"], ["TRANSITS"]) ∈ notSupportedCombo ∧
    (["ABSORPTION", "INST"], ["LAGTIME", "ON"]) ∈ notSupportedCombo ∧
    (["ABSORPTION", "SEQ-ZO-FO"], ["LAGTIME", "ON"]) ∈ notSupportedCombo := by
  decide

end Pharmpy.C08
