import PharmpyModel.C08.FV
set_option linter.unusedSimpArgs false
/-
  C08 — what the setters return on the feature vector, and adjacency lemmas of the canonical
  graph for every number of transit and peripheral compartments (inductions over n and k).
-/
namespace Pharmpy.C08

namespace FV

theorem abs_inst {s : FV} : s.abs = .inst ↔ s.transits = 0 ∧ s.depot = false ∧ s.zo = false := by
  obtain ⟨zo, n, d, k, e, l, b⟩ := s
  cases zo <;> cases d <;> by_cases h : n = 0 <;> simp [abs, chain, h]

theorem abs_zo {s : FV} : s.abs = .zo ↔ s.transits = 0 ∧ s.depot = false ∧ s.zo = true := by
  obtain ⟨zo, n, d, k, e, l, b⟩ := s
  cases zo <;> cases d <;> by_cases h : n = 0 <;> simp [abs, chain, h]

theorem abs_fo {s : FV} : s.abs = .fo ↔ (s.transits ≠ 0 ∨ s.depot = true) ∧ s.zo = false := by
  obtain ⟨zo, n, d, k, e, l, b⟩ := s
  cases zo <;> cases d <;> by_cases h : n = 0 <;> simp [abs, chain, h]

theorem abs_seq {s : FV} : s.abs = .seq ↔ (s.transits ≠ 0 ∨ s.depot = true) ∧ s.zo = true := by
  obtain ⟨zo, n, d, k, e, l, b⟩ := s
  cases zo <;> cases d <;> by_cases h : n = 0 <;> simp [abs, chain, h]

end FV

theorem setAbs_self {s : FV} {a : Abs} (h : s.abs = a) : setAbs s a = .ok s := by
  subst h; unfold setAbs; split <;> simp_all

theorem setAbs_ok {s s' : FV} {a : Abs} (h : setAbs s a = .ok s') :
    s'.elim = s.elim ∧ s'.periph = s.periph ∧ (s.WF → s'.WF) := by
  cases a <;> simp only [setAbs] at h <;> repeat' split at h
  all_goals first | cases h | skip
  all_goals simp_all [FV.WF]

theorem setAbs_ne_refuse (s : FV) (a : Abs) : setAbs s a ≠ .refuse := by
  cases a <;> simp only [setAbs] <;> repeat' split
  all_goals simp

theorem transitsTail_self (s : FV) (n : Nat) (h : Bool) (hn : s.transits = n) : transitsTail s n h = .ok s := by
  simp [transitsTail, hn]

theorem transitsTail_ok {t s' : FV} {n : Nat} {hl : Bool} (h : transitsTail t n hl = .ok s') :
    (t.transits = n ∧ s' = t) ∨
    (t.transits ≠ n ∧ ¬ (n = 1 ∧ t.depot = false) ∧
      s' = { t with transits := n, bio := if n = 0 then false else t.bio }) := by
  unfold transitsTail at h
  repeat' split at h
  all_goals simp_all

theorem transitsTail_refuse {t : FV} {n : Nat} {hl : Bool} (h : transitsTail t n hl = .refuse) :
    n = 1 ∧ t.abs = .inst := by
  unfold transitsTail at h
  repeat' split at h
  all_goals simp_all

theorem transitsTail_of_noDefect {t : FV} {n : Nat} {hl : Bool} (hd : defectTransitsTail t n hl = none) :
    transitsTail t n hl =
      if t.transits = n then .ok t
      else if n = 1 ∧ t.abs = .inst then .refuse
      else .ok { t with transits := n } := by
  unfold defectTransitsTail at hd
  unfold transitsTail
  repeat' split
  all_goals simp_all

theorem setTransits_ok {c : Ctx} {s s' : FV} {n : Nat} {keep : Bool} (h : setTransits c s n keep = .ok s') :
    s'.transits = n ∧ s'.depot = (keep && s.depot) ∧ s'.lag = false ∧
      s'.zo = s.zo ∧ s'.elim = s.elim ∧ s'.periph = s.periph ∧ (s.WF → s'.WF) := by
  simp only [setTransits] at h
  repeat' split at h
  all_goals first | cases h | skip
  all_goals rcases transitsTail_ok h with ⟨h1, rfl⟩ | ⟨_, h2, rfl⟩
  all_goals simp_all [FV.WF]
  all_goals first | omega | (cases keep <;> simp_all)

theorem setTransits_refuse {c : Ctx} {s : FV} {n : Nat} {keep : Bool}
    (h : setTransits c s n keep = .refuse) : n = 1 ∧ (keep && s.depot) = false := by
  simp only [setTransits] at h
  repeat' split at h
  all_goals first | cases h | skip
  all_goals
    have := transitsTail_refuse h
    simp_all [FV.abs_inst]

/-- Outside the defect classes `set_transit_compartments(n, keep_depot)` is its documentation: `n`
    transits, the depot kept iff asked, the lag time dropped, nothing else changed — or the lone
    transit in front of central refused. -/
theorem setTransits_of_noDefect {c : Ctx} {s : FV} {n : Nat} {keep : Bool}
    (hd : defectOf c (.transits n keep) s = none) :
    setTransits c s n keep =
      if n = 1 ∧ s.transits = 0 ∧ (keep && s.depot) = false ∧ s.zo = false then .refuse
      else .ok { s with transits := n, depot := keep && s.depot, lag := false } := by
  simp only [defectOf] at hd
  simp only [setTransits]
  split at hd
  next hk =>
    -- the depot goes: `defectOf` and `setTransits` walk through the same conditions
    have hkd : keep = false ∧ s.depot = true := by simpa using hk
    rw [if_pos hk]
    split at hd; · cases hd
    split at hd; · cases hd
    split at hd; · cases hd
    rename_i h1 h2 h3
    rw [if_neg h1, if_neg h2, if_neg h3]
    split at hd
    next h0 =>
      rw [if_pos h0]
      split at hd; · cases hd
      rw [transitsTail_of_noDefect hd]
      repeat' split
      all_goals cases hbio : s.bio
      all_goals simp_all [FV.abs_inst]
    next h0 =>
      rw [if_neg h0, transitsTail_of_noDefect hd]
      repeat' split
      all_goals simp_all [FV.abs_inst]
  next hk =>
    -- `defectOf` passes the state with its lag time, which the tail does not read
    have hd' : defectTransitsTail { s with lag := false } n s.lag = none := hd
    have hkd : (keep && s.depot) = s.depot := by cases keep <;> simp_all
    rw [if_neg hk, transitsTail_of_noDefect hd', hkd]
    repeat' split
    all_goals simp_all [FV.abs_inst]

theorem transitEdges_src_other (n : Nat) (dest x : Name) (hx : ∀ i, x ≠ .transit i) :
    (transitEdges n dest).filter (fun e => e.src = x) = [] := by
  induction n generalizing dest with
  | zero => rfl
  | succ n ih =>
    have := hx (n + 1)
    simp [transitEdges, List.filter_append, ih, List.filter_cons, Ne.symm this]

theorem transitEdges_src_transit (n : Nat) (dest : Name) (i : Nat) :
    (transitEdges n dest).filter (fun e => e.src = .transit i) =
      if 1 ≤ i ∧ i < n then [⟨.transit i, .transit (i + 1), rKtr⟩]
      else if i = n ∧ 1 ≤ n then [⟨.transit n, dest, rKtr⟩] else [] := by
  induction n generalizing dest with
  | zero => simp [transitEdges]
  | succ n ih =>
    simp only [transitEdges, List.filter_append, ih, List.filter_cons, List.filter_nil]
    by_cases h1 : n + 1 = i
    · subst h1; simp
    · by_cases h2 : i = n
      · subst h2
        by_cases h3 : 1 ≤ i <;> simp [h1, h3] <;> omega
      · by_cases h3 : 1 ≤ i ∧ i < n
        · have h4 : 1 ≤ i ∧ i < n + 1 := by omega
          have h5 : ¬ i = n + 1 := by omega
          simp [h1, h2, h3, h4, h5]
        · have h4 : ¬ (1 ≤ i ∧ i < n + 1) := by omega
          have h5 : ¬ i = n + 1 := by omega
          simp [h1, h2, h3, h4, h5]

/-- The edges of the transit chain into a given node, apart from the final edge. -/
def chainInto (n : Nat) : Name → List Edge
  | .transit j => if 2 ≤ j ∧ j ≤ n then [⟨.transit (j - 1), .transit j, rKtr⟩] else []
  | _ => []

theorem transitEdges_dst (n : Nat) (dest x : Name) :
    (transitEdges n dest).filter (fun e => e.dst = x) =
      chainInto n x ++ (if 1 ≤ n ∧ dest = x then [⟨.transit n, dest, rKtr⟩] else []) := by
  induction n generalizing dest with
  | zero => cases x <;> simp [transitEdges, chainInto] <;> omega
  | succ n ih =>
    simp only [transitEdges, List.filter_append, ih, List.filter_cons, List.filter_nil]
    cases x with
    | transit j =>
      simp only [chainInto, Name.transit.injEq]
      by_cases h1 : n + 1 = j
      · subst h1
        by_cases h2 : 1 ≤ n
        · have : 2 ≤ n + 1 ∧ n + 1 ≤ n + 1 := by omega
          have h3 : ¬ (2 ≤ n + 1 ∧ n + 1 ≤ n) := by omega
          by_cases h4 : dest = .transit (n + 1) <;> simp [h2, this, h3, h4]
        · have : ¬ (2 ≤ n + 1 ∧ n + 1 ≤ n + 1) := by omega
          have h3 : ¬ (2 ≤ n + 1 ∧ n + 1 ≤ n) := by omega
          by_cases h4 : dest = .transit (n + 1) <;> simp [h2, this, h3, h4]
      · have h5 : (2 ≤ j ∧ j ≤ n + 1) ↔ (2 ≤ j ∧ j ≤ n) := by omega
        by_cases h4 : dest = .transit j <;> simp [h1, h4, h5]
    | out => by_cases h4 : dest = .out <;> simp [chainInto, h4]
    | central => by_cases h4 : dest = .central <;> simp [chainInto, h4]
    | depot => by_cases h4 : dest = .depot <;> simp [chainInto, h4]
    | periph j => by_cases h4 : dest = .periph j <;> simp [chainInto, h4]
    | other t => by_cases h4 : dest = .other t <;> simp [chainInto, h4]

theorem periphEdges_src_other (k : Nat) (x : Name) (hc : x ≠ .central) (hx : ∀ i, x ≠ .periph i) :
    (periphEdges k).filter (fun e => e.src = x) = [] := by
  induction k with
  | zero => rfl
  | succ k ih =>
    have := hx (k + 1)
    simp [periphEdges, List.filter_append, ih, List.filter_cons, Ne.symm this, Ne.symm hc]

theorem periphEdges_dst_other (k : Nat) (x : Name) (hc : x ≠ .central) (hx : ∀ i, x ≠ .periph i) :
    (periphEdges k).filter (fun e => e.dst = x) = [] := by
  induction k with
  | zero => rfl
  | succ k ih =>
    have := hx (k + 1)
    simp [periphEdges, List.filter_append, ih, List.filter_cons, Ne.symm this, Ne.symm hc]

theorem periphEdges_src_periph (k j : Nat) :
    (periphEdges k).filter (fun e => e.src = .periph j) =
      if 1 ≤ j ∧ j ≤ k then [⟨.periph j, .central, rQpc j⟩] else [] := by
  induction k with
  | zero => simp [periphEdges]; omega
  | succ k ih =>
    simp only [periphEdges, List.filter_append, ih, List.filter_cons, List.filter_nil]
    by_cases h1 : k + 1 = j
    · subst h1
      have h2 : ¬ (1 ≤ k + 1 ∧ k + 1 ≤ k) := by omega
      simp [h2]
    · have h5 : (1 ≤ j ∧ j ≤ k + 1) ↔ (1 ≤ j ∧ j ≤ k) := by omega
      simp [h1, h5]

theorem periphEdges_dst_periph (k j : Nat) :
    (periphEdges k).filter (fun e => e.dst = .periph j) =
      if 1 ≤ j ∧ j ≤ k then [⟨.central, .periph j, rQcp j⟩] else [] := by
  induction k with
  | zero => simp [periphEdges]; omega
  | succ k ih =>
    simp only [periphEdges, List.filter_append, ih, List.filter_cons, List.filter_nil]
    by_cases h1 : k + 1 = j
    · subst h1
      have h2 : ¬ (1 ≤ k + 1 ∧ k + 1 ≤ k) := by omega
      simp [h2]
    · have h5 : (1 ≤ j ∧ j ≤ k + 1) ↔ (1 ≤ j ∧ j ≤ k) := by omega
      simp [h1, h5]

def periphNames : Nat → List Name
  | 0 => []
  | k + 1 => periphNames k ++ [.periph (k + 1)]

theorem periphEdges_src_central (k : Nat) :
    ((periphEdges k).filter (fun e => e.src = .central)).map (·.dst) = periphNames k := by
  induction k with
  | zero => rfl
  | succ k ih => simp [periphEdges, List.filter_append, ih, List.filter_cons, periphNames]

theorem periphEdges_dst_central (k : Nat) :
    ((periphEdges k).filter (fun e => e.dst = .central)).map (·.src) = periphNames k := by
  induction k with
  | zero => rfl
  | succ k ih => simp [periphEdges, List.filter_append, ih, List.filter_cons, periphNames]

theorem periphNames_length (k : Nat) : (periphNames k).length = k := by
  induction k with
  | zero => rfl
  | succ k ih => simp [periphNames, ih]


theorem dest_ne_transit (d : Bool) (j : Nat) : (if d then Name.depot else Name.central) ≠ .transit j := by
  cases d <;> simp

/-- The output has exactly one inflow, from CENTRAL — for every n and k. -/
theorem canon_preds_out (s : FV) : (canonGraph s).preds .out = [(.central, rElim s.elim)] := by
  obtain ⟨zo, n, d, k, e, l, b⟩ := s
  have hT (dest : Name) (h : dest ≠ .out) : (transitEdges n dest).filter (fun e => e.dst = .out) = [] := by
    simp [transitEdges_dst, chainInto, h]
  have hP : (periphEdges k).filter (fun e => e.dst = .out) = [] :=
    periphEdges_dst_other k .out (by simp) (by simp)
  cases d <;> simp [Graph.preds, canonGraph, List.filter_append, List.filter_cons, hT, hP]

/-- The elimination edge is found first — for every n and k. -/
theorem canon_flow_central_out (s : FV) : (canonGraph s).flow .central .out = some (rElim s.elim) := by
  simp [Graph.flow, canonGraph, List.find?]

end Pharmpy.C08
