import PharmpyProofs.C05.GraphLemmas
/-
  `_order_compartments`: the breadth-first search and the `while remaining:` loop list only nodes from a set closed
  under the neighbour function (the compartments of the graph), none twice, and lose none they were given.
-/
namespace Pharmpy.C05

variable {α : Type} [DecidableEq α]

theorem bfsVisit_snd (cs : List α) : ∀ q seen : List α, (bfsVisit cs (q, seen)).2 = addNew seen cs := by
  induction cs with
  | nil => exact fun _ _ => rfl
  | cons c cs ih =>
    intro q seen
    rw [bfsVisit, addNew]
    split
    · exact ih q seen
    · exact ih _ _

theorem bfsVisit_fst (cs : List α) : ∀ q seen : List α, ∀ x ∈ (bfsVisit cs (q, seen)).1, x ∈ q ∨ x ∈ cs := by
  induction cs with
  | nil => exact fun _ _ _ hx => Or.inl hx
  | cons c cs ih => grind [bfsVisit]

theorem bfsLoop_spec (nbrs : α → List α) (P : α → Prop) (hP : ∀ x, P x → ∀ y ∈ nbrs x, P y) :
    ∀ (fuel : Nat) (q seen : List α), seen.Nodup → (∀ x ∈ q, P x) → (∀ x ∈ seen, P x) →
      (bfsLoop nbrs fuel q seen).Nodup ∧ (∀ x ∈ bfsLoop nbrs fuel q seen, P x)
      ∧ (∀ x ∈ seen, x ∈ bfsLoop nbrs fuel q seen) := by
  intro fuel
  induction fuel with
  | zero => exact fun q seen h _ hs => ⟨h, hs, fun _ hx => hx⟩
  | succ n ih =>
    intro q seen h hq hs
    cases q with
    | nil => exact ⟨h, hs, fun _ hx => hx⟩
    | cons p q =>
      have hp : P p := hq p List.mem_cons_self
      obtain ⟨h1, h2⟩ := addNew_spec (nbrs p) seen h
      have e : bfsLoop nbrs (n + 1) (p :: q) seen
          = bfsLoop nbrs n (bfsVisit (nbrs p) (q, seen)).1 (addNew seen (nbrs p)) :=
        congrArg (bfsLoop nbrs n _) (bfsVisit_snd (nbrs p) q seen)
      rw [e]
      obtain ⟨r1, r2, r3⟩ := ih _ _ h1
        (fun x hx => (bfsVisit_fst _ _ _ x hx).elim (fun hx => hq x (List.mem_cons_of_mem _ hx)) (hP p hp x))
        (fun x hx => ((h2 x).mp hx).elim (hs x) (hP p hp x))
      exact ⟨r1, r2, fun x hx => r3 x ((h2 x).mpr (Or.inl hx))⟩

theorem bfs_spec (nbrs : α → List α) (P : α → Prop) (hP : ∀ x, P x → ∀ y ∈ nbrs x, P y)
    (fuel : Nat) (src : α) (hsrc : P src) :
    (bfs nbrs fuel src).Nodup ∧ (∀ x ∈ bfs nbrs fuel src, P x) ∧ src ∈ bfs nbrs fuel src := by
  have hP1 : ∀ x ∈ [src], P x := fun x hx => List.mem_singleton.mp hx ▸ hsrc
  obtain ⟨h1, h2, h3⟩ := bfsLoop_spec nbrs P hP fuel [src] [src] (List.nodup_cons.mpr ⟨List.not_mem_nil, List.nodup_nil⟩) hP1 hP1
  exact ⟨h1, h2, h3 src List.mem_cons_self⟩

section
variable {ε : Type} [DecidableEq ε]

theorem absorb_fst (comp : Node ε) (cs : List (Node ε)) : ∀ ns rm : List (Node ε),
    (absorb comp cs (ns, rm)).1 = addNew ns cs := by
  induction cs with
  | nil => exact fun _ _ => rfl
  | cons c cs ih =>
    intro ns rm
    rw [absorb, addNew]
    split
    · exact ih ns rm
    · exact ih _ _

theorem absorb_snd_sublist (comp : Node ε) (cs : List (Node ε)) : ∀ ns rm : List (Node ε),
    (absorb comp cs (ns, rm)).2.Sublist rm := by
  induction cs with
  | nil => exact fun _ _ => List.Sublist.refl _
  | cons c cs ih =>
    intro ns rm
    rw [absorb]
    split
    · exact ih ns rm
    · refine (ih _ _).trans ?_
      split
      · exact List.Sublist.refl _
      · exact List.erase_sublist

theorem absorb_snd_mem (comp : Node ε) (cs : List (Node ε)) : ∀ (ns rm : List (Node ε)), ∀ x ∈ rm,
    x ∈ (absorb comp cs (ns, rm)).2 ∨ x ∈ cs := by
  induction cs with
  | nil => exact fun _ _ _ hx => Or.inl hx
  | cons c cs ih => grind [absorb]

theorem remainingLoop_spec (nbrs : Node ε → List (Node ε)) (bf : Nat) (P : Node ε → Prop)
    (hP : ∀ x, P x → ∀ y ∈ nbrs x, P y) :
    ∀ (fuel : Nat) (rm ns : List (Node ε)), rm.length < fuel → ns.Nodup → (∀ x ∈ ns, P x) → (∀ x ∈ rm, P x) →
      (remainingLoop nbrs bf fuel rm ns).Nodup ∧ (∀ x ∈ remainingLoop nbrs bf fuel rm ns, P x)
      ∧ (∀ x ∈ ns, x ∈ remainingLoop nbrs bf fuel rm ns) ∧ (∀ x ∈ rm, x ∈ remainingLoop nbrs bf fuel rm ns) := by
  intro fuel
  induction fuel with
  | zero => exact fun rm ns h => absurd h (Nat.not_lt_zero _)
  | succ n ih =>
    intro rm ns hlen hnd hns hrm
    cases rm with
    | nil => exact ⟨hnd, hns, fun _ hx => hx, fun _ hx => nomatch hx⟩
    | cons comp rm =>
      obtain ⟨b1, b2, b3⟩ := bfs_spec nbrs P hP bf comp (hrm comp List.mem_cons_self)
      obtain ⟨a1, a2⟩ := addNew_spec (bfs nbrs bf comp) ns hnd
      have hsub := absorb_snd_sublist comp (bfs nbrs bf comp) ns rm
      have e : remainingLoop nbrs bf (n + 1) (comp :: rm) ns
          = remainingLoop nbrs bf n (absorb comp (bfs nbrs bf comp) (ns, rm)).2 (addNew ns (bfs nbrs bf comp)) :=
        congrArg (remainingLoop nbrs bf n _) (absorb_fst comp (bfs nbrs bf comp) ns rm)
      rw [e]
      obtain ⟨r1, r2, r3, r4⟩ := ih _ _ (Nat.lt_of_le_of_lt hsub.length_le (Nat.lt_of_succ_lt_succ hlen)) a1
        (fun x hx => ((a2 x).mp hx).elim (hns x) (b2 x))
        (fun x hx => hrm x (List.mem_cons_of_mem _ (hsub.subset hx)))
      refine ⟨r1, r2, fun x hx => r3 x ((a2 x).mpr (Or.inl hx)), fun x hx => ?_⟩
      rcases List.mem_cons.mp hx with rfl | hx
      · exact r3 x ((a2 x).mpr (Or.inr b3))
      · exact (absorb_snd_mem comp _ ns rm x hx).elim (r4 x) fun hx => r3 x ((a2 x).mpr (Or.inr hx))

theorem mem_sortByName (xs : List (Node ε)) (x : Node ε) : x ∈ sortByName xs ↔ x ∈ xs :=
  (List.mergeSort_perm xs _).mem_iff

theorem nodup_sortByName {xs : List (Node ε)} (h : xs.Nodup) : (sortByName xs).Nodup :=
  (List.mergeSort_perm xs _).nodup_iff.mpr h

theorem mem_sorted_split (l : List (Node ε)) (p : Node ε → Bool) (x : Node ε) :
    x ∈ sortByName (l.filter p) ++ sortByName (l.filter (fun n => !p n)) ↔ x ∈ l := by
  rw [List.mem_append, mem_sortByName, mem_sortByName, List.mem_filter, List.mem_filter, ← and_or_left,
    Bool.not_eq_true']
  exact and_iff_left (Bool.eq_false_or_eq_true (p x))

theorem comps_nodup {g : CGraph ε} (h : g.WF) : (comps g).Nodup := List.Pairwise.filter _ h.1

theorem mem_comps {g : CGraph ε} {n : Node ε} : n ∈ comps g ↔ n ∈ g.nodes ∧ n.isOutput = false := by
  unfold comps
  rw [List.mem_filter, Bool.not_eq_true']

theorem nodes_filter_comps (g : CGraph ε) : g.nodes.filter (fun n => (comps g).contains n) = comps g := by
  unfold comps
  refine List.filter_congr fun n hn => ?_
  simp [List.mem_filter, hn]

theorem mem_dosingStep (cn : String) (acc : List (Node ε)) (n x : Node ε)
    (h : x ∈ dosingStep cn acc n) : x ∈ acc ∨ x = n := by
  grind [dosingStep, List.dropLast_subset, List.mem_of_mem_drop]

theorem mem_foldl_dosingStep (cn : String) (l : List (Node ε)) : ∀ (acc : List (Node ε)) (x : Node ε),
    x ∈ l.foldl (dosingStep cn) acc → x ∈ acc ∨ x ∈ l := by
  induction l with
  | nil => exact fun _ _ h => Or.inl h
  | cons n l ih => grind [mem_dosingStep]

theorem dosing_mem_comps (g : CGraph ε) (ds : List (Node ε)) (h : dosingCompartments g = .ok ds) :
    ∀ x ∈ ds, x ∈ comps g := by
  unfold dosingCompartments at h
  simp only at h
  split at h
  · cases h
  · split at h
    · cases h
    · cases h
      intro x hx
      rcases mem_foldl_dosingStep _ _ _ x hx with hx | hx
      · cases hx
      · exact (mem_sortByName _ _).mp (List.mem_filter.mp hx).1

theorem orderNbrs_closed {g : CGraph ε} (h : g.WF) : ∀ x, x ∈ comps g → ∀ y ∈ orderNbrs g x, y ∈ comps g := by
  intro x _ y hy
  unfold orderNbrs at hy
  rw [mem_sortByName, List.mem_filter] at hy
  obtain ⟨q, hq, rfl⟩ := List.mem_map.mp hy.1
  exact List.mem_filter.mpr ⟨Graph.succOf_targets h x q hq, hy.2⟩

end
end Pharmpy.C05
