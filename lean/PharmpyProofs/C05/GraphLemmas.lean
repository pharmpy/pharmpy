import PharmpyModel.C05.Model
/-
  Association lists as Python dicts, and the graph on top of them: what every networkx operation does to
  the node list and to each flow, and that it keeps the graph well formed.
-/
namespace Pharmpy.C05

theorem nodup_insertNew {α : Type} [DecidableEq α] {l : List α} (k : α) (h : l.Nodup) :
    (if k ∈ l then l else l ++ [k]).Nodup := by
  split
  · exact h
  · next hk =>
    exact List.nodup_append.mpr ⟨h, List.nodup_cons.mpr ⟨List.not_mem_nil, List.nodup_nil⟩,
      fun _ hx _ hb e => hk (List.mem_singleton.mp hb ▸ e ▸ hx)⟩

theorem mem_insertNew {α : Type} [DecidableEq α] {l : List α} {k x : α} :
    x ∈ (if k ∈ l then l else l ++ [k]) ↔ x ∈ l ∨ x = k := by
  split
  · next hk => exact ⟨Or.inl, fun h => h.elim id (· ▸ hk)⟩
  · exact List.mem_append.trans (or_congr_right List.mem_singleton)

theorem if_eq_comm {α β : Type} [DecidableEq α] (a b : α) (u v : β) :
    (if a = b then u else v) = if b = a then u else v := by
  by_cases h : a = b
  · rw [if_pos h, if_pos h.symm]
  · rw [if_neg h, if_neg (Ne.symm h)]

theorem foldl_preserves {α β : Type} (P : α → Prop) (f : α → β → α) (l : List β)
    (hf : ∀ a, ∀ b ∈ l, P a → P (f a b)) {a : α} (h : P a) : P (l.foldl f a) := by
  induction l generalizing a with
  | nil => exact h
  | cons b l ih => exact ih (fun a b hb => hf a b (List.mem_cons_of_mem _ hb)) (hf a b List.mem_cons_self h)

/-- `seen` followed by the elements of `cs` not met before: a dict's keys after `for c in cs: d[c] = …`, the seen
    list of the breadth-first scan, the node list of the `for c in connected` loop -/
def addNew {α : Type} [DecidableEq α] (seen : List α) : List α → List α
  | [] => seen
  | c :: cs => addNew (if c ∈ seen then seen else seen ++ [c]) cs

theorem addNew_spec {α : Type} [DecidableEq α] (cs : List α) : ∀ seen : List α, seen.Nodup →
    (addNew seen cs).Nodup ∧ ∀ x, x ∈ addNew seen cs ↔ x ∈ seen ∨ x ∈ cs := by
  induction cs with
  | nil => exact fun seen h => ⟨h, fun x => (or_iff_left List.not_mem_nil).symm⟩
  | cons c cs ih =>
    intro seen h
    obtain ⟨h1, h2⟩ := ih _ (nodup_insertNew c h)
    refine ⟨h1, fun x => ?_⟩
    rw [addNew, h2, mem_insertNew, List.mem_cons, or_assoc]

section AL
variable {κ ν : Type} [DecidableEq κ]

theorem alGet?_alSet (l : List (κ × ν)) (k : κ) (v : ν) (x : κ) :
    alGet? (alSet l k v) x = if x = k then some v else alGet? l x := by
  induction l with
  | nil => rfl
  | cons p l ih => grind [alSet, alGet?]

theorem alGet?_alErase (l : List (κ × ν)) (k x : κ) :
    alGet? (alErase l k) x = if x = k then none else alGet? l x := by
  induction l with
  | nil => exact (ite_self _).symm
  | cons p l ih => grind [alErase, alGet?]

theorem alGet?_map_snd {β γ : Type} (l : List (κ × β)) (f : β → γ) (x : κ) :
    alGet? (l.map (fun p => (p.1, f p.2))) x = (alGet? l x).map f := by
  induction l with
  | nil => rfl
  | cons p l ih => grind [alGet?]

theorem alGet?_append (l l' : List (κ × ν)) (x : κ) :
    alGet? (l ++ l') x = (alGet? l x).or (alGet? l' x) := by
  induction l with
  | nil => rfl
  | cons p l ih => grind [alGet?]

theorem alGet?_isSome_iff (l : List (κ × ν)) (k : κ) : (alGet? l k).isSome ↔ k ∈ l.map (·.1) := by
  induction l with
  | nil => exact ⟨Bool.noConfusion, (nomatch ·)⟩
  | cons p l ih =>
    rw [alGet?, List.map_cons, List.mem_cons]
    split
    · next h => exact ⟨fun _ => Or.inl h, fun _ => rfl⟩
    · next h => exact ih.trans (or_iff_right h).symm

theorem alGet?_some_mem {l : List (κ × ν)} {k : κ} {v : ν} (h : alGet? l k = some v) : (k, v) ∈ l := by
  induction l with
  | nil => cases h
  | cons p l ih => grind [alGet?]

theorem alGet?_eq_some_iff {l : List (κ × ν)} (hnd : (l.map (·.1)).Nodup) {k : κ} {v : ν} :
    alGet? l k = some v ↔ (k, v) ∈ l := by
  refine ⟨alGet?_some_mem, fun h => ?_⟩
  induction l with
  | nil => cases h
  | cons p l ih =>
    rw [List.map_cons, List.nodup_cons] at hnd
    rw [alGet?]
    cases h with
    | head => exact if_pos rfl
    | tail _ h => exact (if_neg fun e => hnd.1 (List.mem_map.mpr ⟨_, h, e⟩)).trans (ih hnd.2 h)

theorem alSet_keys (l : List (κ × ν)) (k : κ) (v : ν) :
    (alSet l k v).map (·.1) = if k ∈ l.map (·.1) then l.map (·.1) else l.map (·.1) ++ [k] := by
  induction l with
  | nil => rfl
  | cons p l ih => grind [alSet]

theorem mem_alSet {l : List (κ × ν)} {k : κ} {v : ν} {p : κ × ν} (h : p ∈ alSet l k v) :
    p = (k, v) ∨ p ∈ l := by
  induction l with
  | nil => exact Or.inl (List.mem_singleton.mp h)
  | cons q l ih => grind [alSet]

theorem alErase_keys (l : List (κ × ν)) (k : κ) :
    (alErase l k).map (·.1) = (l.map (·.1)).filter (fun x => decide (x ≠ k)) := by
  unfold alErase
  rw [List.filter_map]
  rfl

theorem mem_alErase {l : List (κ × ν)} {k : κ} {p : κ × ν} (h : p ∈ alErase l k) : p ∈ l ∧ p.1 ≠ k := by
  simpa [alErase] using h

end AL

namespace Graph
variable {α ρ : Type} [DecidableEq α]

omit [DecidableEq α] in
theorem mem_nodes_of_mem_adj {g : Graph α ρ} {p : α × List (α × ρ)} (h : p ∈ g.adj) : p.1 ∈ g.nodes :=
  List.mem_map.mpr ⟨p, h, rfl⟩

theorem succOf_cases (g : Graph α ρ) (u : α) : g.succOf u = [] ∨ (u, g.succOf u) ∈ g.adj := by
  unfold succOf
  cases hg : alGet? g.adj u with
  | none => exact Or.inl rfl
  | some s => exact Or.inr (alGet?_some_mem hg)

theorem adj_of_mem_succOf {g : Graph α ρ} {u : α} {q : α × ρ} (hq : q ∈ g.succOf u) : (u, g.succOf u) ∈ g.adj := by
  rcases succOf_cases g u with h0 | h1
  · rw [h0] at hq; cases hq
  · exact h1

theorem succOf_of_mem_adj {g : Graph α ρ} (h : g.WF) {p : α × List (α × ρ)} (hp : p ∈ g.adj) :
    g.succOf p.1 = p.2 := by
  unfold succOf
  rw [(alGet?_eq_some_iff h.1).mpr hp]
  rfl

theorem succOf_keys_nodup {g : Graph α ρ} (h : g.WF) (u : α) : ((g.succOf u).map (·.1)).Nodup := by
  rcases succOf_cases g u with h0 | h1
  · rw [h0]; exact List.nodup_nil
  · exact h.2.2 _ h1

theorem succOf_targets {g : Graph α ρ} (h : g.WF) (u : α) : ∀ q ∈ g.succOf u, q.1 ∈ g.nodes :=
  fun q hq => h.2.1 _ (adj_of_mem_succOf hq) q hq

theorem mem_succOf_iff {g : Graph α ρ} (h : g.WF) {u v : α} {r : ρ} :
    (v, r) ∈ g.succOf u ↔ g.getFlow u v = some r :=
  (alGet?_eq_some_iff (succOf_keys_nodup h u)).symm

theorem getFlow_mem_nodes {g : Graph α ρ} (h : g.WF) {x y : α} {r : ρ} (hf : g.getFlow x y = some r) :
    x ∈ g.nodes ∧ y ∈ g.nodes := by
  have hm := (mem_succOf_iff h).mpr hf
  exact ⟨mem_nodes_of_mem_adj (adj_of_mem_succOf hm), succOf_targets h x _ hm⟩

theorem mem_edges_iff {g : Graph α ρ} (h : g.WF) {x y : α} {r : ρ} :
    (x, y, r) ∈ g.edges ↔ g.getFlow x y = some r := by
  rw [← mem_succOf_iff h]
  unfold edges
  simp only [List.mem_flatMap, List.mem_map, Prod.mk.injEq]
  constructor
  · rintro ⟨p, hp, q, hq, rfl, rfl, rfl⟩
    rw [succOf_of_mem_adj h hp]; exact hq
  · exact fun hm => ⟨_, adj_of_mem_succOf hm, _, hm, rfl, rfl, rfl⟩

theorem nodes_addNode (g : Graph α ρ) (n : α) :
    (g.addNode n).nodes = if n ∈ g.nodes then g.nodes else g.nodes ++ [n] := by
  unfold addNode
  split
  · rfl
  · exact List.map_append

theorem mem_nodes_addNode (g : Graph α ρ) (n x : α) : x ∈ (g.addNode n).nodes ↔ x ∈ g.nodes ∨ x = n := by
  rw [nodes_addNode]; exact mem_insertNew

theorem addNode_of_mem {g : Graph α ρ} {n : α} (h : n ∈ g.nodes) : g.addNode n = g := if_pos h

theorem succOf_addNode (g : Graph α ρ) (n x : α) : (g.addNode n).succOf x = g.succOf x := by
  unfold addNode
  split
  · rfl
  · unfold succOf
    rw [alGet?_append]
    cases alGet? g.adj x with
    | some s => rfl
    | none => simp only [alGet?, Option.none_or]; split <;> rfl

theorem getFlow_addNode (g : Graph α ρ) (n x y : α) : (g.addNode n).getFlow x y = g.getFlow x y := by
  unfold getFlow; rw [succOf_addNode]

omit [DecidableEq α] in
theorem WF_empty : (Graph.empty : Graph α ρ).WF :=
  ⟨List.nodup_nil, fun _ hp => (List.not_mem_nil hp).elim, fun _ hp => (List.not_mem_nil hp).elim⟩

theorem adj_addNode_of_not_mem {g : Graph α ρ} {n : α} (h : n ∉ g.nodes) :
    (g.addNode n).adj = g.adj ++ [(n, [])] := by
  unfold addNode; rw [if_neg h]

theorem WF_addNode {g : Graph α ρ} (h : g.WF) (n : α) : (g.addNode n).WF := by
  by_cases hn : n ∈ g.nodes
  · rw [addNode_of_mem hn]; exact h
  · refine ⟨nodes_addNode g n ▸ nodup_insertNew n h.1, fun p hp q hq => ?_, fun p hp => ?_⟩
    all_goals rcases List.mem_append.mp (adj_addNode_of_not_mem hn ▸ hp) with hp | hp
    · exact (mem_nodes_addNode g n _).mpr (Or.inl (h.2.1 p hp q hq))
    · cases List.mem_singleton.mp hp; cases hq
    · exact h.2.2 p hp
    · cases List.mem_singleton.mp hp; exact List.nodup_nil

theorem succOf_setSucc (g : Graph α ρ) (u : α) (s : List (α × ρ)) (x : α) :
    (g.setSucc u s).succOf x = if x = u then s else g.succOf x := by
  unfold setSucc succOf
  rw [alGet?_alSet]
  split <;> rfl

theorem nodes_setSucc (g : Graph α ρ) (u : α) (s : List (α × ρ)) :
    (g.setSucc u s).nodes = if u ∈ g.nodes then g.nodes else g.nodes ++ [u] := alSet_keys g.adj u s

theorem WF_setSucc {g : Graph α ρ} (h : g.WF) (u : α) (s : List (α × ρ))
    (hs : ∀ q ∈ s, q.1 ∈ g.nodes ∨ q.1 = u) (hnd : (s.map (·.1)).Nodup) : (g.setSucc u s).WF := by
  refine ⟨nodes_setSucc g u s ▸ nodup_insertNew u h.1, fun p hp q hq => ?_, fun p hp => ?_⟩
  · rw [nodes_setSucc, mem_insertNew]
    rcases mem_alSet hp with rfl | hp
    · exact hs q hq
    · exact Or.inl (h.2.1 p hp q hq)
  · rcases mem_alSet hp with rfl | hp
    · exact hnd
    · exact h.2.2 p hp

theorem getFlow_addEdge (g : Graph α ρ) (u v : α) (r : ρ) (x y : α) :
    (g.addEdge u v r).getFlow x y = if x = u ∧ y = v then some r else g.getFlow x y := by
  unfold addEdge getFlow
  simp only [succOf_setSucc, succOf_addNode]
  by_cases hx : x = u
  · subst hx
    simp only [if_true, alGet?_alSet, true_and]
  · simp only [hx, if_false, false_and]

theorem nodes_addEdge_of_mem (g : Graph α ρ) (u v : α) (r : ρ) (hu : u ∈ g.nodes) (hv : v ∈ g.nodes) :
    (g.addEdge u v r).nodes = g.nodes := by
  unfold addEdge
  simp only [addNode_of_mem hu, addNode_of_mem hv, nodes_setSucc, if_pos hu]

theorem WF_addEdge {g : Graph α ρ} (h : g.WF) (u v : α) (r : ρ) : (g.addEdge u v r).WF := by
  have h1 : ((g.addNode u).addNode v).WF := WF_addNode (WF_addNode h u) v
  refine WF_setSucc h1 u _ (fun q hq => ?_) ?_
  · rcases mem_alSet hq with rfl | hq
    · exact Or.inl ((mem_nodes_addNode _ _ _).mpr (Or.inr rfl))
    · exact Or.inl (succOf_targets h1 u q hq)
  · rw [alSet_keys]
    exact nodup_insertNew v (succOf_keys_nodup h1 u)

theorem getFlow_removeEdge (g : Graph α ρ) (u v x y : α) :
    (g.removeEdge u v).getFlow x y = if x = u ∧ y = v then none else g.getFlow x y := by
  unfold removeEdge getFlow
  simp only [succOf_setSucc]
  by_cases hx : x = u
  · subst hx
    simp only [if_true, alGet?_alErase, true_and]
  · simp only [hx, if_false, false_and]

theorem WF_removeEdge {g : Graph α ρ} (h : g.WF) (u v : α) : (g.removeEdge u v).WF := by
  refine WF_setSucc h u _ (fun q hq => Or.inl (succOf_targets h u q (mem_alErase hq).1)) ?_
  rw [alErase_keys]
  exact List.Pairwise.filter _ (succOf_keys_nodup h u)

theorem nodes_removeNode (g : Graph α ρ) (n : α) :
    (g.removeNode n).nodes = g.nodes.filter (fun x => decide (x ≠ n)) := by
  unfold removeNode nodes
  rw [List.map_map, ← alErase_keys]
  rfl

theorem getFlow_removeNode (g : Graph α ρ) (n x y : α) :
    (g.removeNode n).getFlow x y = if x = n ∨ y = n then none else g.getFlow x y := by
  unfold removeNode getFlow succOf
  simp only
  rw [alGet?_map_snd (alErase g.adj n) (fun s => alErase s n), alGet?_alErase]
  by_cases hx : x = n
  · simp only [hx, if_true, true_or]; rfl
  · simp only [hx, if_false, false_or]
    cases alGet? g.adj x with
    | none => exact (ite_self _).symm
    | some s => exact alGet?_alErase s n y

theorem WF_removeNode {g : Graph α ρ} (h : g.WF) (n : α) : (g.removeNode n).WF := by
  refine ⟨nodes_removeNode g n ▸ List.Pairwise.filter _ h.1, fun p hp q hq => ?_, fun p hp => ?_⟩
  all_goals obtain ⟨p0, hp0, rfl⟩ := List.mem_map.mp hp
  · rw [nodes_removeNode, List.mem_filter]
    have hq' := mem_alErase hq
    exact ⟨h.2.1 p0 (mem_alErase hp0).1 q hq'.1, decide_eq_true hq'.2⟩
  · rw [alErase_keys]
    exact List.Pairwise.filter _ (h.2.2 p0 (mem_alErase hp0).1)

omit [DecidableEq α] in
theorem nodes_mapRates (g : Graph α ρ) (f : ρ → ρ) : (g.mapRates f).nodes = g.nodes := by
  unfold mapRates nodes
  rw [List.map_map]
  rfl

theorem getFlow_mapRates (g : Graph α ρ) (f : ρ → ρ) (x y : α) :
    (g.mapRates f).getFlow x y = (g.getFlow x y).map f := by
  unfold mapRates getFlow succOf
  simp only
  rw [alGet?_map_snd g.adj (fun s => s.map (fun q => (q.1, f q.2)))]
  cases alGet? g.adj x with
  | none => rfl
  | some s => exact alGet?_map_snd s f y

omit [DecidableEq α] in
theorem WF_mapRates {g : Graph α ρ} (h : g.WF) (f : ρ → ρ) : (g.mapRates f).WF := by
  refine ⟨nodes_mapRates g f ▸ h.1, fun p hp q hq => ?_, fun p hp => ?_⟩
  all_goals obtain ⟨p0, hp0, rfl⟩ := List.mem_map.mp hp
  · obtain ⟨q0, hq0, rfl⟩ := List.mem_map.mp hq
    exact nodes_mapRates g f ▸ h.2.1 p0 hp0 q0 hq0
  · rw [List.map_map]
    exact h.2.2 p0 hp0

theorem WF_addEdges {g : Graph α ρ} (h : g.WF) (es : List (α × α × ρ)) : (g.addEdges es).WF :=
  foldl_preserves WF _ es (fun _ _ _ h => WF_addEdge h _ _ _) h

theorem addEdges_cons (g : Graph α ρ) (e : α × α × ρ) (es : List (α × α × ρ)) :
    g.addEdges (e :: es) = (g.addEdge e.1 e.2.1 e.2.2).addEdges es := List.foldl_cons ..

/-- Python's last-write-wins, without naming the last write: if all edges `x → y` in the list carry the
    same rate, that is the flow afterwards; if there is none, the flow is what it was. -/
theorem getFlow_addEdges (es : List (α × α × ρ)) (x y : α) (t : Option ρ) : ∀ (g : Graph α ρ),
    (∀ e ∈ es, x = e.1 → y = e.2.1 → some e.2.2 = t) →
    (∃ e ∈ es, x = e.1 ∧ y = e.2.1) ∨ g.getFlow x y = t → (g.addEdges es).getFlow x y = t := by
  induction es with
  | nil => exact fun g _ h => h.elim (fun ⟨_, he, _⟩ => nomatch he) id
  | cons e es ih =>
    intro g hall hex
    rw [addEdges_cons]
    apply ih _ (fun e' he' => hall e' (List.mem_cons_of_mem _ he'))
    rw [getFlow_addEdge]
    by_cases hc : x = e.1 ∧ y = e.2.1
    · exact Or.inr ((if_pos hc).trans (hall e List.mem_cons_self hc.1 hc.2))
    · rw [if_neg hc]
      obtain ⟨e', he', hce'⟩ | hex := hex
      · cases he' with
        | head => exact absurd hce' hc
        | tail _ he' => exact Or.inl ⟨e', he', hce'⟩
      · exact Or.inr hex

theorem nodes_addEdges_of_mem (es : List (α × α × ρ)) (g : Graph α ρ)
    (h : ∀ e ∈ es, e.1 ∈ g.nodes ∧ e.2.1 ∈ g.nodes) : (g.addEdges es).nodes = g.nodes :=
  foldl_preserves (fun g' : Graph α ρ => g'.nodes = g.nodes) _ es
    (fun g' e he hg => (nodes_addEdge_of_mem g' _ _ _ (hg ▸ (h e he).1) (hg ▸ (h e he).2)).trans hg) rfl

theorem WF_relabel1 {g : Graph α ρ} (h : g.WF) (old new : α) : (g.relabel1 old new).WF := by
  unfold relabel1
  split
  · split
    · exact WF_addNode h new
    · exact WF_addEdges (WF_removeNode (WF_addNode h new) old) _
  · exact h

theorem WF_relabel {g g' : Graph α ρ} (h : g.WF) (m : List (α × α)) (hr : g.relabel m = some g') : g'.WF := by
  unfold relabel at hr
  obtain ⟨order, _, rfl⟩ := Option.map_eq_some_iff.mp hr
  refine foldl_preserves WF _ order (fun g old _ h => ?_) h
  split
  · exact WF_relabel1 h _ _
  · exact h

end Graph
end Pharmpy.C05
