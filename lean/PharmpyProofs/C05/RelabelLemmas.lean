import PharmpyProofs.C05.GraphLemmas
/-
  `nx.relabel_nodes(copy=False)`: one node relabelled to a fresh value keeps every flow and moves to the end of
  the node order; a mapping `{k: f k}` (the builder's one-entry mappings, the mapping of
  `CompartmentalSystem.subs`) is a sequence of such steps, in an order that depends on whether every key changes.
-/
namespace Pharmpy.C05
open Graph
variable {α ρ : Type} [DecidableEq α]

namespace Graph
theorem mem_relabelOut {g : Graph α ρ} (h : g.WF) {old new : α} {e : α × α × ρ} :
    e ∈ g.relabelOut old new ↔ ∃ y r, g.getFlow old y = some r ∧ (new, (if old = y then new else y), r) = e := by
  unfold relabelOut
  rw [List.mem_map]
  exact ⟨fun ⟨p, hp, he⟩ => ⟨p.1, p.2, (mem_succOf_iff h).mp hp, he⟩,
    fun ⟨y, r, hf, he⟩ => ⟨(y, r), (mem_succOf_iff h).mpr hf, he⟩⟩

theorem mem_relabelIn {g : Graph α ρ} (h : g.WF) {old new : α} {e : α × α × ρ} :
    e ∈ g.relabelIn old new ↔ ∃ x r, g.getFlow x old = some r ∧ ((if old = x then new else x), new, r) = e := by
  unfold relabelIn
  simp only [List.mem_filterMap, Option.map_eq_some_iff]
  constructor
  · rintro ⟨p, hp, r, hr, he⟩
    exact ⟨p.1, r, (congrArg (alGet? · old) (succOf_of_mem_adj h hp)).trans hr, he⟩
  · exact fun ⟨x, r, hf, he⟩ => ⟨_, adj_of_mem_succOf (alGet?_some_mem hf), r, hf, he⟩

theorem getFlow_relabel1 {g : Graph α ρ} (h : g.WF) (old new : α) (hold : old ∈ g.nodes) (hnew : new ∉ g.nodes)
    (x y : α) (hx : x ∈ g.nodes) (hy : y ∈ g.nodes) :
    (g.relabel1 old new).getFlow (if old = x then new else x) (if old = y then new else y) = g.getFlow x y := by
  have hne : new ≠ old := fun e => hnew (e ▸ hold)
  have h1 : (g.addNode new).WF := WF_addNode h new
  -- on the nodes, renaming is injective, never yields `old`, and fixes whatever stays a node
  have hinj : ∀ {a b}, a ∈ g.nodes → b ∈ g.nodes →
      (if old = a then new else a) = (if old = b then new else b) → a = b := by
    intro a b ha hb hab
    by_cases h1 : old = a
    · by_cases h2 : old = b
      · exact h1.symm.trans h2
      · rw [if_pos h1, if_neg h2] at hab
        exact absurd (hab ▸ hb) hnew
    · rw [if_neg h1] at hab
      by_cases h2 : old = b
      · rw [if_pos h2] at hab
        exact absurd (hab ▸ ha) hnew
      · rwa [if_neg h2] at hab
  have hold' : ∀ z, (if old = z then new else z) ≠ old := by
    intro z; split
    · exact hne
    · exact fun e => ‹¬ old = z› e.symm
  have hfix : ∀ z, (if old = z then new else z) ∈ g.nodes → (if old = z then new else z) = z := by
    intro z hz; split at hz
    · exact absurd hz hnew
    · exact if_neg ‹_›
  have hrold : (if old = old then new else old) = new := if_pos rfl
  rw [relabel1, if_pos hold]
  simp only [if_neg hne]
  refine getFlow_addEdges _ _ _ _ _ (fun e he hex hey => ?_) ?_
  · rcases List.mem_append.mp he with he | he
    · obtain ⟨y', r, hf, rfl⟩ := (mem_relabelOut h1).mp he
      rw [getFlow_addNode] at hf
      cases hinj hx hold (hex.trans hrold.symm)
      cases hinj hy (getFlow_mem_nodes h hf).2 hey
      exact hf.symm
    · obtain ⟨x', r, hf, rfl⟩ := (mem_relabelIn h1).mp he
      rw [getFlow_addNode] at hf
      cases hinj hy hold (hey.trans hrold.symm)
      cases hinj hx (getFlow_mem_nodes h hf).1 hex
      exact hf.symm
  · cases hf : g.getFlow x y with
    | none =>
      right
      rw [getFlow_removeNode, getFlow_addNode, if_neg (not_or.mpr ⟨hold' x, hold' y⟩)]
      cases hf' : g.getFlow (if old = x then new else x) (if old = y then new else y) with
      | none => rfl
      | some r =>
        have hm := getFlow_mem_nodes h hf'
        rw [hfix x hm.1, hfix y hm.2] at hf'
        exact hf'.symm.trans hf
    | some r =>
      by_cases hxo : old = x
      · subst hxo
        exact Or.inl ⟨_, List.mem_append_left _ ((mem_relabelOut h1).mpr ⟨y, r, (getFlow_addNode ..).trans hf, rfl⟩), hrold, rfl⟩
      · by_cases hyo : old = y
        · subst hyo
          exact Or.inl ⟨_, List.mem_append_right _ ((mem_relabelIn h1).mpr ⟨x, r, (getFlow_addNode ..).trans hf, rfl⟩), rfl, hrold⟩
        · right
          rw [getFlow_removeNode, getFlow_addNode, if_neg (not_or.mpr ⟨hold' x, hold' y⟩), if_neg hxo, if_neg hyo]
          exact hf

theorem nodes_relabel1 {g : Graph α ρ} (h : g.WF) (old new : α) (hold : old ∈ g.nodes) (hnew : new ∉ g.nodes) :
    (g.relabel1 old new).nodes = g.nodes.filter (fun n => decide (n ≠ old)) ++ [new] := by
  have hne : new ≠ old := fun e => hnew (e ▸ hold)
  have h1 : (g.addNode new).WF := WF_addNode h new
  have hbase : ((g.addNode new).removeNode old).nodes = g.nodes.filter (fun n => decide (n ≠ old)) ++ [new] := by
    rw [nodes_removeNode, nodes_addNode, if_neg hnew, List.filter_append,
      List.filter_cons_of_pos (p := fun n => decide (n ≠ old)) (decide_eq_true hne)]
    rfl
  have hnewmem : new ∈ ((g.addNode new).removeNode old).nodes :=
    hbase ▸ List.mem_append_right _ (List.mem_singleton_self _)
  have hmem : ∀ z ∈ g.nodes, (if old = z then new else z) ∈ ((g.addNode new).removeNode old).nodes := by
    intro z hz
    split
    · exact hnewmem
    · exact hbase ▸ List.mem_append_left _ (List.mem_filter.mpr ⟨hz, decide_eq_true (Ne.symm ‹_›)⟩)
  rw [relabel1, if_pos hold]
  simp only [if_neg hne]
  rw [nodes_addEdges_of_mem _ _ ?_, hbase]
  intro e he
  rcases List.mem_append.mp he with he | he
  · obtain ⟨y, r, hf, rfl⟩ := (mem_relabelOut h1).mp he
    exact ⟨hnewmem, hmem y (getFlow_mem_nodes h ((getFlow_addNode ..).symm.trans hf)).2⟩
  · obtain ⟨x, r, hf, rfl⟩ := (mem_relabelIn h1).mp he
    exact ⟨hmem x (getFlow_mem_nodes h ((getFlow_addNode ..).symm.trans hf)).1, hnewmem⟩

theorem relabel1_self (g : Graph α ρ) (a : α) : g.relabel1 a a = g := by
  unfold relabel1
  split
  · exact (if_pos rfl).trans (addNode_of_mem ‹_›)
  · rfl

theorem filter_singleton_of_nodup {l : List α} {a : α} (hnd : l.Nodup) (ha : a ∈ l) :
    l.filter (fun n => [a].contains n) = [a] := by
  have hf : (fun n => [a].contains n) = (· == a) := funext fun n => Bool.or_false _
  rw [hf, List.filter_beq, hnd.count, if_pos ha]
  rfl

theorem relabel_single {g : Graph α ρ} (h : g.WF) (old new : α) (hold : old ∈ g.nodes) (hnew : new ∉ g.nodes) :
    g.relabel [(old, new)] = some (g.relabel1 old new) := by
  have hne : old ≠ new := fun e => hnew (e ▸ hold)
  have hdisj : ([old].all fun k => !([new].contains k)) = true := by simp [hne]
  unfold relabel relabelOrder
  simp only [List.map_cons, List.map_nil, hdisj, if_true, Option.map_some, filter_singleton_of_nodup h.1 hold,
    List.foldl_cons, List.foldl_nil, alGet?]

/-- an entry `a: a` of the mapping is skipped (`if new == old: continue` in `_relabel_inplace`) -/
theorem relabel_identity (g : Graph α ρ) (a : α) : g.relabel [(a, a)] = some g := by
  have hdisj : ([a].all fun k => !([a].contains k)) = false := by simp
  unfold relabel relabelOrder
  simp only [List.map_cons, List.map_nil, hdisj, Bool.false_eq_true, if_false, List.all_cons, List.all_nil,
    decide_true, Bool.true_or, Bool.and_true, if_true, List.reverse_cons, List.reverse_nil, List.nil_append,
    Option.map_some, List.foldl_cons, List.foldl_nil, alGet?, relabel1_self]

end Graph

def relabelFold (g : Graph α ρ) (f : α → α) (olds : List α) : Graph α ρ :=
  olds.foldl (fun g o => g.relabel1 o (f o)) g

theorem relabelFold_cons (g : Graph α ρ) (f : α → α) (o : α) (olds : List α) :
    relabelFold g f (o :: olds) = relabelFold (g.relabel1 o (f o)) f olds := List.foldl_cons ..

theorem relabelFold_spec (f : α → α) (olds : List α) : ∀ (g : Graph α ρ), g.WF → olds.Nodup →
    (∀ o ∈ olds, o ∈ g.nodes) → (∀ o ∈ olds, f o ∉ g.nodes) → (olds.map f).Nodup →
    (relabelFold g f olds).WF
    ∧ (relabelFold g f olds).nodes = g.nodes.filter (fun n => decide (n ∉ olds)) ++ olds.map f
    ∧ ∀ x y, x ∈ g.nodes → y ∈ g.nodes →
        (relabelFold g f olds).getFlow (if x ∈ olds then f x else x) (if y ∈ olds then f y else y) = g.getFlow x y := by
  induction olds with
  | nil =>
    intro g h _ _ _ _
    exact ⟨h, ((List.append_nil _).trans (List.filter_eq_self.mpr fun _ _ => rfl)).symm, fun _ _ _ _ => rfl⟩
  | cons o olds ih =>
    intro g h hnd hin hfresh hinj
    rw [List.nodup_cons] at hnd
    rw [List.map_cons, List.nodup_cons] at hinj
    have ho : o ∈ g.nodes := hin o List.mem_cons_self
    have hfo : f o ∉ g.nodes := hfresh o List.mem_cons_self
    have hn1 := nodes_relabel1 h o (f o) ho hfo
    have hstay : ∀ z ∈ g.nodes, z ≠ o → z ∈ (g.relabel1 o (f o)).nodes := fun z hz hzo =>
      hn1 ▸ List.mem_append_left _ (List.mem_filter.mpr ⟨hz, decide_eq_true hzo⟩)
    have hfo1 : f o ∈ (g.relabel1 o (f o)).nodes := hn1 ▸ List.mem_append_right _ (List.mem_singleton_self _)
    have hfo_olds : f o ∉ olds := fun hm => hfo (hin (f o) (List.mem_cons_of_mem _ hm))
    obtain ⟨i1, i2, i3⟩ := ih (g.relabel1 o (f o)) (WF_relabel1 h _ _) hnd.2
      (fun o' ho' => hstay o' (hin o' (List.mem_cons_of_mem _ ho')) fun e => hnd.1 (e ▸ ho'))
      (fun o' ho' hm => by
        rcases List.mem_append.mp (hn1 ▸ hm) with hm | hm
        · exact hfresh o' (List.mem_cons_of_mem _ ho') (List.mem_filter.mp hm).1
        · exact hinj.1 (List.mem_singleton.mp hm ▸ List.mem_map.mpr ⟨o', ho', rfl⟩))
      hinj.2
    rw [relabelFold_cons]
    refine ⟨i1, ?_, fun x y hx hy => ?_⟩
    · rw [i2, hn1, List.filter_append, List.filter_filter, List.filter_cons_of_pos (p := fun n => decide (n ∉ olds)) (decide_eq_true hfo_olds),
        List.filter_nil, List.map_cons, List.append_assoc]
      congr 1
      refine List.filter_congr fun n _ => ?_
      simp only [List.mem_cons, not_or, ne_eq, Bool.decide_and]
      exact Bool.and_comm _ _
    · -- renaming by the whole list is renaming `o` first and the others afterwards
      have key : ∀ z ∈ g.nodes,
          (if (if o = z then f o else z) ∈ olds then f (if o = z then f o else z) else (if o = z then f o else z))
            = (if z ∈ o :: olds then f z else z)
          ∧ (if o = z then f o else z) ∈ (g.relabel1 o (f o)).nodes := by
        intro z hz
        by_cases hzo : o = z
        · subst hzo
          rw [if_pos rfl, if_neg hfo_olds, if_pos List.mem_cons_self]
          exact ⟨rfl, hfo1⟩
        · simp only [if_neg hzo, List.mem_cons, (Ne.symm hzo : z ≠ o), false_or, true_and]
          exact hstay z hz (Ne.symm hzo)
      rw [← (key x hx).1, ← (key y hy).1, i3 _ _ (key x hx).2 (key y hy).2]
      exact getFlow_relabel1 h o (f o) ho hfo x y hx hy

/-- The loop of `_relabel_inplace` over a mapping `{k: f k}` that visits `order ⊆ keys`: an entry `k: k` is
    skipped (`new == old`), so only the keys that really change are relabelled. -/
theorem relabel_loop (f : α → α) (keys : List α) (hk : keys.Nodup) (order : List α) (hsub : ∀ o ∈ order, o ∈ keys) :
    ∀ g : Graph α ρ, order.foldl (fun g old => match alGet? (keys.map (fun k => (k, f k))) old with
      | some new => g.relabel1 old new
      | none => g) g = relabelFold g f (order.filter (fun o => decide (f o ≠ o))) := by
  induction order with
  | nil => exact fun _ => rfl
  | cons o order ih =>
    intro g
    have hget : alGet? (keys.map (fun k => (k, f k))) o = some (f o) :=
      (alGet?_eq_some_iff (by simpa [List.map_map, Function.comp_def] using hk)).mpr
        (List.mem_map.mpr ⟨o, hsub o List.mem_cons_self, rfl⟩)
    rw [List.foldl_cons, hget, ih (fun o' ho' => hsub o' (List.mem_cons_of_mem _ ho'))]
    show relabelFold (g.relabel1 o (f o)) f _ = _
    by_cases ho : f o = o
    · rw [List.filter_cons_of_neg (by simpa using ho), ho, relabel1_self]
    · rw [List.filter_cons_of_pos (by simpa using ho), relabelFold_cons]

/-- If every key changes, keys and values are disjoint and networkx relabels in node order; otherwise it takes the
    reversed topological order of the mapping, which for such a mapping is the reversed order of the keys. -/
theorem relabel_map (g : Graph α ρ) (f : α → α) (keys : List α) (hk : keys.Nodup)
    (hkeys : g.nodes.filter (fun n => keys.contains n) = keys)
    (hfresh : ∀ k ∈ keys, f k ≠ k → f k ∉ keys) :
    g.relabel (keys.map fun k => (k, f k))
      = some (relabelFold g f (if keys.filter (fun k => decide (f k ≠ k)) = keys
          then keys.filter (fun k => decide (f k ≠ k)) else (keys.filter (fun k => decide (f k ≠ k))).reverse)) := by
  unfold relabel relabelOrder
  simp only [List.map_map, Function.comp_def, List.map_id']
  by_cases hall : keys.filter (fun k => decide (f k ≠ k)) = keys
  · have hc1 : (keys.all fun k => !(List.map f keys).contains k) = true := by
      rw [List.all_eq_true]
      intro k hk'
      rw [Bool.not_eq_true', List.contains_eq_mem, decide_eq_false_iff_not]
      intro hm
      obtain ⟨n, hn, rfl⟩ := List.mem_map.mp hm
      have hn' : n ∈ keys.filter (fun k => decide (f k ≠ k)) := hall.symm ▸ hn
      exact hfresh n hn (of_decide_eq_true (List.mem_filter.mp hn').2) hk'
    rw [if_pos hc1, Option.map_some, hkeys, if_pos hall]
    exact congrArg some (relabel_loop f keys hk keys (fun _ ho => ho) g)
  · have hex : ∃ n0 ∈ keys, f n0 = n0 := by
      refine Classical.byContradiction fun hne => hall (List.filter_eq_self.mpr fun n hn => decide_eq_true fun hfn => hne ⟨n, hn, hfn⟩)
    obtain ⟨n0, hn0, hfn0⟩ := hex
    have hc1 : (keys.all fun k => !(List.map f keys).contains k) = false := by
      rw [List.all_eq_false]
      refine ⟨n0, hn0, ?_⟩
      rw [Bool.not_eq_true, Bool.not_eq_false', List.contains_eq_mem, decide_eq_true_eq]
      exact List.mem_map.mpr ⟨n0, hn0, hfn0⟩
    have hc2 : ((keys.map (fun n => (n, f n))).all (fun p => decide (p.2 = p.1) || !(keys.contains p.2))) = true := by
      rw [List.all_eq_true]
      intro p hp
      obtain ⟨n, hn, rfl⟩ := List.mem_map.mp hp
      by_cases hfn : f n = n
      · simp [hfn]
      · simp [hfn, hfresh n hn hfn]
    rw [if_neg (hc1 ▸ Bool.false_ne_true), if_pos hc2, Option.map_some, if_neg hall, ← List.filter_reverse]
    exact congrArg some (relabel_loop f keys hk keys.reverse (fun _ ho => List.mem_reverse.mp ho) g)

end Pharmpy.C05
