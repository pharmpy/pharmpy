import PharmpyProofs.C05.GraphLemmas
/-
  Every builder operation (and `subs`, and the dict round trip) keeps the graph well formed, hence so does every
  operation sequence; `from_dict(to_dict(g))` is the bare node list of `g` with `G.edges` added back.
-/
namespace Pharmpy.C05
open Graph
variable {ε : Type} [DecidableEq ε]

theorem WF_newBuilder : (newBuilder : CGraph ε).WF := WF_addNode WF_empty _

theorem removeCompartment_ok {g g' : CGraph ε} {c : Comp ε} (h : removeCompartment g c = .ok g') :
    g' = g.removeNode (.comp c) := by
  unfold removeCompartment at h
  split at h
  · cases h; rfl
  · cases h

theorem removeFlow_ok {g g' : CGraph ε} {s : Comp ε} {d : Node ε} (h : removeFlow g s d = .ok g') :
    g' = g.removeEdge (.comp s) d := by
  unfold removeFlow at h
  split at h
  · cases h; rfl
  · cases h

/-- all of `set_dose`, `add_dose`, `remove_dose`, `set_lag_time`, `set_bioavailability`, `set_input`,
    `move_dose`, `subs` end in one relabelling -/
theorem WF_relabelE {g g' : CGraph ε} (h : g.WF) (m : List (Node ε × Node ε))
    (hr : relabelE g m = .ok g') : g'.WF := by
  unfold relabelE at hr
  split at hr
  · next hm => cases hr; exact WF_relabel h m hm
  · cases hr

theorem WF_moveDose {g g' : CGraph ε} (h : g.WF) (s d : Comp ε) (a : Option Int)
    (hr : moveDose g s d a = .ok g') : g'.WF := by
  unfold moveDose at hr
  split at hr
  · cases hr
  · exact WF_relabelE h _ hr

theorem WF_fromDict (d : List (Node ε) × List (Nat × Nat × ε)) : (fromDict d).WF :=
  foldl_preserves WF _ d.2 (fun _ _ _ h => WF_addEdge h _ _ _)
    (foldl_preserves WF _ d.1 (fun _ n _ h => by split; exact h; exact WF_addNode h n) WF_newBuilder)

theorem WF_apply {g g' : CGraph ε} (h : g.WF) (op : Op ε) (hr : op.apply g = .ok g') : g'.WF := by
  cases op with
  | addCompartment c => cases hr; exact WF_addNode h _
  | removeCompartment c => exact removeCompartment_ok hr ▸ WF_removeNode h _
  | addFlow s d r => cases hr; exact WF_addEdge h _ _ _
  | removeFlow s d => exact removeFlow_ok hr ▸ WF_removeEdge h _ _
  | moveDose s d a => exact WF_moveDose h s d a hr
  | subs rates table => exact WF_relabelE (WF_mapRates h _) _ hr
  | roundtrip => cases hr; exact WF_fromDict _
  | _ => exact WF_relabelE h _ hr

theorem WF_step {g : CGraph ε} (h : g.WF) (op : Op ε) : (op.step g).WF := by
  unfold Op.step
  split
  · next hg => exact WF_apply h op hg
  · exact h

theorem WF_runOps (ops : List (Op ε)) : (runOps ops).WF :=
  foldl_preserves WF _ ops (fun _ op _ h => WF_step h op) WF_newBuilder


theorem getD_idxOf {α : Type} [DecidableEq α] (l : List α) (a d : α) (h : a ∈ l) : l.getD (l.idxOf a) d = a := by
  rw [List.getD_eq_getElem?_getD, List.getElem?_eq_getElem (List.idxOf_lt_length_iff.mpr h), List.getElem_idxOf]
  rfl

/-- the first loop of `from_dict`: a builder holding the given nodes and no flow -/
def skeleton (ns : List (Node ε)) (g : CGraph ε) : CGraph ε :=
  ns.foldl (fun g n => if n.isOutput then g else g.addNode n) g

theorem getFlow_skeleton (ns : List (Node ε)) (g : CGraph ε) (x y : Node ε) :
    (skeleton ns g).getFlow x y = g.getFlow x y :=
  foldl_preserves (fun g' : CGraph ε => g'.getFlow x y = g.getFlow x y) _ ns
    (fun g' n _ h => by split; exact h; exact (getFlow_addNode g' n x y).trans h) rfl

theorem nodes_skeleton (ns : List (Node ε)) : ∀ (g : CGraph ε), .output ∈ g.nodes → (g.nodes ++ ns).Nodup →
    (skeleton ns g).nodes = g.nodes ++ ns := by
  induction ns with
  | nil => exact fun g _ _ => (List.append_nil _).symm
  | cons n ns ih =>
    intro g hout hnd
    have hn : n ∉ g.nodes := fun hm => (List.nodup_append.mp hnd).2.2 n hm n List.mem_cons_self rfl
    have hno : n.isOutput = false := by
      cases n with
      | output => exact absurd hout hn
      | comp c => rfl
    have hnodes : (g.addNode n).nodes = g.nodes ++ [n] := (nodes_addNode g n).trans (if_neg hn)
    rw [skeleton, List.foldl_cons, hno, ← skeleton, if_neg Bool.false_ne_true,
      ih _ (hnodes ▸ List.mem_append_left _ hout) (by rwa [hnodes, List.append_assoc]), hnodes, List.append_assoc]
    rfl

theorem fromDict_toDict {g : CGraph ε} (h : g.WF) :
    fromDict (toDict g) = (skeleton g.nodes newBuilder).addEdges g.edges := by
  have hdec : (g.edges.map fun e => (g.nodes.idxOf e.1, g.nodes.idxOf e.2.1, e.2.2)).map
      (fun e => (g.nodes.getD e.1 .output, g.nodes.getD e.2.1 .output, e.2.2)) = g.edges := by
    rw [List.map_map]
    refine (List.map_congr_left fun e he => ?_).trans (List.map_id _)
    have hm := getFlow_mem_nodes h ((mem_edges_iff h).mp he)
    simp only [Function.comp, getD_idxOf _ _ _ hm.1, getD_idxOf _ _ _ hm.2]
    rfl
  conv => rhs; rw [← hdec]
  unfold fromDict toDict addEdges skeleton
  simp only [List.foldl_map]

end Pharmpy.C05
