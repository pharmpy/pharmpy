import PharmpyProofs.C05.MatrixLemmas
import PharmpyProofs.C05.OrderLemmas
import PharmpyProofs.C05.BuilderLemmas
import PharmpyProofs.C05.RelabelLemmas
import PharmpyModel.Core.Expr
/-
  C05 — Compartmental system graph and its differential equations always agree.
  `orderCompartments g` is the one order shared by names, amounts, inputs, matrix rows and columns and equations
  (in the model by construction; the correspondence run checks that the code derives them from one list too).
-/
namespace Pharmpy.C05
open Graph

section
variable {ε : Type} [DecidableEq ε]

/-- Every graph reachable from `CompartmentalSystemBuilder()` by any sequence of builder
    operations, `subs` and dict round trips (refused operations leave it unchanged) has
    distinct nodes, edges between nodes only, and one rate per (source, destination). -/
theorem wf_reachable (ops : List (Op ε)) : (runOps ops).WF := WF_runOps ops

/-- a refused operation does not change the builder -/
theorem refused_op_unchanged (g : CGraph ε) (op : Op ε) (e : Err) (h : op.apply g = .error e) :
    op.step g = g := by
  unfold Op.step; rw [h]

variable [ExprLike ε]

theorem order_is_permutation (g : CGraph ε) (h : g.WF) :
    (orderCompartments g).Nodup ∧ ∀ x, x ∈ orderCompartments g ↔ x ∈ comps g := by
  have hfallback : (sortByName (comps g)).Nodup ∧ ∀ x, x ∈ sortByName (comps g) ↔ x ∈ comps g :=
    ⟨nodup_sortByName (comps_nodup h), mem_sortByName _⟩
  unfold orderCompartments
  split
  · exact hfallback
  · exact hfallback
  · next d _ hd =>
    have hcl := orderNbrs_closed h
    obtain ⟨b1, b2, -⟩ := bfs_spec (orderNbrs g) (· ∈ comps g) hcl (g.nodes.length + 1) d
      (dosing_mem_comps g _ hd d List.mem_cons_self)
    simp only
    generalize bfs (orderNbrs g) (g.nodes.length + 1) d = nodes0 at b1 b2 ⊢
    -- `remaining` is what the search has not reached
    generalize hrm : sortByName _ ++ sortByName _ = remaining
    have hrem : ∀ x, x ∈ remaining ↔ x ∈ comps g ∧ x ∉ nodes0 := fun x => by
      rw [← hrm, mem_sorted_split, List.mem_filter, decide_eq_true_eq]
    obtain ⟨r1, r2, r3, r4⟩ := remainingLoop_spec (orderNbrs g) (g.nodes.length + 1) (· ∈ comps g) hcl
      (remaining.length + 1) remaining nodes0 (Nat.lt_succ_self _) b1 b2 (fun x hx => ((hrem x).mp hx).1)
    exact ⟨r1, fun x => ⟨r2 x, fun hx =>
      if hx0 : x ∈ nodes0 then r3 x hx0 else r4 x ((hrem x).mpr ⟨hx, hx0⟩)⟩⟩

/-- the same for every system that can be built: any number of compartments, any flows,
    doses or not, central compartment or not -/
theorem order_is_permutation_reachable (ops : List (Op ε)) :
    (orderCompartments (runOps ops)).Perm (comps (runOps ops)) := by
  have h := order_is_permutation (runOps ops) (wf_reachable ops)
  exact (List.perm_ext_iff_of_nodup h.1 (comps_nodup (wf_reachable ops))).mpr h.2

/-- `Output` is never listed; names, amounts and inputs have one entry per compartment -/
theorem order_excludes_output (g : CGraph ε) (h : g.WF) :
    Node.output ∉ orderCompartments g ∧ (compartmentNames g).length = (comps g).length := by
  obtain ⟨h1, h2⟩ := order_is_permutation g h
  refine ⟨fun hx => Bool.noConfusion (mem_comps.mp ((h2 _).mp hx)).2, ?_⟩
  unfold compartmentNames
  rw [List.length_map]
  exact ((List.perm_ext_iff_of_nodup h1 (comps_nodup h)).mpr h2).length_eq

end

section
variable {R : Type} [CommRing R] {α : Type}

/-- Entrywise, for ANY list of nodes (any length), any flow function into any commutative
    ring: `(M·A + u)[i] = inflows − outflows + input` of compartment `nodes[i]`, minus
    `r(c,c)·A_c` for a self-loop — the code subtracts a self-loop rate on the diagonal and
    adds it nowhere. -/
theorem matrix_is_rhs (nodes : List α) (flow : α → α → R) (out amount input : α → R) :
    odeRhs nodes flow out amount input
      = nodes.map (fun c => specRhs nodes flow out amount input c - flow c c * amount c) := by
  unfold odeRhs compartmentalMatrix
  rw [List.zipWith_map_left, zipWith_zipIdx_self]
  have hmap : ∀ h : α → R, nodes.map h = nodes.zipIdx.map (fun p => h p.1) := by
    intro h
    conv => lhs; rw [← List.zipIdx_map_fst 0 nodes, List.map_map]
    rfl
  rw [hmap (fun c => specRhs nodes flow out amount input c - flow c c * amount c)]
  apply List.map_congr_left
  intro p hp
  simp only [row_dot nodes flow out amount p hp, specRhs]
  ring

/-- without self-loops the equations are exactly inflow − outflow + input -/
theorem matrix_is_rhs_no_selfloops (nodes : List α) (flow : α → α → R) (out amount input : α → R)
    (h : ∀ c ∈ nodes, flow c c = 0) :
    odeRhs nodes flow out amount input = nodes.map (specRhs nodes flow out amount input) := by
  rw [matrix_is_rhs]
  apply List.map_congr_left
  intro c hc
  rw [h c hc]; ring

/-- the specification does not depend on how the compartments are listed -/
theorem spec_independent_of_listing {l₁ l₂ : List α} (hp : l₁.Perm l₂) (flow : α → α → R)
    (out amount input : α → R) (c : α) :
    specRhs l₁ flow out amount input c = specRhs l₂ flow out amount input c := by
  unfold specRhs
  rw [sum_map_perm _ hp, sum_map_perm _ hp]

/-- Mass balance: the sum of all rates of change (inputs aside) is minus the output flows,
    minus the self-loop terms. -/
theorem mass_balance (nodes : List α) (flow : α → α → R) (out amount : α → R) :
    (odeRhs nodes flow out amount (fun _ => 0)).sum
      = - (nodes.map (fun c => out c * amount c)).sum - (nodes.map (fun c => flow c c * amount c)).sum := by
  rw [matrix_is_rhs]
  have h : ∀ c, specRhs nodes flow out amount (fun _ => 0) c - flow c c * amount c
      = ((nodes.map (fun d => flow d c * amount d)).sum - (nodes.map (fun d => flow c d)).sum * amount c)
        - (out c * amount c + flow c c * amount c) := by
    intro c; simp only [specRhs]; ring
  simp only [h]
  rw [sum_map_sub, sum_map_sub, sum_map_add, inflow_total_eq_outflow_total]
  ring

theorem mass_balance_no_selfloops (nodes : List α) (flow : α → α → R) (out amount : α → R)
    (h : ∀ c ∈ nodes, flow c c = 0) :
    (odeRhs nodes flow out amount (fun _ => 0)).sum = - (nodes.map (fun c => out c * amount c)).sum := by
  rw [mass_balance, sum_eq_zero (fun c => flow c c * amount c) nodes fun c hc => by rw [h c hc, zero_mul], sub_zero]

/-- the full statement (no side condition) is false of the code: one compartment with a
    self-loop of rate 1 and amount 1 loses mass although nothing flows out -/
theorem mass_balance_selfloop_witness :
    (odeRhs [()] (fun _ _ => (1 : Int)) (fun _ => 0) (fun _ => 1) (fun _ => 0)).sum
      ≠ - ([()].map (fun _ => (0 : Int) * 1)).sum := by decide

end

section
variable {κ : Type} [DecidableEq κ] {R : Type} [CommRing R]

/-- `CompartmentalSystem.eqs` reports `canonical_ode_rhs((M·A+u)[i])`: the monomials of the expanded entry
    regrouped by key (product of powers of amount functions).  For EVERY list of monomials (any keys: `1`,
    `A`, `A**2`, `sqrt(A)`, `A*B`, …), every valuation of the keys and coefficients in any commutative ring,
    the canonical form has the value of the original sum. -/
theorem canonical_rhs_value (v : κ → R) (ms : List (κ × R)) :
    evalMonomials v (collectBy ms) = evalMonomials v ms := by
  unfold collectBy
  rw [evalMonomials_foldl_collectAdd]
  simp [evalMonomials]

/-- so the reported equation has the value of the matrix entry it was computed from, whatever the
    decomposition into monomials -/
theorem canonical_eqs_value (v : κ → R) (ms : List (κ × R)) (entry : R) (h : evalMonomials v ms = entry) :
    evalMonomials v (collectBy ms) = entry := by rw [canonical_rhs_value, h]

omit [CommRing R] in
/-- the canonical form has exactly one term per key -/
theorem canonical_rhs_one_term_per_key [Add R] (ms : List (κ × R)) : ((collectBy ms).map (·.1)).Nodup :=
  keys_foldl_collectAdd ms [] ▸ (addNew_spec _ [] List.nodup_nil).1

omit [CommRing R] in
/-- the canonical form keeps every key of the input (none is dropped, power keys included) -/
theorem canonical_rhs_keeps_every_key [Add R] (ms : List (κ × R)) (k : κ) :
    k ∈ (collectBy ms).map (·.1) ↔ k ∈ ms.map (·.1) :=
  keys_foldl_collectAdd ms [] ▸ ((addNew_spec _ [] List.nodup_nil).2 k).trans (or_iff_right List.not_mem_nil)

/-- rebuilding the sum from a subset of the keys (e.g. only the plain amounts and `1`) is NOT value
    preserving: keys 1 = `A`, 2 = `A**2` with `A = 2`; monomials `3·A + 5·A**2` -/
theorem canonical_rhs_dropping_key_witness :
    evalMonomials (fun k : Nat => (2 : Int) ^ k)
        ((collectBy [(1, 3), (2, 5)]).filter (fun g => decide (g.1 ∈ [0, 1])))
      ≠ evalMonomials (fun k : Nat => (2 : Int) ^ k) [(1, 3), (2, 5)] := by decide

end

section
variable {R R' : Type} [CommRing R] [CommRing R'] {α : Type}

/-- `M_σ·A_σ + u_σ = σ(M·A + u)` for every ring homomorphism `σ` applied to rates, amounts and inputs (a
    substitution of symbols / amount functions by expressions, read in any commutative ring, is one); with
    `subs_homomorphism` the equations of `cs.subs(σ)` are `σ` of the equations of `cs`. -/
theorem odeRhs_hom (h : R →+* R') (nodes : List α) (flow : α → α → R) (out amount input : α → R) :
    odeRhs nodes (fun x y => h (flow x y)) (fun x => h (out x)) (fun x => h (amount x)) (fun x => h (input x))
      = (odeRhs nodes flow out amount input).map h := by
  rw [matrix_is_rhs, matrix_is_rhs, List.map_map]
  apply List.map_congr_left
  intro c _
  simp only [Function.comp_def, specRhs, map_sub, map_add, map_mul, map_list_sum', List.map_map]
end

/-- substitution lemma for the wire expression language (atoms are symbols AND applied functions such as
    `A_CENTRAL(t)`): evaluating a substituted expression = evaluating the original in the substituted
    environment, for every interpretation of the operations -/
theorem expr_subst_semantics {β : Type} (I : Pharmpy.Interp β) (ρ : Pharmpy.Env β) (σ : Pharmpy.Sym → Option Pharmpy.Expr)
    (e : Pharmpy.Expr) :
    Pharmpy.Expr.eval I ρ (Pharmpy.Expr.subst σ e) =
      Pharmpy.Expr.eval I (fun x => match σ x with | some t => Pharmpy.Expr.eval I ρ t | none => ρ x) e := by
  induction e with
  | lit n => rfl
  | sym s =>
    simp only [Pharmpy.Expr.subst, Pharmpy.Expr.eval]
    cases σ s <;> rfl
  | f1 f a ih => simp only [Pharmpy.Expr.subst, Pharmpy.Expr.eval, ih]
  | f2 f a b iha ihb => simp only [Pharmpy.Expr.subst, Pharmpy.Expr.eval, iha, ihb]
  | f3 f a b c iha ihb ihc => simp only [Pharmpy.Expr.subst, Pharmpy.Expr.eval, iha, ihb, ihc]

section
variable {ε : Type} [DecidableEq ε] [ExprLike ε] {R : Type} [CommRing R]

/-- For every system reachable through the builder, every interpretation of rates, amounts
    and inputs in a commutative ring: the right-hand sides in the reported order are, entry
    by entry, inflows − outflows + input taken over the compartments of the graph. -/
theorem system_equations_spec (ops : List (Op ε)) (flow : Node ε → Node ε → R) (out amount input : Node ε → R) :
    odeRhs (orderCompartments (runOps ops)) flow out amount input
      = (orderCompartments (runOps ops)).map (fun c =>
          specRhs (comps (runOps ops)) flow out amount input c - flow c c * amount c) := by
  rw [matrix_is_rhs]
  apply List.map_congr_left
  intro c _
  rw [spec_independent_of_listing (order_is_permutation_reachable ops)]

end

section
variable {ε : Type} [DecidableEq ε]

/-- `add_flow(s, d, r)` sets the flow `s → d` and no other -/
theorem add_flow_frame (g : CGraph ε) (s : Comp ε) (d : Node ε) (r : ε) (x y : Node ε) :
    (addFlow g s d r).getFlow x y = if x = .comp s ∧ y = d then some r else g.getFlow x y :=
  getFlow_addEdge g _ _ r x y

/-- `remove_flow(s, d)` removes the flow `s → d` and no other -/
theorem remove_flow_frame (g g' : CGraph ε) (s : Comp ε) (d : Node ε) (h : removeFlow g s d = .ok g')
    (x y : Node ε) : g'.getFlow x y = if x = .comp s ∧ y = d then none else g.getFlow x y := by
  rw [removeFlow_ok h]
  exact getFlow_removeEdge g _ _ x y

/-- `add_compartment` changes no flow -/
theorem add_compartment_frame (g : CGraph ε) (c : Comp ε) (x y : Node ε) :
    (addCompartment g c).getFlow x y = g.getFlow x y := getFlow_addNode g _ x y

/-- `remove_compartment(c)` removes exactly the flows from and to `c`, and `c` itself -/
theorem remove_compartment_frame (g g' : CGraph ε) (c : Comp ε) (h : removeCompartment g c = .ok g') :
    g'.nodes = g.nodes.filter (fun n => decide (n ≠ .comp c))
    ∧ ∀ x y, g'.getFlow x y = if x = .comp c ∨ y = .comp c then none else g.getFlow x y := by
  rw [removeCompartment_ok h]
  exact ⟨nodes_removeNode g _, getFlow_removeNode g _⟩

/-- the rate substitution of `subs` maps every flow pointwise and keeps the edge set -/
theorem subs_maps_flows (g : CGraph ε) (f : ε → ε) (x y : Node ε) :
    (g.mapRates f).getFlow x y = (g.getFlow x y).map f := getFlow_mapRates g f x y

/-- `CompartmentalSystem.subs` as graph surgery (rates replaced, then
    `relabel_nodes(G, {c: c.subs(σ) for c in _comps(G)}, copy=False)` with the mapping IN NODE ORDER,
    /repo 459172f), for a compartment map `f` whose changed images are new to the graph and pairwise distinct
    (true when names are distinct, a substituted compartment keeping its name).  The node order afterwards
    depends on WHICH compartments change only: the unchanged nodes in place, then the changed ones in their
    original relative order when every compartment changes, in REVERSED order when some compartment is unchanged
    (`relabel_map`).  Every flow is kept between the renamed endpoints, its rate mapped; no flow appears. -/
theorem subs_spec (g : CGraph ε) (h : g.WF) (rate : ε → ε) (f : Node ε → Node ε)
    (hfresh : ∀ n ∈ comps g, f n ≠ n → f n ∉ g.nodes)
    (hinj : (((comps g).filter (fun n => decide (f n ≠ n))).map f).Nodup) :
    ∃ g', subsGraph g rate f = .ok g' ∧ g'.WF
      ∧ g'.nodes = g.nodes.filter (fun n => decide (n ∉ (comps g).filter (fun n => decide (f n ≠ n))))
          ++ (if (comps g).filter (fun n => decide (f n ≠ n)) = comps g
              then (comps g).filter (fun n => decide (f n ≠ n))
              else ((comps g).filter (fun n => decide (f n ≠ n))).reverse).map f
      ∧ ∀ x y, x ∈ g.nodes → y ∈ g.nodes →
          g'.getFlow (if x ∈ (comps g).filter (fun n => decide (f n ≠ n)) then f x else x)
                     (if y ∈ (comps g).filter (fun n => decide (f n ≠ n)) then f y else y)
            = (g.getFlow x y).map rate := by
  have hcn : (comps g).Nodup := comps_nodup h
  have hcomps_nodes : ∀ n ∈ comps g, n ∈ g.nodes := fun n hn => (mem_comps.mp hn).1
  have hn0 : (g.mapRates rate).nodes = g.nodes := nodes_mapRates g rate
  have hrel := relabel_map (g.mapRates rate) f (comps g) hcn (hn0.symm ▸ nodes_filter_comps g)
    (fun k hk hne hm => hfresh k hk hne (hcomps_nodes _ hm))
  generalize hch : (comps g).filter (fun n => decide (f n ≠ n)) = changed at *
  -- the order of the visit matters for the node order only
  generalize holds : (if changed = comps g then changed else changed.reverse) = olds at hrel ⊢
  have hperm : olds.Perm changed := by
    rw [← holds]
    split
    · exact .refl _
    · exact List.reverse_perm _
  have hchsub : ∀ n ∈ olds, n ∈ comps g ∧ f n ≠ n := by
    intro n hn
    have hm := hperm.mem_iff.mp hn
    rw [← hch, List.mem_filter] at hm
    exact ⟨hm.1, of_decide_eq_true hm.2⟩
  obtain ⟨s1, s2, s3⟩ := relabelFold_spec f olds (g.mapRates rate) (WF_mapRates h rate)
    (hperm.nodup_iff.mpr (hch ▸ List.Pairwise.filter _ hcn))
    (fun o ho => hn0 ▸ hcomps_nodes o (hchsub o ho).1)
    (fun o ho => hn0 ▸ hfresh o (hchsub o ho).1 (hchsub o ho).2)
    ((hperm.map f).nodup_iff.mpr hinj)
  refine ⟨_, (by unfold subsGraph relabelE subsMapping; rw [hrel]), s1, ?_, ?_⟩
  · rw [s2, hn0]
    congr 1
    exact List.filter_congr fun n _ => by simp only [hperm.mem_iff]
  · intro x y hx hy
    have := s3 x y (hn0 ▸ hx) (hn0 ▸ hy)
    simp only [hperm.mem_iff] at this
    rw [this, getFlow_mapRates]

/-- `subs` is a homomorphism on the graph: for EVERY map `σ` on expressions applied to every rate and every
    compartment field, the flow between the substituted endpoints is `σ` of the original flow, no flow appears or
    disappears, and the nodes are exactly the substituted nodes. -/
theorem subs_homomorphism (g : CGraph ε) (h : g.WF) (σ : ε → ε)
    (hfresh : ∀ n ∈ comps g, Node.mapExpr σ n ≠ n → Node.mapExpr σ n ∉ g.nodes)
    (hinj : (((comps g).filter (fun n => decide (Node.mapExpr σ n ≠ n))).map (Node.mapExpr σ)).Nodup) :
    ∃ g', subsSigma g σ = .ok g' ∧ g'.WF
      ∧ (∀ n, n ∈ g'.nodes ↔ ∃ m ∈ g.nodes, n = Node.mapExpr σ m)
      ∧ ∀ x y, x ∈ g.nodes → y ∈ g.nodes →
          g'.getFlow (Node.mapExpr σ x) (Node.mapExpr σ y) = (g.getFlow x y).map σ := by
  obtain ⟨g', h1, h2, h3, h4⟩ := subs_spec g h σ (Node.mapExpr σ) hfresh hinj
  generalize hch : (comps g).filter (fun n => decide (Node.mapExpr σ n ≠ n)) = changed at h3 h4
  have hmemch : ∀ n, n ∈ changed ↔ n ∈ comps g ∧ Node.mapExpr σ n ≠ n := fun n => by
    rw [← hch, List.mem_filter, decide_eq_true_eq]
  have hmemolds : ∀ m, m ∈ (if changed = comps g then changed else changed.reverse) ↔ m ∈ changed := fun m => by
    split
    · rfl
    · exact List.mem_reverse
  -- on the nodes the renaming of `subs_spec` is `Node.mapExpr σ`: a node that is not changed is its own image
  have hren : ∀ n ∈ g.nodes, (if n ∈ changed then Node.mapExpr σ n else n) = Node.mapExpr σ n := by
    intro n hn
    split
    · rfl
    · next hc =>
      cases n with
      | output => rfl
      | comp c =>
        exact (Classical.not_not.mp fun hne => hc ((hmemch _).mpr ⟨mem_comps.mpr ⟨hn, rfl⟩, hne⟩)).symm
  refine ⟨g', h1, h2, fun n => ?_, fun x y hx hy => by rw [← hren x hx, ← hren y hy]; exact h4 x y hx hy⟩
  rw [h3, List.mem_append, List.mem_filter, List.mem_map]
  constructor
  · rintro (⟨hn, hnc⟩ | ⟨m, hm, rfl⟩)
    · exact ⟨n, hn, (if_neg (of_decide_eq_true hnc)).symm.trans (hren n hn)⟩
    · exact ⟨m, (mem_comps.mp ((hmemch m).mp ((hmemolds m).mp hm)).1).1, rfl⟩
  · rintro ⟨m, hm, rfl⟩
    by_cases hc : m ∈ changed
    · exact Or.inr ⟨m, (hmemolds m).mpr hc, rfl⟩
    · rw [← hren m hm, if_neg hc]
      exact Or.inl ⟨hm, decide_eq_true hc⟩

example (σ : ε → ε) (c : Comp ε) : (c.mapExpr σ).amount = σ c.amount ∧ (c.mapExpr σ).input = σ c.input := ⟨rfl, rfl⟩

/-- Relabelling one compartment by a value not yet in the graph — what `set_dose`, `add_dose`, `remove_dose`,
    `set_lag_time`, `set_bioavailability`, `set_input` do (`rfl` examples below for all but `remove_dose`) —
    succeeds, moves the compartment to the end of the node order and keeps EVERY flow, self-loops and flows to
    `output` included. -/
theorem relabel_preserves_flows (g : CGraph ε) (h : g.WF) (c c' : Comp ε)
    (hc : Node.comp c ∈ g.nodes) (hc' : Node.comp c' ∉ g.nodes) :
    ∃ g', relabelE g [(.comp c, .comp c')] = .ok g'
      ∧ g'.nodes = g.nodes.filter (fun n => decide (n ≠ .comp c)) ++ [.comp c']
      ∧ ∀ x y, x ∈ g.nodes → y ∈ g.nodes →
          g'.getFlow (if x = .comp c then .comp c' else x) (if y = .comp c then .comp c' else y) = g.getFlow x y := by
  refine ⟨g.relabel1 (.comp c) (.comp c'), ?_, nodes_relabel1 h _ _ hc hc', ?_⟩
  · unfold relabelE; rw [relabel_single h _ _ hc hc']
  · intro x y hx hy
    rw [if_eq_comm x, if_eq_comm y]
    exact getFlow_relabel1 h _ _ hc hc' x y hx hy

/-- setting a field to the value it already has changes nothing -/
theorem relabel_same_value (g : CGraph ε) (c : Comp ε) : relabelE g [(.comp c, .comp c)] = .ok g := by
  unfold relabelE; rw [relabel_identity]

example (g : CGraph ε) (c : Comp ε) (e : ε) :
    setLagTime g c e = relabelE g [(.comp c, .comp { c with lagTime := e })] := rfl
example (g : CGraph ε) (c : Comp ε) (e : ε) :
    setBioavailability g c e = relabelE g [(.comp c, .comp { c with bioavailability := e })] := rfl
example (g : CGraph ε) (c : Comp ε) (e : ε) :
    setInput g c e = relabelE g [(.comp c, .comp { c with input := e })] := rfl
example (g : CGraph ε) (c : Comp ε) (ds : List (Dose ε)) :
    setDose g c ds = relabelE g [(.comp c, .comp { c with doses := ds })] := rfl
example (g : CGraph ε) (c : Comp ε) (ds : List (Dose ε)) :
    addDose g c ds = relabelE g [(.comp c, .comp { c with doses := c.dosesView ++ ds })] := rfl

/-- `from_dict(to_dict(cs))` has the same nodes in the same order and the same flows, for
    every well-formed graph whose first node is `output` (true of every builder graph: the
    builder starts with `output` and only compartments are ever removed or relabelled; the
    correspondence run compares the node order after every operation). -/
theorem dict_roundtrip (g : CGraph ε) (h : g.WF) (hout : ∃ rest, g.nodes = .output :: rest) :
    (fromDict (toDict g)).nodes = g.nodes
    ∧ ∀ x y, (fromDict (toDict g)).getFlow x y = g.getFlow x y := by
  obtain ⟨rest, hrest⟩ := hout
  have hskel : (skeleton g.nodes newBuilder).nodes = g.nodes := by
    have hnd : (Node.output :: rest).Nodup := hrest ▸ h.1
    rw [hrest]
    exact nodes_skeleton rest newBuilder List.mem_cons_self hnd
  rw [fromDict_toDict h]
  refine ⟨?_, fun x y => ?_⟩
  · rw [nodes_addEdges_of_mem, hskel]
    intro e he
    rw [hskel]
    exact getFlow_mem_nodes h ((mem_edges_iff h).mp he)
  · refine getFlow_addEdges _ x y _ _ (fun e he hx hy => ?_) ?_
    · subst hx hy
      exact ((mem_edges_iff h).mp he).symm
    · cases hf : g.getFlow x y with
      | none => exact Or.inr ((getFlow_skeleton _ _ x y).trans (getFlow_addNode _ _ x y))
      | some r => exact Or.inl ⟨(x, y, r), (mem_edges_iff h).mpr hf, rfl, rfl⟩

end

section
local instance : ExprLike Int := ⟨fun e => e == 0⟩

private def cDepot : Comp Int := ⟨"DEPOT", 1, [.bolus 100 1], 0, 0, 1⟩
private def cCentral : Comp Int := ⟨"CENTRAL", 2, [], 0, 0, 1⟩
private def cPeri : Comp Int := ⟨"PERIPHERAL", 3, [], 0, 0, 1⟩
private def exOps : List (Op Int) :=
  [.addCompartment cPeri, .addCompartment cCentral, .addCompartment cDepot,
   .addFlow cCentral (.comp cPeri) 12, .addFlow cPeri (.comp cCentral) 21,
   .addFlow cDepot (.comp cCentral) 7, .addFlow cCentral .output 5]

-- the hypotheses of `dict_roundtrip` and `order_is_permutation` hold of it, and it is not trivial
example : (runOps exOps).WF := wf_reachable exOps
example : (orderCompartments (runOps exOps)).Perm (comps (runOps exOps)) := order_is_permutation_reachable exOps
example : (runOps exOps).nodes.head? = some Node.output := by decide +kernel
-- the hypotheses of `subs_spec` are satisfiable with some compartments changed and some not
private def exF (n : Node Int) : Node Int :=
  if n = .comp cDepot then .comp { cDepot with doses := [.bolus 200 1] }
  else if n = .comp cPeri then .comp { cPeri with lagTime := 9 } else n
example : (∀ n ∈ comps (runOps exOps), exF n ≠ n → exF n ∉ (runOps exOps).nodes)
    ∧ (((comps (runOps exOps)).filter (fun n => decide (exF n ≠ n))).map exF).Nodup
    ∧ ((comps (runOps exOps)).filter (fun n => decide (exF n ≠ n))).length = 2 := by decide +kernel
example : ∃ ops : List (Op Int), (comps (runOps ops)).length = 3 ∧ (runOps ops).edges.length = 4 :=
  ⟨exOps, by decide +kernel⟩
end

end Pharmpy.C05
