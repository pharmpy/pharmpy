import PharmpyModel.C17.Scatter
/-
  C17 — clause "every task … receives its static inputs", distributed dispatcher:
  optimize_task_graph_for_dask_distributed replaces every scatterable leaf by a Future of its own; the
  Future stands for exactly the declared object.
-/
namespace Pharmpy.C17

mutual
theorem resolve_noFut (st : Store) : ∀ c : Comp, c.noFut = true → resolveComp st c = c
  | .keep _, _ => rfl
  | .fut _, h => by cases h
  | .obj _, _ => rfl
  | .tuple xs, h => congrArg Comp.tuple (resolveList_noFut st xs h)
  | .list xs, h => congrArg Comp.list (resolveList_noFut st xs h)
theorem resolveList_noFut (st : Store) : ∀ xs : List Comp, noFutList xs = true → resolveList st xs = xs
  | [], _ => rfl
  | x :: xs, h => by
    have h := Bool.and_eq_true_iff.mp h
    rw [resolveList, resolve_noFut st x h.1, resolveList_noFut st xs h.2]
end

mutual
/-- The client receives exactly the scatterable leaves of the computation, each ONCE, in traversal order:
    one `client.scatter` per occurrence, nothing shared, nothing dropped. -/
theorem scatter_one_future_per_object : ∀ (c : Comp) (st : Store), (scatterComp c st).2 = st ++ c.objs
  | .keep _, st => (List.append_nil st).symm
  | .fut _, st => (List.append_nil st).symm
  | .obj _, _ => rfl
  | .tuple [], st => (List.append_nil st).symm
  | .tuple (_ :: xs), st => scatterList_store xs st
  | .list xs, st => scatterList_store xs st
theorem scatterList_store : ∀ (xs : List Comp) (st : Store), (scatterList xs st).2 = st ++ objsList xs
  | [], st => (List.append_nil st).symm
  | x :: xs, st => by
    show (scatterList xs (scatterComp x st).2).2 = st ++ (x.objs ++ objsList xs)
    rw [scatterList_store xs, scatter_one_future_per_object x st, List.append_assoc]
end

mutual
/-- **Every task receives its own static inputs.**  For every Future-free computation, any client state
    before and whatever is scattered afterwards (`more`): resolving the Futures of the rewritten computation
    gives back the declared computation — each scattered leaf is the declared object itself. -/
theorem scatter_preserves_static_inputs : ∀ (c : Comp) (st more : Store), c.noFut = true →
    resolveComp ((scatterComp c st).2 ++ more) (scatterComp c st).1 = c
  | .keep _, _, _, _ => rfl
  | .fut _, _, _, h => by cases h
  | .obj o, st, more, _ => by
    -- the Future made for `o` is number `st.length`, and `o` is what the client stores there
    show (match (st ++ [o] ++ more)[st.length]? with | some o => Comp.obj o | none => .fut st.length) = _
    rw [List.getElem?_append_left (by rw [List.length_append]; exact Nat.lt_succ_self _),
      List.getElem?_concat_length]
  | .tuple [], _, _, _ => rfl
  | .tuple (h :: xs), st, more, hn => by
    have hn := Bool.and_eq_true_iff.mp hn
    simp only [scatterComp, resolveComp, resolveList]
    rw [resolve_noFut _ h hn.1, scatterList_resolve xs st more hn.2]
  | .list xs, st, more, hn => congrArg Comp.list (scatterList_resolve xs st more hn)
theorem scatterList_resolve : ∀ (xs : List Comp) (st more : Store), noFutList xs = true →
    resolveList ((scatterList xs st).2 ++ more) (scatterList xs st).1 = xs
  | [], _, _, _ => rfl
  | x :: xs, st, more, hn => by
    have hn := Bool.and_eq_true_iff.mp hn
    have h1 := scatter_preserves_static_inputs x st (objsList xs ++ more) hn.1
    have h2 := scatterList_resolve xs (scatterComp x st).2 more hn.2
    simp only [scatterList, resolveList]
    rw [h2, scatterList_store, List.append_assoc, h1]
end

theorem scatter_graph_keys : ∀ (g : List (String × Comp)) (st : Store),
    (scatterGraph g st).1.map (·.1) = g.map (·.1)
  | [], _ => rfl
  | (k, c) :: rest, st => congrArg (k :: ·) (scatter_graph_keys rest (scatterComp c st).2)

theorem scatterGraph_store : ∀ (g : List (String × Comp)) (st : Store),
    (scatterGraph g st).2 = st ++ g.flatMap (fun p => p.2.objs)
  | [], st => (List.append_nil st).symm
  | (_, c) :: rest, st => by
    show (scatterGraph rest (scatterComp c st).2).2 = st ++ (c.objs ++ rest.flatMap (fun p => p.2.objs))
    rw [scatterGraph_store rest, scatter_one_future_per_object c st, List.append_assoc]

/-- **The dispatched graph is the declared graph.**  After `optimize_task_graph_for_dask_distributed`'s
    scattering, every entry — resolved against the data the client holds at the end (and anything scattered
    later, `more`) — is the declared entry. -/
theorem scatter_graph_preserves_static_inputs : ∀ (g : List (String × Comp)) (st more : Store),
    graphNoFut g = true →
    (scatterGraph g st).1.map (fun p => (p.1, resolveComp ((scatterGraph g st).2 ++ more) p.2)) = g
  | [], _, _, _ => rfl
  | (k, c) :: rest, st, more, hn => by
    have hn := Bool.and_eq_true_iff.mp hn
    have h1 := scatter_preserves_static_inputs c st (rest.flatMap (fun p => p.2.objs) ++ more) hn.1
    have h2 := scatter_graph_preserves_static_inputs rest (scatterComp c st).2 more hn.2
    simp only [scatterGraph, List.map_cons]
    rw [h2, scatterGraph_store, List.append_assoc, h1]

/-- The number of `client.scatter` calls is the number of scatterable leaf occurrences. -/
theorem scatter_graph_count (g : List (String × Comp)) :
    (scatterGraph g []).2.length = (g.flatMap (fun p => p.2.objs)).length := by
  rw [scatterGraph_store, List.nil_append]

/-- Why the Futures must not be shared through a memo keyed by `==`/`hash` of the value: with such a memo two
    DISTINCT static inputs that compare equal (here: `v0#run1` and `v0#run2`, both sent to `v0` by `eqv`)
    collapse into the first one's Future, and the second task would receive the first task's object. -/
theorem scatter_memo_by_equality_witness :
    let eqv := fun (o : String) => if o = "v0#run1" ∨ o = "v0#run2" then "v0" else o
    let r1 := scatterMemoLeaf eqv "v0#run1" [] []
    let r2 := scatterMemoLeaf eqv "v0#run2" r1.2.1 r1.2.2
    resolveComp r2.2.1 r2.1 = .obj "v0#run1" ∧
    resolveComp (scatterComp (.obj "v0#run2") (scatterComp (.obj "v0#run1") []).2).2
      (scatterComp (.obj "v0#run2") (scatterComp (.obj "v0#run1") []).2).1 = .obj "v0#run2" := by
  exact ⟨rfl, rfl⟩

/-! non-vacuity: a graph with nested static inputs, two equal-looking objects, kept values -/
example : graphNoFut [("k0", .tuple [.keep "t0", .obj "v0#1", .list [.obj "v0#2", .keep "int:3"]]),
                      ("results", .tuple [.keep "t1", .obj "v0#3", .keep "str:'k0'"])] = true := by decide +kernel
example : (scatterGraph [("k0", .tuple [.keep "t0", .obj "v0#1", .list [.obj "v0#2", .keep "int:3"]]),
                         ("results", .tuple [.keep "t1", .obj "v0#3", .keep "str:'k0'"])] []).2
          = ["v0#1", "v0#2", "v0#3"] := by decide +kernel

end Pharmpy.C17
