import PharmpyModel.C17.Model
/-
  Set-level and order-level facts about the networkx-style digraph operations.
-/
namespace Pharmpy.C17

theorem nodup_concat {α : Type} {l : List α} {a : α} (h : l.Nodup) (ha : a ∉ l) : (l ++ [a]).Nodup :=
  List.nodup_append.mpr ⟨h, List.pairwise_singleton _ a, fun x hx y hy hxy =>
    ha (by rw [← List.mem_singleton.mp hy, ← hxy]; exact hx)⟩

theorem filter_singleton_pos {α : Type} (p : α → Bool) {a : α} (h : p a = true) : [a].filter p = [a] := by
  rw [List.filter_cons_of_pos h, List.filter_nil]

theorem nodup_map_filter {α β : Type} {l : List α} (h : l.Nodup) (p : α → Bool) (f : α → β)
    (inj : ∀ a b, p a = true → p b = true → f a = f b → a = b) : ((l.filter p).map f).Nodup := by
  rw [List.Nodup, List.pairwise_map]
  refine (List.Pairwise.and_mem.mp (h.sublist List.filter_sublist)).imp ?_
  rintro a b ⟨ha, hb, hne⟩ heq
  exact hne (inj a b (List.mem_filter.mp ha).2 (List.mem_filter.mp hb).2 heq)

namespace DiGraph

theorem succOf_nodup {g : DiGraph} (h : g.edges.Nodup) (u : Nat) : (g.succOf u).Nodup :=
  nodup_map_filter h _ _ fun _ _ ha hb hab =>
    Prod.ext ((beq_iff_eq.mp ha).trans (beq_iff_eq.mp hb).symm) hab

theorem predOf_nodup {g : DiGraph} (h : g.edges.Nodup) (v : Nat) : (g.predOf v).Nodup :=
  nodup_map_filter h _ _ fun _ _ ha hb hab =>
    Prod.ext hab ((beq_iff_eq.mp ha).trans (beq_iff_eq.mp hb).symm)

@[simp] theorem copy_nodes {g : DiGraph} : g.copy.nodes = g.nodes := rfl

section
variable {g : DiGraph} {u v x n : Nat} {e : Nat × Nat}

theorem mem_succOf : v ∈ g.succOf u ↔ (u, v) ∈ g.edges := by
  simp [succOf]

theorem mem_predOf : u ∈ g.predOf v ↔ (u, v) ∈ g.edges := by
  simp [predOf]

theorem empty_wf : WF empty := ⟨List.nodup_nil, List.nodup_nil, nofun⟩

theorem addNode_of_mem (h : n ∈ g.nodes) : g.addNode n = g := if_pos h

theorem addNode_of_not_mem (h : n ∉ g.nodes) :
    (g.addNode n).nodes = g.nodes ++ [n] := by
  rw [addNode, if_neg h]

@[simp] theorem addNode_edges : (g.addNode n).edges = g.edges := by
  unfold addNode; split <;> rfl

theorem addNode_nodes_mem : x ∈ (g.addNode n).nodes ↔ x ∈ g.nodes ∨ x = n := by
  by_cases h : n ∈ g.nodes
  · rw [addNode_of_mem h]
    exact ⟨Or.inl, fun hx => hx.elim id (· ▸ h)⟩
  · rw [addNode_of_not_mem h, List.mem_append, List.mem_singleton]

theorem addNode_wf (h : WF g) : WF (g.addNode n) := by
  by_cases hn : n ∈ g.nodes
  · rw [addNode_of_mem hn]; exact h
  · refine ⟨?_, ?_, fun e he => ?_⟩
    · rw [addNode_of_not_mem hn]; exact nodup_concat h.nodupNodes hn
    · rw [addNode_edges]; exact h.nodupEdges
    · rw [addNode_edges] at he
      have := h.closed e he
      exact ⟨addNode_nodes_mem.mpr (Or.inl this.1), addNode_nodes_mem.mpr (Or.inl this.2)⟩

theorem addEdge_nodes :
    (g.addEdge u v).nodes = ((g.addNode u).addNode v).nodes := by
  simp only [addEdge]; split <;> rfl

theorem addEdge_nodes_mem :
    x ∈ (g.addEdge u v).nodes ↔ x ∈ g.nodes ∨ x = u ∨ x = v := by
  rw [addEdge_nodes, addNode_nodes_mem, addNode_nodes_mem, or_assoc]

theorem addEdge_nodes_of_mem (hu : u ∈ g.nodes) (hv : v ∈ g.nodes) :
    (g.addEdge u v).nodes = g.nodes := by
  rw [addEdge_nodes, addNode_of_mem hu, addNode_of_mem hv]

theorem addEdge_edges_mem :
    e ∈ (g.addEdge u v).edges ↔ e ∈ g.edges ∨ e = (u, v) := by
  simp only [addEdge]
  split
  · next h =>
    simp only [addNode_edges] at h ⊢
    exact ⟨Or.inl, fun he => he.elim id (· ▸ h)⟩
  · simp only [addNode_edges, List.mem_append, List.mem_singleton]

theorem addEdge_wf (h : WF g) : WF (g.addEdge u v) := by
  have h2 : WF ((g.addNode u).addNode v) := addNode_wf (addNode_wf h)
  have huv : u ∈ ((g.addNode u).addNode v).nodes ∧ v ∈ ((g.addNode u).addNode v).nodes :=
    ⟨addNode_nodes_mem.mpr (Or.inl (addNode_nodes_mem.mpr (Or.inr rfl))), addNode_nodes_mem.mpr (Or.inr rfl)⟩
  simp only [addEdge]
  split
  · exact h2
  · next hne =>
    refine ⟨h2.nodupNodes, nodup_concat h2.nodupEdges hne, fun e he => ?_⟩
    rcases List.mem_append.mp he with he | he
    · exact h2.closed e he
    · rw [List.mem_singleton.mp he]; exact huv

theorem addEdgesFrom_cons (g : DiGraph) (e : Nat × Nat) (es : List (Nat × Nat)) :
    g.addEdgesFrom (e :: es) = (g.addEdge e.1 e.2).addEdgesFrom es := List.foldl_cons ..

theorem addNodesFrom_cons (g : DiGraph) (n : Nat) (ns : List Nat) :
    g.addNodesFrom (n :: ns) = (g.addNode n).addNodesFrom ns := List.foldl_cons ..

theorem addEdgesFrom_nodes_mem (es : List (Nat × Nat)) (g : DiGraph) (x : Nat) :
    x ∈ (g.addEdgesFrom es).nodes ↔ x ∈ g.nodes ∨ ∃ e ∈ es, x = e.1 ∨ x = e.2 := by
  induction es generalizing g with
  | nil => simp [addEdgesFrom]
  | cons e es ih =>
    rw [addEdgesFrom_cons, ih, addEdge_nodes_mem]
    simp only [List.mem_cons, or_and_right, exists_or, exists_eq_left, or_assoc]

theorem addEdgesFrom_edges_mem (es : List (Nat × Nat)) (g : DiGraph) (e : Nat × Nat) :
    e ∈ (g.addEdgesFrom es).edges ↔ e ∈ g.edges ∨ e ∈ es := by
  induction es generalizing g with
  | nil => simp [addEdgesFrom]
  | cons a es ih => rw [addEdgesFrom_cons, ih, addEdge_edges_mem, List.mem_cons, or_assoc]

theorem addEdgesFrom_wf (es : List (Nat × Nat)) (g : DiGraph) (h : WF g) : WF (g.addEdgesFrom es) :=
  List.foldlRecOn es _ h fun _ hb _ _ => addEdge_wf hb

theorem addEdgesFrom_nodes_of_closed (es : List (Nat × Nat)) (g : DiGraph)
    (h : ∀ e ∈ es, e.1 ∈ g.nodes ∧ e.2 ∈ g.nodes) : (g.addEdgesFrom es).nodes = g.nodes :=
  List.foldlRecOn (motive := fun g' : DiGraph => g'.nodes = g.nodes) es _ rfl fun _ hb e he =>
    (addEdge_nodes_of_mem (hb ▸ (h e he).1) (hb ▸ (h e he).2)).trans hb

theorem addNodesFrom_nodes_mem (ns : List Nat) (g : DiGraph) (x : Nat) :
    x ∈ (g.addNodesFrom ns).nodes ↔ x ∈ g.nodes ∨ x ∈ ns := by
  induction ns generalizing g with
  | nil => simp [addNodesFrom]
  | cons n ns ih => rw [addNodesFrom_cons, ih, addNode_nodes_mem, List.mem_cons, or_assoc]

@[simp] theorem addNodesFrom_edges (ns : List Nat) (g : DiGraph) : (g.addNodesFrom ns).edges = g.edges :=
  List.foldlRecOn (motive := fun g' : DiGraph => g'.edges = g.edges) ns _ rfl fun _ hb _ _ => addNode_edges.trans hb

theorem addNodesFrom_wf (ns : List Nat) (g : DiGraph) (h : WF g) : WF (g.addNodesFrom ns) :=
  List.foldlRecOn ns _ h fun _ hb _ _ => addNode_wf hb

theorem addNodesFrom_fresh (ns : List Nat) (g : DiGraph) (h : (g.nodes ++ ns).Nodup) :
    (g.addNodesFrom ns).nodes = g.nodes ++ ns := by
  induction ns generalizing g with
  | nil => exact (List.append_nil _).symm
  | cons n ns ih =>
    have hn : n ∉ g.nodes := fun hm =>
      (List.nodup_append.mp h).2.2 n hm n (List.mem_cons_self ..) rfl
    have h1 := addNode_of_not_mem hn
    rw [addNodesFrom_cons, ih, h1, List.append_assoc]
    · rfl
    · rw [h1, List.append_assoc]; exact h

theorem removeNode_nodes_mem : x ∈ (g.removeNode n).nodes ↔ x ∈ g.nodes ∧ x ≠ n := by
  simp only [removeNode, List.mem_filter, bne_iff_ne]

theorem removeNode_edges_mem :
    e ∈ (g.removeNode n).edges ↔ e ∈ g.edges ∧ e.1 ≠ n ∧ e.2 ≠ n := by
  simp only [removeNode, List.mem_filter, Bool.and_eq_true, bne_iff_ne]

theorem removeNode_wf (h : WF g) : WF (g.removeNode n) := by
  refine ⟨h.nodupNodes.sublist List.filter_sublist, h.nodupEdges.sublist List.filter_sublist, fun e he => ?_⟩
  obtain ⟨he, h1, h2⟩ := removeNode_edges_mem.mp he
  exact ⟨removeNode_nodes_mem.mpr ⟨(h.closed e he).1, h1⟩, removeNode_nodes_mem.mpr ⟨(h.closed e he).2, h2⟩⟩

theorem mem_edgeList_of_wf (h : WF g) : e ∈ g.edgeList ↔ e ∈ g.edges := by
  simp only [edgeList, List.mem_flatMap, List.mem_map, mem_succOf]
  constructor
  · rintro ⟨u, _, v, hv, rfl⟩
    exact hv
  · exact fun he => ⟨e.1, (h.closed e he).1, e.2, he, rfl⟩

/-- The block `[(a,w) | w ∈ S]` of the edge list gives `v` the predecessor `a` once per occurrence of `v` in `S`. -/
theorem block_pred (a v : Nat) (S : List Nat) :
    (((S.map (fun w => (a, w))).filter (fun e => e.2 == v)).map (·.1)) = List.replicate (S.count v) a := by
  induction S with
  | nil => rfl
  | cons s S ih =>
    rw [List.map_cons, List.filter_cons, List.count_cons]
    by_cases h : s == v
    · rw [if_pos h, if_pos h, List.map_cons, ih, List.replicate_succ]
    · rw [if_neg h, if_neg h, ih]; rfl

theorem pred_flatMap_sublist (v : Nat) (Sf : Nat → List Nat) (hS : ∀ a, (Sf a).Nodup) (ns : List Nat) :
    ((((ns.flatMap (fun u => (Sf u).map (fun w => (u, w)))).filter (fun e => e.2 == v)).map (·.1))).Sublist ns := by
  induction ns with
  | nil => exact List.Sublist.refl _
  | cons a ns ih =>
    rw [List.flatMap_cons, List.filter_append, List.map_append, block_pred]
    exact ((List.replicate_sublist_replicate a).mpr (List.nodup_iff_count.mp (hS a) v)).append ih

/-- After `G.copy()` every predecessor list is in node order. -/
theorem copy_pred_sublist (h : g.edges.Nodup) (v : Nat) :
    (g.copy.predOf v).Sublist g.copy.nodes :=
  pred_flatMap_sublist v g.succOf (succOf_nodup h) g.nodes

theorem edgeList_nodup (h : WF g) : g.edgeList.Nodup := by
  rw [edgeList, List.Nodup, List.pairwise_flatMap]
  refine ⟨fun u _ => ?_, h.nodupNodes.imp fun hab x hx y hy hxy => ?_⟩
  · exact (List.pairwise_map.mpr ((succOf_nodup h.nodupEdges u).imp fun hne heq => hne (Prod.ext_iff.mp heq).2))
  · obtain ⟨_, _, rfl⟩ := List.mem_map.mp hx
    obtain ⟨_, _, rfl⟩ := List.mem_map.mp hy
    exact hab (Prod.ext_iff.mp hxy).1

theorem copy_wf (h : WF g) : WF g.copy :=
  ⟨h.nodupNodes, edgeList_nodup h, fun e he => h.closed e ((mem_edgeList_of_wf h).mp he)⟩

/-- `R.add_nodes_from(G); R.add_edges_from(G.edges)`: what `compose_all` (and `copy`) do with
    each graph in turn. -/
def update (r g : DiGraph) : DiGraph := (r.addNodesFrom g.nodes).addEdgesFrom g.edgeList

theorem compose_eq (g h : DiGraph) : g.compose h = (empty.update g).update h := rfl

theorem update_wf {r g : DiGraph} (hr : WF r) : WF (r.update g) :=
  addEdgesFrom_wf _ _ (addNodesFrom_wf _ _ hr)

theorem update_edges_mem {r g : DiGraph} (hg : WF g) :
    e ∈ (r.update g).edges ↔ e ∈ r.edges ∨ e ∈ g.edges := by
  rw [update, addEdgesFrom_edges_mem, addNodesFrom_edges, mem_edgeList_of_wf hg]

theorem update_nodes_mem {r g : DiGraph} (hg : WF g) :
    x ∈ (r.update g).nodes ↔ x ∈ r.nodes ∨ x ∈ g.nodes := by
  rw [update, addEdgesFrom_nodes_mem, addNodesFrom_nodes_mem, or_assoc]
  refine or_congr_right (or_iff_left_of_imp fun ⟨e, he, hx⟩ => ?_)
  have := hg.closed e ((mem_edgeList_of_wf hg).mp he)
  exact hx.elim (fun h => h ▸ this.1) (fun h => h ▸ this.2)

theorem update_nodes_disjoint {r g : DiGraph} (hg : WF g) (hnd : (r.nodes ++ g.nodes).Nodup) :
    (r.update g).nodes = r.nodes ++ g.nodes := by
  have h1 := addNodesFrom_fresh g.nodes r hnd
  rw [update, addEdgesFrom_nodes_of_closed, h1]
  intro e he
  have := hg.closed e ((mem_edgeList_of_wf hg).mp he)
  rw [h1]
  exact ⟨List.mem_append_right _ this.1, List.mem_append_right _ this.2⟩

theorem compose_wf {g h : DiGraph} : WF (g.compose h) := update_wf (update_wf empty_wf)

theorem compose_edges_mem {g h : DiGraph} (hg : WF g) (hh : WF h) :
    e ∈ (g.compose h).edges ↔ e ∈ g.edges ∨ e ∈ h.edges := by
  rw [compose_eq, update_edges_mem hh, update_edges_mem hg]
  exact or_congr_left (or_iff_right List.not_mem_nil)

theorem compose_nodes_mem {g h : DiGraph} (hg : WF g) (hh : WF h) :
    x ∈ (g.compose h).nodes ↔ x ∈ g.nodes ∨ x ∈ h.nodes := by
  rw [compose_eq, update_nodes_mem hh, update_nodes_mem hg]
  exact or_congr_left (or_iff_right List.not_mem_nil)

theorem compose_nodes_disjoint {g h : DiGraph} (hg : WF g) (hh : WF h)
    (hdis : ∀ x ∈ g.nodes, x ∉ h.nodes) : (g.compose h).nodes = g.nodes ++ h.nodes := by
  have h1 : (empty.update g).nodes = g.nodes := update_nodes_disjoint hg hg.nodupNodes
  rw [compose_eq, update_nodes_disjoint hh, h1]
  rw [h1]
  exact List.nodup_append.mpr ⟨hg.nodupNodes, hh.nodupNodes, fun a ha b hb hab => hdis a ha (hab ▸ hb)⟩

end

/-- The renaming a one-entry mapping performs. -/
def ren (old new x : Nat) : Nat := if x = old then new else x

theorem ren_self (old new : Nat) : ren old new old = new := if_pos rfl

theorem ren_of_ne {old x : Nat} (new : Nat) (h : x ≠ old) : ren old new x = x := if_neg h

theorem ren_inj {old new a b : Nat} (h : ren old new a = ren old new b) (ha : a ≠ new) (hb : b ≠ new) : a = b := by
  unfold ren at h
  grind

section
variable {g : DiGraph} {old new : Nat} {e : Nat × Nat}

theorem relabel1_of_not_mem (new : Nat) (h : old ∉ g.nodes) :
    g.relabel1 old new = g := if_pos h

theorem relabel1_self (g : DiGraph) (old : Nat) : g.relabel1 old old = g := by
  by_cases h : old ∈ g.nodes
  · rw [relabel1, if_neg (not_not_intro h), if_pos (beq_self_eq_true old)]
  · exact relabel1_of_not_mem old h

theorem relabel1_eq (ho : old ∈ g.nodes) (hne : new ≠ old) :
    g.relabel1 old new = ((g.addNode new).removeNode old).addEdgesFrom
      ((g.succOf old).map (fun t => (new, ren old new t)) ++
       (g.predOf old).map (fun s => (ren old new s, new))) := by
  unfold relabel1
  rw [if_neg (not_not_intro ho), if_neg (by rwa [beq_iff_eq])]
  simp only [succOf, predOf, addNode_edges, ren, beq_iff_eq]

theorem relabel1_wf (h : WF g) : WF (g.relabel1 old new) := by
  by_cases ho : old ∈ g.nodes
  · by_cases hne : new = old
    · rw [hne, relabel1_self]; exact h
    · rw [relabel1_eq ho hne]; exact addEdgesFrom_wf _ _ (removeNode_wf (addNode_wf h))
  · rw [relabel1_of_not_mem new ho]; exact h

theorem relabel1_edges_mem (ho : old ∈ g.nodes) (hne : new ≠ old) :
    e ∈ (g.relabel1 old new).edges ↔ ∃ e0 ∈ g.edges, e = (ren old new e0.1, ren old new e0.2) := by
  rw [relabel1_eq ho hne, addEdgesFrom_edges_mem, removeNode_edges_mem, addNode_edges]
  simp only [List.mem_append, List.mem_map, mem_succOf, mem_predOf]
  constructor
  · rintro (⟨he, h1, h2⟩ | ⟨t, ht, rfl⟩ | ⟨s, hs, rfl⟩)
    · exact ⟨e, he, by rw [ren_of_ne new h1, ren_of_ne new h2]⟩
    · exact ⟨(old, t), ht, by rw [ren_self]⟩
    · exact ⟨(s, old), hs, by rw [ren_self]⟩
  · rintro ⟨⟨a, b⟩, he0, rfl⟩
    by_cases ha : a = old
    · subst ha
      exact Or.inr (Or.inl ⟨b, he0, by rw [ren_self]⟩)
    · by_cases hb : b = old
      · subst hb
        exact Or.inr (Or.inr ⟨a, he0, by rw [ren_self]⟩)
      · rw [ren_of_ne new ha, ren_of_ne new hb]
        exact Or.inl ⟨he0, ha, hb⟩

theorem relabel1_nodes_fresh (h : WF g) (ho : old ∈ g.nodes)
    (hn : new ∉ g.nodes) :
    (g.relabel1 old new).nodes = g.nodes.filter (fun x => x != old) ++ [new] := by
  have hne : new ≠ old := fun h => hn (h ▸ ho)
  have hnodes : ((g.addNode new).removeNode old).nodes = g.nodes.filter (fun x => x != old) ++ [new] := by
    rw [removeNode, addNode_of_not_mem hn, List.filter_append,
      filter_singleton_pos (fun x => x != old) (bne_iff_ne.mpr hne)]
  have hren : ∀ x ∈ g.nodes, ren old new x ∈ g.nodes.filter (fun x => x != old) ++ [new] := by
    intro x hx
    by_cases hxo : x = old
    · rw [hxo, ren_self]; exact List.mem_append_right _ (List.mem_singleton_self _)
    · rw [ren_of_ne new hxo]
      exact List.mem_append_left _ (List.mem_filter.mpr ⟨hx, bne_iff_ne.mpr hxo⟩)
  rw [relabel1_eq ho hne, addEdgesFrom_nodes_of_closed, hnodes]
  -- the appended edges are edges of the result, hence renamed edges of `g`
  intro e he
  obtain ⟨e0, he0, rfl⟩ := (relabel1_edges_mem ho hne).mp
    (by rw [relabel1_eq ho hne, addEdgesFrom_edges_mem]; exact Or.inr he)
  rw [hnodes]
  exact ⟨hren _ (h.closed _ he0).1, hren _ (h.closed _ he0).2⟩

end
end DiGraph
open DiGraph

/-- The renaming a sequence of one-entry relabellings performs. -/
def renSeq (pairs : List (Nat × Nat)) (x : Nat) : Nat :=
  pairs.foldl (fun x p => ren p.1 p.2 x) x

theorem renSeq_cons (p : Nat × Nat) (ps : List (Nat × Nat)) (x : Nat) :
    renSeq (p :: ps) x = renSeq ps (ren p.1 p.2 x) := List.foldl_cons ..

theorem renSeq_other (pairs : List (Nat × Nat)) (x : Nat) (h : ∀ p ∈ pairs, x ≠ p.1) :
    renSeq pairs x = x := by
  induction pairs with
  | nil => rfl
  | cons p ps ih =>
    obtain ⟨hp, hps⟩ := List.forall_mem_cons.mp h
    rw [renSeq_cons, ren_of_ne _ hp, ih hps]

theorem relabelSeq_cons (g : DiGraph) (p : Nat × Nat) (ps : List (Nat × Nat)) :
    relabelSeq g (p :: ps) = relabelSeq (g.relabel1 p.1 p.2) ps := List.foldl_cons ..

/-- The (old, new) pairs when the tasks `olds` are replaced by new `Task` objects `next, next+1, …`. -/
def freshPairs (olds : List Nat) (next : Nat) : List (Nat × Nat) :=
  olds.zip (List.range' next olds.length)

theorem freshPairs_cons (o : Nat) (os : List Nat) (next : Nat) :
    freshPairs (o :: os) next = (o, next) :: freshPairs os (next + 1) := by
  rw [freshPairs, List.length_cons, List.range'_succ, List.zip_cons_cons]
  rfl

/-- Distinct tasks replaced one after the other by new task objects: the untouched tasks keep their
    order, the new ones follow in the order of replacement. -/
theorem relabelSeq_fresh (olds : List Nat) (g : DiGraph) (next : Nat) (h : WF g)
    (hnd : olds.Nodup) (hsub : ∀ o ∈ olds, o ∈ g.nodes) (hfresh : ∀ x ∈ g.nodes, x < next) :
    WF (relabelSeq g (freshPairs olds next)) ∧
    (relabelSeq g (freshPairs olds next)).nodes =
      g.nodes.filter (fun x => !olds.contains x) ++ List.range' next olds.length ∧
    ∀ e, e ∈ (relabelSeq g (freshPairs olds next)).edges ↔ ∃ e0 ∈ g.edges,
      e = (renSeq (freshPairs olds next) e0.1, renSeq (freshPairs olds next) e0.2) := by
  induction olds generalizing g next with
  | nil =>
    refine ⟨h, ?_, fun e => ⟨fun he => ⟨e, he, rfl⟩, fun ⟨_, he, heq⟩ => heq ▸ he⟩⟩
    exact ((List.append_nil _).trans (List.filter_eq_self.mpr fun _ _ => rfl)).symm
  | cons o os ih =>
    obtain ⟨ho_os, hnd⟩ := List.nodup_cons.mp hnd
    obtain ⟨ho, hsub⟩ := List.forall_mem_cons.mp hsub
    have hn : next ∉ g.nodes := fun hm => Nat.lt_irrefl _ (hfresh _ hm)
    have hne : next ≠ o := fun heq => hn (heq ▸ ho)
    have hnodes1 := relabel1_nodes_fresh h ho hn
    have hmem1 : ∀ x, x ∈ (g.relabel1 o next).nodes ↔ (x ∈ g.nodes ∧ x ≠ o) ∨ x = next := by
      intro x
      rw [hnodes1, List.mem_append, List.mem_filter, bne_iff_ne, List.mem_singleton]
    obtain ⟨hwf, hnodes, hed⟩ := ih (g.relabel1 o next) (next + 1) (relabel1_wf h) hnd
      (fun x hx => (hmem1 x).mpr (Or.inl ⟨hsub x hx, fun heq => ho_os (heq ▸ hx)⟩))
      (fun x hx => ((hmem1 x).mp hx).elim (fun hg => Nat.lt_succ_of_lt (hfresh x hg.1))
        (fun heq => heq ▸ Nat.lt_succ_self _))
    rw [freshPairs_cons, relabelSeq_cons]
    refine ⟨hwf, ?_, fun e => ?_⟩
    · -- `next` is none of the tasks still to be replaced, so it stays
      have hp2 : (!os.contains next) = true :=
        Bool.not_eq_true' _ ▸ Bool.eq_false_iff.mpr fun hc => hn (hsub _ (List.contains_iff_mem.mp hc))
      rw [hnodes, hnodes1, List.filter_append, List.filter_filter,
        filter_singleton_pos (fun x => !os.contains x) hp2, List.append_assoc, List.length_cons,
        List.range'_succ]
      congr 1
      refine List.filter_congr fun x _ => ?_
      rw [List.contains_cons, Bool.not_or, Bool.and_comm]
      rfl
    · rw [hed]
      constructor
      · rintro ⟨e1, he1, rfl⟩
        obtain ⟨e0, he0, rfl⟩ := (relabel1_edges_mem ho hne).mp he1
        exact ⟨e0, he0, rfl⟩
      · rintro ⟨e0, he0, rfl⟩
        exact ⟨_, (relabel1_edges_mem ho hne).mpr ⟨e0, he0, rfl⟩, rfl⟩

end Pharmpy.C17
