import PharmpyModel.C17.Sched
import PharmpyProofs.C17.GraphLemmas
/-
  The task table, `insert_context` and the relabel pass of `execute_workflow`, harmless static inputs,
  output/input tasks, the connection rule of `insert_workflow`, the path predicate `Reach` of
  `single_sink_all_upstream`, scheduler keys.
-/
namespace Pharmpy.C17

theorem Table.get_cons (k : Nat) (t : Task) (tb : Table) (x : Nat) :
    Table.get ((k, t) :: tb) x = if k = x then t else Table.get tb x := by
  unfold Table.get
  rw [List.find?_cons]
  by_cases h : k = x
  · rw [if_pos h, beq_iff_eq.mpr h]
  · rw [if_neg h, beq_eq_false_iff_ne.mpr h]

theorem Table.get_zip_not_mem (ks : List Nat) (vs : List Task) (tb : Table) (x : Nat) (hx : x ∉ ks) :
    Table.get (ks.zip vs ++ tb) x = Table.get tb x := by
  induction ks generalizing vs with
  | nil => rfl
  | cons k ks ih =>
    cases vs with
    | nil => rfl
    | cons v vs =>
      rw [List.mem_cons, not_or] at hx
      rw [List.zip_cons_cons, List.cons_append, Table.get_cons, if_neg (Ne.symm hx.1), ih vs hx.2]

theorem Table.map_get_zip (ks : List Nat) (vs : List Task) (tb : Table) (hnd : ks.Nodup)
    (hlen : ks.length = vs.length) : ks.map (Table.get (ks.zip vs ++ tb)) = vs := by
  induction ks generalizing vs with
  | nil => exact (List.length_eq_zero_iff.mp hlen.symm).symm
  | cons k ks ih =>
    cases vs with
    | nil => cases hlen
    | cons v vs =>
      obtain ⟨hk, hnd⟩ := List.nodup_cons.mp hnd
      rw [List.zip_cons_cons, List.cons_append, List.map_cons, Table.get_cons, if_pos rfl,
        ← ih vs hnd (Nat.succ.inj hlen)]
      congr 1
      refine List.map_congr_left fun x hx => ?_
      rw [Table.get_cons, if_neg (by rintro rfl; exact hk hx), ih vs hnd (Nat.succ.inj hlen)]

theorem filter_map_of_map_eq {α β γ δ : Type} {f : α → γ} {g : β → γ} {l₁ : List α} {l₂ : List β}
    (h : l₁.map f = l₂.map g) (P : γ → Bool) (N : γ → δ) :
    (l₁.filter (P ∘ f)).map (N ∘ f) = (l₂.filter (P ∘ g)).map (N ∘ g) := by
  rw [← List.map_map, ← List.filter_map, ← List.map_map, ← List.filter_map, h]

theorem map_withCtx_ctxLast (l : List Task) :
    (ctxLast l).map withCtx =
      l.filter (fun t => !t.takesCtx) ++ (l.filter (fun t => t.takesCtx)).map addCtx := by
  rw [ctxLast, List.map_append]
  congr 1
  · refine (List.map_congr_left fun t ht => ?_).trans (List.map_id _)
    exact if_neg (Bool.eq_false_iff.mp ((Bool.not_eq_true' _).mp (List.mem_filter.mp ht).2))
  · exact List.map_congr_left fun t ht => if_pos (List.mem_filter.mp ht).2

/-- The (old, new) replacements `insert_context` performs. -/
def ctxPairs (st : St) (g : DiGraph) : List (Nat × Nat) :=
  (g.nodes.filter (fun t => (st.tb.get t).takesCtx)).zip
    (List.range' st.next (g.nodes.filter (fun t => (st.tb.get t).takesCtx)).length)

theorem insertContext_spec (st : St) (g : DiGraph) (hwf : DiGraph.WF g) (hfresh : ∀ x ∈ g.nodes, x < st.next) :
    DiGraph.WF (insertContext st g).2 ∧
    (insertContext st g).2.nodes.map (insertContext st g).1.tb.get =
      (ctxLast (g.nodes.map st.tb.get)).map withCtx ∧
    ∀ e, e ∈ (insertContext st g).2.edges ↔ ∃ e0 ∈ g.edges,
      e = (renSeq (ctxPairs st g) e0.1, renSeq (ctxPairs st g) e0.2) := by
  obtain ⟨hwf', hnodes, hedges⟩ := relabelSeq_fresh (g.nodes.filter (fun t => (st.tb.get t).takesCtx))
    g st.next hwf (hwf.nodupNodes.sublist List.filter_sublist) (fun o ho => (List.mem_filter.mp ho).1) hfresh
  refine ⟨hwf', ?_, hedges⟩
  show (relabelSeq g (freshPairs _ st.next)).nodes.map (Table.get (_ ++ st.tb)) = _
  rw [hnodes, List.map_append, map_withCtx_ctxLast]
  congr 1
  · -- untouched tasks: old ids, looked up in the old part of the table
    rw [List.filter_map]
    have hfilt : g.nodes.filter (fun x => !(g.nodes.filter (fun t => (st.tb.get t).takesCtx)).contains x) =
        g.nodes.filter ((fun t => !t.takesCtx) ∘ st.tb.get) :=
      List.filter_congr fun x hx => congrArg not <| Bool.eq_iff_iff.mpr <|
        List.contains_iff_mem.trans (List.mem_filter.trans (and_iff_right hx))
    rw [hfilt]
    refine List.map_congr_left fun x hx => Table.get_zip_not_mem _ _ _ _ fun hm => ?_
    exact Nat.lt_irrefl x (Nat.lt_of_lt_of_le (hfresh x (List.mem_filter.mp hx).1) (List.mem_range'_1.mp hm).1)
  · rw [Table.map_get_zip _ _ _ List.nodup_range' (by rw [List.length_range', List.length_map]),
      List.filter_map, List.map_map]
    rfl

theorem relabelPass_spec (st : St) (g : DiGraph) (hwf : DiGraph.WF g) (hfresh : ∀ x ∈ g.nodes, x < st.next) :
    DiGraph.WF (relabelPass st g).2 ∧
    (∀ x ∈ (relabelPass st g).2.nodes, x < (relabelPass st g).1.next) ∧
    (relabelPass st g).2.nodes.map (relabelPass st g).1.tb.get = g.nodes.map st.tb.get := by
  obtain ⟨hwf', hnodes, _⟩ := relabelSeq_fresh g.nodes g.copy st.next (DiGraph.copy_wf hwf)
    hwf.nodupNodes (fun _ ho => ho) hfresh
  have hempty : g.nodes.filter (fun x => !g.nodes.contains x) = [] :=
    List.filter_eq_nil_iff.mpr fun x hx h => by rw [List.contains_iff_mem.mpr hx] at h; cases h
  rw [DiGraph.copy_nodes, hempty, List.nil_append] at hnodes
  refine ⟨hwf', fun x hx => ?_, ?_⟩
  · exact (List.mem_range'_1.mp (hnodes ▸ hx)).2
  · show (relabelSeq g.copy (freshPairs g.nodes st.next)).nodes.map (Table.get (_ ++ st.tb)) = _
    rw [hnodes]
    exact Table.map_get_zip _ _ _ List.nodup_range' (by rw [List.length_range', List.length_map])

/-- What both dispatch paths end with: `insert_context` on a well-formed builder graph, then
    `Workflow(wb)` (a copy), which puts every predecessor list in the new node order. -/
theorem dispatched_spec (st : St) (g : DiGraph) (hwf : DiGraph.WF g) (hfresh : ∀ x ∈ g.nodes, x < st.next) :
    DiGraph.WF (insertContext st g).2.copy ∧
    (insertContext st g).2.copy.nodes.map (insertContext st g).1.tb.get =
      (ctxLast (g.nodes.map st.tb.get)).map withCtx ∧
    ∀ v, ((insertContext st g).2.copy.predOf v).Sublist (insertContext st g).2.copy.nodes := by
  obtain ⟨h1, h2, _⟩ := insertContext_spec st g hwf hfresh
  exact ⟨DiGraph.copy_wf h1, h2, DiGraph.copy_pred_sublist h1.nodupEdges⟩

open DiGraph

theorem keyOf_eq_results {sink t : Nat} : keyOf sink t = .results ↔ t = sink := by
  unfold keyOf
  by_cases h : t = sink
  · rw [if_pos (beq_iff_eq.mpr h)]; exact iff_of_true rfl h
  · rw [if_neg (mt beq_iff_eq.mp h)]; exact iff_of_false nofun h

theorem keyOf_inj (sink a b : Nat) (h : keyOf sink a = keyOf sink b) : a = b := by
  unfold keyOf at h
  grind

theorem atom_safe (res : Option String) (a : Atom) (h : a.hazard = false) :
    a.keys = [] ∧ a.dask res = a.literal := by
  cases a with
  | s x =>
    have hk : strKey x = none := Option.not_isSome_iff_eq_none.mp (Bool.eq_false_iff.mp h)
    refine ⟨by rw [Atom.keys, hk]; rfl, ?_⟩
    show strVal res x = x
    unfold strVal
    rw [hk]
  | ctx => exact ⟨rfl, rfl⟩
  | call g args => cases h

theorem sarg_safe (res : Option String) (a : SArg) (h : a.hazard = false) :
    a.keys = [] ∧ a.dask res = a.literal := by
  cases a with
  | atom a => exact atom_safe res a h
  | list xs =>
    have hx : ∀ a ∈ xs, a.keys = [] ∧ a.dask res = a.literal :=
      fun a ha => atom_safe res a (List.any_eq_false.mp h a ha |> Bool.eq_false_iff.mpr)
    exact ⟨List.flatMap_eq_nil_iff.mpr fun a ha => (hx a ha).1,
      by rw [SArg.dask, SArg.literal, List.map_congr_left fun a ha => (hx a ha).2]⟩

theorem Entry.static_keys_of_safe (e : Entry) (h : ∀ a ∈ e.task.static, a.hazard = false) :
    e.task.static.flatMap SArg.keys = [] :=
  List.flatMap_eq_nil_iff.mpr fun a ha => (sarg_safe none a (h a ha)).1

theorem Entry.deps_of_safe (e : Entry) (h : ∀ a ∈ e.task.static, a.hazard = false) : e.deps = e.preds := by
  rw [Entry.deps, e.static_keys_of_safe h, List.nil_append]

theorem Entry.apply_of_safe (e : Entry) (h : ∀ a ∈ e.task.static, a.hazard = false) (vals : List String) :
    e.apply vals = e.applySpec vals := by
  simp only [Entry.apply, Entry.applySpec, e.static_keys_of_safe h, List.length_nil, if_true, List.drop_zero]
  rw [List.map_congr_left fun a ha => (sarg_safe none a (h a ha)).2]

theorem addTask_fold (g : DiGraph) (t : Nat) (ps : List Nat) :
    addTask g t (some ps) = (g.addNode t).addEdgesFrom (ps.map (fun p => (p, t))) := by
  show ps.foldl _ (g.addNode t) = _
  generalize g.addNode t = g'
  induction ps generalizing g' with
  | nil => rfl
  | cons p ps ih => rw [List.foldl_cons, List.map_cons, addEdgesFrom_cons]; exact ih _

theorem mem_outputNodes {g : DiGraph} {x : Nat} :
    x ∈ g.outputNodes ↔ x ∈ g.nodes ∧ ∀ y, (x, y) ∉ g.edges := by
  simp only [outputNodes, List.mem_filter, List.isEmpty_iff, List.eq_nil_iff_forall_not_mem, mem_succOf]

theorem mem_inputNodes {g : DiGraph} {x : Nat} :
    x ∈ g.inputNodes ↔ x ∈ g.nodes ∧ ∀ y, (y, x) ∉ g.edges := by
  simp only [inputNodes, List.mem_filter, List.isEmpty_iff, List.eq_nil_iff_forall_not_mem, mem_predOf]

theorem connectEdges_eq_error_iff {outs ins : List Nat} {e : Err} :
    connectEdges outs ins = .error e ↔
      e = .valueError ∧ ins.length ≠ outs.length ∧ ins.length ≠ 1 ∧ outs.length ≠ 1 := by
  constructor
  · intro h
    unfold connectEdges at h
    split at h
    · cases h
    · next hlen =>
      split at h
      · cases h
      · cases h
      · next hni hno =>
        refine ⟨(Except.error.inj h).symm, mt beq_iff_eq.mpr hlen, fun hl => ?_, fun hl => ?_⟩
        · obtain ⟨i, rfl⟩ := List.length_eq_one_iff.mp hl
          exact hni i rfl
        · obtain ⟨o, rfl⟩ := List.length_eq_one_iff.mp hl
          exact hno o rfl
  · rintro ⟨rfl, h1, h2, h3⟩
    unfold connectEdges
    rw [if_neg (mt beq_iff_eq.mp h1)]
    split
    · exact absurd rfl h2
    · exact absurd rfl h3
    · rfl

theorem connectEdges_endpoints {outs ins : List Nat} {es : List (Nat × Nat)}
    (h : connectEdges outs ins = .ok es) : ∀ e ∈ es, e.1 ∈ outs ∧ e.2 ∈ ins := by
  intro e he
  unfold connectEdges at h
  split at h
  · cases h
    obtain ⟨p, hp, rfl⟩ := List.mem_map.mp he
    exact ⟨(List.of_mem_zip hp).2, (List.of_mem_zip hp).1⟩
  · split at h
    · cases h
      obtain ⟨o, ho, rfl⟩ := List.mem_map.mp he
      exact ⟨ho, List.mem_singleton_self _⟩
    · cases h
      obtain ⟨i, hi, rfl⟩ := List.mem_map.mp he
      exact ⟨List.mem_singleton_self _, hi⟩
    · cases h

/-- `Reach g x y`: there is a directed path (possibly empty) from `x` to `y`. -/
inductive Reach (g : DiGraph) : Nat → Nat → Prop
  | refl (x : Nat) : Reach g x x
  | step {u v w : Nat} : (u, v) ∈ g.edges → Reach g v w → Reach g u w

theorem exists_bound (l : List Nat) (f : Nat → Nat) : ∃ N, ∀ x ∈ l, f x ≤ N := by
  induction l with
  | nil => exact ⟨0, nofun⟩
  | cons a l ih =>
    obtain ⟨N, hN⟩ := ih
    refine ⟨max (f a) N, List.forall_mem_cons.mpr ⟨Nat.le_max_left _ _, fun x hx => ?_⟩⟩
    exact Nat.le_trans (hN x hx) (Nat.le_max_right _ _)

theorem Submission.key_eq {a b : Submission} {x y : Key} (h : a.key x = b.key y) :
    x = y ∧ (a.inst = b.inst ∨ a.rename = b.rename) := by
  -- the scheduler keys of `'results'` (plain or renamed) and of tasks have different constructors
  unfold Submission.key at h
  grind

end Pharmpy.C17
