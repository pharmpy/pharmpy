import PharmpyProofs.C17.SchedLemmas
import PharmpyProofs.C17.Lemmas
import PharmpyModel.Generated.C17Task
/-
  C17 — Workflows execute as their task graph specifies: the property theorems, the witnesses of
  what is false of the code, and non-vacuity examples.
-/
namespace Pharmpy.C17
open DiGraph

/-! ## The abstract scheduler

  `TaskGraph κ V` is ANY assignment of dependency lists and functions to keys (any size, cyclic or
  not); a firing sequence is admissible when `runSeq` returns `some`. -/

section
variable {κ V : Type} [DecidableEq κ]

/-- Every value produced by an admissible firing sequence is the reference
    (recursive, schedule-free) value of that key. -/
theorem schedule_sound (tg : TaskGraph κ V) (s : List κ) (e : Env κ V) (k : κ) (v : V)
    (hrun : runSeq tg Env.empty s = some e) (hk : e k = some v) :
    den tg s.length k = some v :=
  runSeq_sound (n := 0) nofun hrun k v hk

/-- Two admissible firing sequences of the same
    graph — whatever their lengths and orders — agree on every key both of
    them fire; in particular on `'results'`. -/
theorem schedule_independent (tg : TaskGraph κ V) (s₁ s₂ : List κ) (e₁ e₂ : Env κ V) (k : κ) (v₁ v₂ : V)
    (h₁ : runSeq tg Env.empty s₁ = some e₁) (h₂ : runSeq tg Env.empty s₂ = some e₂)
    (hk₁ : e₁ k = some v₁) (hk₂ : e₂ k = some v₂) : v₁ = v₂ := by
  have a := den_mono tg (Nat.le_max_left s₁.length s₂.length) k v₁ (schedule_sound tg s₁ e₁ k v₁ h₁ hk₁)
  have b := den_mono tg (Nat.le_max_right s₁.length s₂.length) k v₂ (schedule_sound tg s₂ e₂ k v₂ h₂ hk₂)
  exact Option.some.inj (a.symm.trans b)

/-- Every task fires exactly once: an admissible sequence has no repetition and
    the keys that end up with a value are exactly the fired ones. -/
theorem fires_exactly_once (tg : TaskGraph κ V) (s : List κ) (e : Env κ V)
    (hrun : runSeq tg Env.empty s = some e) :
    s.Nodup ∧ ∀ k, (e k).isSome ↔ k ∈ s := by
  obtain ⟨hnd, _, hiff⟩ := runSeq_fired hrun
  exact ⟨hnd, fun k => (hiff k).trans (or_iff_right Bool.false_ne_true)⟩

/-- A task fires only after all of its predecessors (all keys it mentions). -/
theorem fires_after_predecessors (tg : TaskGraph κ V) (p q : List κ) (k : κ) (e : Env κ V)
    (hrun : runSeq tg Env.empty (p ++ k :: q) = some e) :
    ∀ d ∈ tg.deps k, d ∈ p := by
  obtain ⟨ep, vs, hp, _, hl, _⟩ := runSeq_split hrun
  intro d hd
  obtain ⟨v, hv⟩ := lookupAll_isSome_iff.mp ⟨vs, hl⟩ d hd
  exact ((fires_exactly_once tg p ep hp).2 d).mp (hv ▸ rfl)

/-- The value a task fires with is its function applied to the values of the
    keys it mentions, in the listed order, as they are in the final state. -/
theorem fired_value (tg : TaskGraph κ V) (s : List κ) (e : Env κ V) (k : κ) (v : V)
    (hrun : runSeq tg Env.empty s = some e) (hk : e k = some v) :
    ∃ vs, lookupAll e (tg.deps k) = some vs ∧ v = tg.fn k vs := by
  have hmem : k ∈ s := ((fires_exactly_once tg s e hrun).2 k).mp (hk ▸ rfl)
  obtain ⟨p, q, rfl⟩ := List.append_of_mem hmem
  obtain ⟨ep, vs, _, hk0, hl, hq⟩ := runSeq_split hrun
  -- values never change once set, so the arguments and the result are still there at the end
  have hle : ep.le e := fun x w hx => runSeq_le hq x w (Env.le_set hk0 _ x w hx)
  have hkv := runSeq_le hq k _ (Env.set_self ep k _)
  exact ⟨vs, lookupAll_mono hle hl, Option.some.inj (hk.symm.trans hkv)⟩

/-- A repetition-free sequence in which every key comes after the keys it mentions is
    admissible — so for a DAG sequential evaluation in topological order is one of the
    schedules, and by `schedule_independent` every other schedule agrees with it. -/
theorem topological_order_admissible (tg : TaskGraph κ V) (s : List κ) (hnd : s.Nodup)
    (htopo : ∀ p k q, s = p ++ k :: q → ∀ d ∈ tg.deps k, d ∈ p) :
    ∃ e, runSeq tg Env.empty s = some e ∧ ∀ k ∈ s, (e k).isSome := by
  obtain ⟨e, he⟩ := runSeq_topo tg (e := Env.empty) hnd (fun _ _ => rfl)
    (fun p k q h d hd => Or.inr (htopo p k q h d hd))
  exact ⟨e, he, fun k hk => ((fires_exactly_once tg s e he).2 k).mpr hk⟩

/-- `evalAlong` (the sequential evaluator used by `topoEval`) is itself an
    admissible schedule, hence agrees with every other schedule. -/
theorem topoEval_agrees (tg : TaskGraph κ V) (order s : List κ) (e : Env κ V) (k : κ) (v w : V)
    (hrun : runSeq tg Env.empty s = some e) (hk : e k = some v)
    (hw : evalAlong tg Env.empty order k = some w) : v = w := by
  obtain ⟨s', _, hs'⟩ := evalAlong_schedule tg order Env.empty
  exact schedule_independent tg s s' e _ k v w hrun hs' hk hw

end

/-- `as_dask_dict` refuses exactly the workflows whose
    number of output tasks is not one. -/
theorem single_sink_required (tb : Table) (g : DiGraph) :
    (∃ d, asDaskDict tb g = .ok d) ↔ g.outputNodes.length = 1 := by
  unfold asDaskDict
  split
  · next sink ho => rw [ho]; exact ⟨fun _ => rfl, fun _ => ⟨_, rfl⟩⟩
  · next hno =>
    refine ⟨fun ⟨_, hd⟩ => (by cases hd), fun hl => ?_⟩
    obtain ⟨a, ha⟩ := List.length_eq_one_iff.mp hl
    exact absurd ha (hno a)

/-- One entry per task, in node order; pairwise distinct keys; the output
    task — and only it — has key `'results'`; the value of every task is
    `(function, *static inputs, *keys of its predecessors in predecessor order)`. -/
theorem dask_dict_faithful (tb : Table) (g : DiGraph) (d : List Entry) (hnd : g.nodes.Nodup)
    (h : asDaskDict tb g = .ok d) :
    ∃ sink, g.outputNodes = [sink] ∧
      d.map (·.key) = g.nodes.map (keyOf sink) ∧
      (d.map (·.key)).Nodup ∧
      (∀ t, keyOf sink t = .results ↔ t = sink) ∧
      d = g.nodes.map (fun t => ⟨keyOf sink t, tb.get t, (g.predOf t).map (keyOf sink)⟩) := by
  unfold asDaskDict at h
  split at h
  · next sink ho =>
    cases h
    refine ⟨sink, ho, ?_, ?_, fun t => keyOf_eq_results, rfl⟩
    · rw [List.map_map]; rfl
    · rw [List.map_map, List.Nodup, List.pairwise_map]
      exact hnd.imp fun hne heq => hne (keyOf_inj sink _ _ heq)
  · cases h

/-- When no static input of any task is a dask graph literal
    (a `str` equal to the key `'results'`, a tuple headed by a callable, a list containing one),
    the graph dask evaluates IS the graph of the property. -/
theorem static_inputs_literal_partial (d : List Entry)
    (hsafe : ∀ e ∈ d, ∀ a ∈ e.task.static, a.hazard = false) :
    daskGraph d = specGraph d := by
  refine TaskGraph.ext (funext fun k => ?_) (funext fun k => funext fun vals => ?_)
  · simp only [daskGraph, specGraph]
    cases hf : Entry.find d k with
    | none => rfl
    | some e => exact e.deps_of_safe (hsafe e (List.mem_of_find?_eq_some hf))
  · simp only [daskGraph, specGraph]
    cases hf : Entry.find d k with
    | none => rfl
    | some e => exact e.apply_of_safe (hsafe e (List.mem_of_find?_eq_some hf)) vals

/-- Consequence: without graph literals every admissible schedule of dask's
    graph yields, at every key it fires, the property's reference value. -/
theorem execution_matches_spec (d : List Entry)
    (hsafe : ∀ e ∈ d, ∀ a ∈ e.task.static, a.hazard = false)
    (s : List Key) (env : Env Key String) (k : Key) (v : String)
    (hrun : runSeq (daskGraph d) Env.empty s = some env) (hk : env k = some v) :
    den (specGraph d) s.length k = some v := by
  rw [static_inputs_literal_partial d hsafe] at hrun
  exact schedule_sound _ s env k v hrun hk

/-- The full statement is FALSE of the unchanged code (F7).  Witness: task 0 with the static
    input `'results'` feeding the output task 1.  In dask's reading task 0 depends on `'results'`,
    which depends on task 0 (dask raises `RuntimeError: Cycle detected`). -/
def f7Dict : List Entry :=
  [⟨.task 0, ⟨0, false, [.atom (.s "results")]⟩, []⟩, ⟨.results, ⟨1, false, []⟩, [.task 0]⟩]

theorem static_splice_witness :
    (topoEval f7Dict).isSome = true ∧ (match (daskGet f7Dict).1 with | .error .cycle => true | _ => false) = true ∧
    (daskGraph f7Dict).deps (.task 0) = [.results] ∧ (specGraph f7Dict).deps (.task 0) = [] := by
  decide +kernel

/-- A static tuple headed by a callable is a hazard (it is executed), so the
    hypothesis of `static_inputs_literal_partial` excludes it. -/
theorem static_call_is_hazard (g : Nat) (args : List String) :
    (SArg.atom (.call g args)).hazard = true ∧ (SArg.list [.s "x", .call g args]).hazard = true :=
  ⟨rfl, rfl⟩

/-- `G.copy()` (done by `Workflow(builder)` and `WorkflowBuilder(workflow)`) keeps the node order
    and the edge set, and leaves every predecessor list in node order. -/
theorem copy_exact (g : DiGraph) (h : WF g) :
    WF g.copy ∧ g.copy.nodes = g.nodes ∧ (∀ e, e ∈ g.copy.edges ↔ e ∈ g.edges) ∧
    ∀ v, (g.copy.predOf v).Sublist g.copy.nodes :=
  ⟨copy_wf h, rfl, fun _ => mem_edgeList_of_wf h, fun v => copy_pred_sublist h.nodupEdges v⟩

/-- The workflow that `execute_workflow` hands to the dispatcher
    (copy, relabel-every-task pass, `insert_context`, copy) lists, in node order, the ORIGINAL
    tasks in their original order with the context-taking tasks stably moved to the end, and has
    every predecessor list in that order.  So a task receives the results of its predecessors in
    the order in which they entered the workflow, EXCEPT that predecessors whose function takes
    `context` come after those that do not. -/
theorem pred_order_after_relabel (st : St) (g : DiGraph) (hwf : WF g)
    (hfresh : ∀ x ∈ g.nodes, x < st.next) :
    WF (executedWorkflow st g).2 ∧
    (executedWorkflow st g).2.nodes.map (executedWorkflow st g).1.tb.get =
      (ctxLast (g.nodes.map st.tb.get)).map withCtx ∧
    ∀ v, ((executedWorkflow st g).2.predOf v).Sublist (executedWorkflow st g).2.nodes := by
  obtain ⟨hwf1, hfresh1, hmap1⟩ := relabelPass_spec st g hwf hfresh
  obtain ⟨h1, h2, h3⟩ := dispatched_spec _ _ hwf1 hfresh1
  exact ⟨h1, h2.trans (by rw [hmap1]), h3⟩

/-- The same for the workflow `call_workflow` submits (copy, `insert_context`, copy). -/
theorem pred_order_call_workflow (st : St) (g : DiGraph) (hwf : WF g)
    (hfresh : ∀ x ∈ g.nodes, x < st.next) :
    WF (calledWorkflow st g).2 ∧
    (calledWorkflow st g).2.nodes.map (calledWorkflow st g).1.tb.get =
      (ctxLast (g.nodes.map st.tb.get)).map withCtx ∧
    ∀ v, ((calledWorkflow st g).2.predOf v).Sublist (calledWorkflow st g).2.nodes :=
  dispatched_spec st g.copy (copy_wf hwf) hfresh

/-- When no context-taking task entered the workflow before a
    task that does not take it, the executed workflow lists the tasks exactly in entering order. -/
theorem pred_order_entered_partial (st : St) (g : DiGraph) (hwf : WF g)
    (hfresh : ∀ x ∈ g.nodes, x < st.next)
    (hsorted : ctxLast (g.nodes.map st.tb.get) = g.nodes.map st.tb.get) :
    (executedWorkflow st g).2.nodes.map (executedWorkflow st g).1.tb.get =
      (g.nodes.map st.tb.get).map withCtx := by
  rw [(pred_order_after_relabel st g hwf hfresh).2.1, hsorted]

/-- The full statement ("in the order in which the predecessor tasks entered the workflow") is
    FALSE of the unchanged code.  Witness: tasks enter in the order 1 (takes `context`), 0, 2 and
    task 2 depends on both: it receives task 0's result before task 1's. -/
def ctxWitnessTable : Table := [(0, ⟨0, false, []⟩), (1, ⟨1, true, []⟩), (2, ⟨2, false, []⟩)]
def ctxWitnessGraph : DiGraph := ⟨[1, 0, 2], [(1, 2), (0, 2)]⟩

theorem pred_order_context_witness :
    let r := executedWorkflow ⟨ctxWitnessTable, 1000⟩ ctxWitnessGraph
    ctxWitnessGraph.predOf 2 = [1, 0] ∧
    r.2.nodes.map (fun t => (r.1.tb.get t).name) = [0, 2, 1] ∧
    (r.2.nodes.flatMap (fun t => if (r.1.tb.get t).name = 2 then (r.2.predOf t).map (fun p => (r.1.tb.get p).name) else []))
      = [0, 1] := by
  decide +kernel

/-- `add_task` (clause `builder_ops_exact` of DESIGN §6 C17): afterwards the tasks are the
    old ones, the added one and the named predecessors; the edges are the old ones and one
    edge from every named predecessor; old tasks keep their positions. -/
theorem add_task_exact (g : DiGraph) (t : Nat) (ps : List Nat) (h : WF g) :
    WF (addTask g t (some ps)) ∧
    (∀ x, x ∈ (addTask g t (some ps)).nodes ↔ x ∈ g.nodes ∨ x = t ∨ x ∈ ps) ∧
    (∀ e, e ∈ (addTask g t (some ps)).edges ↔ e ∈ g.edges ∨ ∃ p ∈ ps, e = (p, t)) := by
  rw [addTask_fold]
  refine ⟨addEdgesFrom_wf _ _ (addNode_wf h), fun x => ?_, fun e => ?_⟩
  · rw [addEdgesFrom_nodes_mem, addNode_nodes_mem, or_assoc]
    refine or_congr_right ⟨?_, ?_⟩
    · rintro (h1 | ⟨e, he, h1⟩)
      · exact Or.inl h1
      · obtain ⟨p, hp, rfl⟩ := List.mem_map.mp he
        exact h1.elim (fun h => Or.inr (h ▸ hp)) Or.inl
    · rintro (h1 | h1)
      · exact Or.inl h1
      · exact Or.inr ⟨(x, t), List.mem_map.mpr ⟨x, h1, rfl⟩, Or.inl rfl⟩
  · rw [addEdgesFrom_edges_mem, addNode_edges, List.mem_map]
    exact or_congr_right (exists_congr fun p => and_congr_right fun _ => eq_comm)

theorem add_task_no_preds (g : DiGraph) (t : Nat) (h : WF g) :
    WF (addTask g t none) ∧ (∀ x, x ∈ (addTask g t none).nodes ↔ x ∈ g.nodes ∨ x = t) ∧
    (addTask g t none).edges = g.edges :=
  ⟨addNode_wf h, fun _ => addNode_nodes_mem, addNode_edges⟩

/-- `replace_task` with a new task object (clause `builder_ops_exact` of DESIGN §6 C17): the new
    task is LAST in node order, all other tasks keep their order, and the edges are the old edges
    with the task renamed. -/
theorem replace_task_exact (g : DiGraph) (old new : Nat) (h : WF g) (ho : old ∈ g.nodes) (hn : new ∉ g.nodes) :
    WF (replaceTask g old new) ∧
    (replaceTask g old new).nodes = g.nodes.filter (fun x => x != old) ++ [new] ∧
    (∀ e, e ∈ (replaceTask g old new).edges ↔ ∃ e0 ∈ g.edges, e = (ren old new e0.1, ren old new e0.2)) :=
  ⟨relabel1_wf h, relabel1_nodes_fresh h ho hn, fun _ => relabel1_edges_mem ho fun heq => hn (by rw [heq]; exact ho)⟩

theorem replace_task_noop (g : DiGraph) (old new : Nat) (h : old ∉ g.nodes ∨ new = old) :
    replaceTask g old new = g :=
  h.elim (relabel1_of_not_mem new) fun h => h ▸ relabel1_self g old

/-- The connection rule of `insert_workflow`: N:N pairs up in order, 1 input
    takes every output, 1 output feeds every input, anything else is refused. -/
theorem connect_rule (outs ins : List Nat) :
    (ins.length = outs.length → connectEdges outs ins = .ok ((ins.zip outs).map (fun p => (p.2, p.1)))) ∧
    (∀ i, ins = [i] → outs.length ≠ 1 → connectEdges outs ins = .ok (outs.map (fun o => (o, i)))) ∧
    (∀ o, outs = [o] → ins.length ≠ 1 → connectEdges outs ins = .ok (ins.map (fun i => (o, i)))) ∧
    (ins.length ≠ outs.length → ins.length ≠ 1 → outs.length ≠ 1 → connectEdges outs ins = .error .valueError) := by
  refine ⟨fun h => ?_, ?_, ?_, fun h1 h2 h3 => connectEdges_eq_error_iff.mpr ⟨rfl, h1, h2, h3⟩⟩
  · unfold connectEdges
    rw [if_pos (beq_iff_eq.mpr h)]
  · rintro i rfl h
    unfold connectEdges
    rw [if_neg (show ¬([i].length == outs.length) = true from mt beq_iff_eq.mp (Ne.symm h))]
  · rintro o rfl h
    unfold connectEdges
    rw [if_neg (show ¬(ins.length == [o].length) = true from mt beq_iff_eq.mp h)]
    split
    · exact absurd rfl h
    · next heq => cases heq; rfl
    · next hno => exact absurd rfl (hno o)

/-- `insert_workflow` (clause `builder_ops_exact` of DESIGN §6 C17): when the connection is
    accepted, the tasks are those of both workflows (plus named predecessors), the edges
    those of both workflows plus exactly the connecting edges of the rule. -/
theorem insert_workflow_exact (g other : DiGraph) (preds : Option (List Nat)) (es : List (Nat × Nat))
    (hg : WF g) (ho : WF other)
    (hc : connectEdges (insertOuts g preds) other.inputNodes = .ok es) :
    (insertWorkflow g other preds).2 = none ∧
    WF (insertWorkflow g other preds).1 ∧
    (∀ x, x ∈ (insertWorkflow g other preds).1.nodes ↔
      x ∈ g.nodes ∨ x ∈ other.nodes ∨ ∃ e ∈ es, x = e.1 ∨ x = e.2) ∧
    (∀ e, e ∈ (insertWorkflow g other preds).1.edges ↔ e ∈ g.edges ∨ e ∈ other.edges ∨ e ∈ es) := by
  unfold insertWorkflow
  rw [hc]
  refine ⟨rfl, addEdgesFrom_wf _ _ compose_wf, fun x => ?_, fun e => ?_⟩
  · rw [addEdgesFrom_nodes_mem, compose_nodes_mem hg ho, or_assoc]
  · rw [addEdgesFrom_edges_mem, compose_edges_mem hg ho, or_assoc]

/-- A refused insertion (`ValueError`) leaves
    the builder exactly as it was (repaired by f697869; before, the builder had
    already been replaced by the composition). -/
theorem insert_workflow_refusal_atomic (g other : DiGraph) (preds : Option (List Nat)) (e : Err)
    (hc : connectEdges (insertOuts g preds) other.inputNodes = .error e) :
    insertWorkflow g other preds = (g, some e) := by
  unfold insertWorkflow
  rw [hc]

/-- The complete contract.  Either the connection is N:M with N ≠ M,
    N ≠ 1, M ≠ 1 — then `ValueError` and the builder is unchanged — or the insertion is accepted
    with the result described by `insert_workflow_exact`. -/
theorem insert_workflow_full (g other : DiGraph) (preds : Option (List Nat)) (hg : WF g) (ho : WF other) :
    (other.inputNodes.length ≠ (insertOuts g preds).length ∧ other.inputNodes.length ≠ 1 ∧
        (insertOuts g preds).length ≠ 1 ∧ insertWorkflow g other preds = (g, some .valueError)) ∨
    (∃ es, connectEdges (insertOuts g preds) other.inputNodes = .ok es ∧
      (insertWorkflow g other preds).2 = none ∧ WF (insertWorkflow g other preds).1 ∧
      (∀ x, x ∈ (insertWorkflow g other preds).1.nodes ↔
        x ∈ g.nodes ∨ x ∈ other.nodes ∨ ∃ e ∈ es, x = e.1 ∨ x = e.2) ∧
      (∀ e, e ∈ (insertWorkflow g other preds).1.edges ↔ e ∈ g.edges ∨ e ∈ other.edges ∨ e ∈ es)) := by
  cases hc : connectEdges (insertOuts g preds) other.inputNodes with
  | ok es => exact Or.inr ⟨es, rfl, insert_workflow_exact g other preds es hg ho hc⟩
  | error e =>
    obtain ⟨rfl, h1, h2, h3⟩ := connectEdges_eq_error_iff.mp hc
    exact Or.inl ⟨h1, h2, h3, insert_workflow_refusal_atomic g other preds _ hc⟩

/-- Non-vacuity of the refusal branch: a 2:3 connection is refused and nothing changes. -/
theorem insert_refusal_atomic_witness :
    let g : DiGraph := ⟨[0, 1], []⟩
    let other : DiGraph := ⟨[2, 3, 4], []⟩
    insertWorkflow g other none = (g, some .valueError) := by
  decide +kernel

/-- `insert_context` (clause `builder_ops_exact` of DESIGN §6 C17): listed in node order the
    tasks are those that do not take the context (unchanged, original order) followed by the
    context-taking ones (original order) with the context prepended to their static inputs; the
    edges are the old edges under the renaming of the replaced tasks, which fixes every task that
    does not take the context. -/
theorem insert_context_exact (st : St) (g : DiGraph) (hwf : WF g) (hfresh : ∀ x ∈ g.nodes, x < st.next) :
    WF (insertContext st g).2 ∧
    (insertContext st g).2.nodes.map (insertContext st g).1.tb.get = (ctxLast (g.nodes.map st.tb.get)).map withCtx ∧
    (∀ e, e ∈ (insertContext st g).2.edges ↔ ∃ e0 ∈ g.edges,
      e = (renSeq (ctxPairs st g) e0.1, renSeq (ctxPairs st g) e0.2)) ∧
    ∀ x, (st.tb.get x).takesCtx = false → renSeq (ctxPairs st g) x = x := by
  obtain ⟨h1, h2, h3⟩ := insertContext_spec st g hwf hfresh
  refine ⟨h1, h2, h3, fun x hx => renSeq_other _ x fun p hp heq => ?_⟩
  have := (List.mem_filter.mp (List.of_mem_zip hp).1).2
  rw [← heq, hx] at this
  cases this

/-- `output_tasks` is, in node order, exactly the
    tasks of the CURRENT graph without outgoing edge; `input_tasks` those without
    incoming edge — whatever operations produced the graph. -/
theorem output_tasks_are_sinks (g : DiGraph) :
    (∀ x, x ∈ g.outputNodes ↔ x ∈ g.nodes ∧ ∀ y, (x, y) ∉ g.edges) ∧ g.outputNodes.Sublist g.nodes ∧
    (∀ x, x ∈ g.inputNodes ↔ x ∈ g.nodes ∧ ∀ y, (y, x) ∉ g.edges) ∧ g.inputNodes.Sublist g.nodes :=
  ⟨fun _ => mem_outputNodes, List.filter_sublist, fun _ => mem_inputNodes, List.filter_sublist⟩

/-- After `replace_task(old, new)` (new task object)
    the replaced task is no output task any more; the new task is one iff the
    old one was; every other task keeps its status. -/
theorem replace_task_outputs (g : DiGraph) (old new : Nat) (h : WF g) (ho : old ∈ g.nodes) (hn : new ∉ g.nodes) :
    ∀ x, x ∈ (replaceTask g old new).outputNodes ↔
      (x ∈ g.outputNodes ∧ x ≠ old) ∨ (x = new ∧ old ∈ g.outputNodes) := by
  obtain ⟨_, hnodes, hedges⟩ := replace_task_exact g old new h ho hn
  -- the renaming is injective on the tasks of `g`, so a task has an outgoing edge iff its image has one
  have hout : ∀ a ∈ g.nodes, (∀ y, (ren old new a, y) ∉ (replaceTask g old new).edges) ↔ ∀ y, (a, y) ∉ g.edges := by
    refine fun a ha => ⟨fun hs y hy => hs _ ((hedges _).mpr ⟨(a, y), hy, rfl⟩), fun hs y hy => ?_⟩
    obtain ⟨⟨c, d⟩, he0, heq⟩ := (hedges _).mp hy
    have hca : c = a :=
      ren_inj (Prod.mk.inj heq).1.symm (fun hc => hn (hc ▸ (h.closed _ he0).1)) (fun hc => hn (hc ▸ ha))
    exact hs d (hca ▸ he0)
  intro x
  rw [mem_outputNodes, mem_outputNodes, mem_outputNodes, hnodes, List.mem_append, List.mem_filter,
    List.mem_singleton, bne_iff_ne]
  constructor
  · rintro ⟨⟨hxg, hxo⟩ | rfl, hs⟩
    · rw [← ren_of_ne new hxo] at hs
      exact Or.inl ⟨⟨hxg, (hout x hxg).mp hs⟩, hxo⟩
    · exact Or.inr ⟨rfl, ho, (hout old ho).mp (by rwa [ren_self])⟩
  · rintro (⟨⟨hxg, hs⟩, hxo⟩ | ⟨rfl, _, hs⟩)
    · refine ⟨Or.inl ⟨hxg, hxo⟩, ?_⟩
      rw [← ren_of_ne new hxo]
      exact (hout x hxg).mpr hs
    · have := (hout old ho).mpr hs
      rw [ren_self] at this
      exact ⟨Or.inr rfl, this⟩

/-- With `predecessors=None` an accepted insertion has EXACTLY
    the tasks of the two workflows, and every connecting edge goes from a current output task of
    the builder to an input task of the inserted workflow. -/
theorem insert_workflow_default_exact (g other : DiGraph) (es : List (Nat × Nat)) (hg : WF g) (ho : WF other)
    (hc : connectEdges (insertOuts g none) other.inputNodes = .ok es) :
    (∀ x, x ∈ (insertWorkflow g other none).1.nodes ↔ x ∈ g.nodes ∨ x ∈ other.nodes) ∧
    (∀ e, e ∈ (insertWorkflow g other none).1.edges ↔ e ∈ g.edges ∨ e ∈ other.edges ∨ e ∈ es) ∧
    (∀ e ∈ es, e.1 ∈ g.outputNodes ∧ e.2 ∈ other.inputNodes) := by
  obtain ⟨_, _, hn, he⟩ := insert_workflow_exact g other none es hg ho hc
  have hep := connectEdges_endpoints hc
  refine ⟨fun x => ?_, he, hep⟩
  rw [hn, ← or_assoc]
  exact or_iff_left_of_imp fun ⟨e, hee, h1⟩ => h1.elim
    (fun h => Or.inl (h ▸ (mem_outputNodes.mp (hep e hee).1).1))
    (fun h => Or.inr (h ▸ (mem_inputNodes.mp (hep e hee).2).1))

/-- `add_task(t, predecessors=wb.output_tasks)`
    adds only `t`, and exactly one edge from every current output task. -/
theorem add_task_to_outputs_exact (g : DiGraph) (t : Nat) (h : WF g) :
    WF (addTaskToOutputs g t) ∧
    (∀ x, x ∈ (addTaskToOutputs g t).nodes ↔ x ∈ g.nodes ∨ x = t) ∧
    (∀ e, e ∈ (addTaskToOutputs g t).edges ↔ e ∈ g.edges ∨ ∃ p ∈ g.outputNodes, e = (p, t)) := by
  obtain ⟨hw, hn, he⟩ := add_task_exact g t g.outputNodes h
  refine ⟨hw, fun x => ?_, he⟩
  rw [addTaskToOutputs, hn, ← or_assoc]
  exact or_iff_left_of_imp fun h => Or.inl (mem_outputNodes.mp h).1

/-- A task that was replaced never comes back — neither through
    `insert_workflow(other)` with `predecessors=None` (`other` not containing it) nor through
    `add_task(t, predecessors=wb.output_tasks)`. -/
theorem compose_after_replace_exact (g other : DiGraph) (old new t : Nat) (hg : WF g) (hoth : WF other)
    (ho : old ∈ g.nodes) (hn : new ∉ g.nodes) (hoo : old ∉ other.nodes) (ht : t ≠ old) :
    old ∉ (insertWorkflow (replaceTask g old new) other none).1.nodes ∧
    old ∉ (addTaskToOutputs (replaceTask g old new) t).nodes := by
  obtain ⟨hw, hnodes, _⟩ := replace_task_exact g old new hg ho hn
  have hold : old ∉ (replaceTask g old new).nodes := by
    rw [hnodes, List.mem_append, List.mem_filter, List.mem_singleton]
    exact fun h => h.elim (fun h => bne_iff_ne.mp h.2 rfl) (fun h => hn (h ▸ ho))
  constructor
  · cases hc : connectEdges (insertOuts (replaceTask g old new) none) other.inputNodes with
    | error e => rw [insert_workflow_refusal_atomic _ _ _ e hc]; exact hold
    | ok es =>
      rw [(insert_workflow_default_exact _ other es hw hoth hc).1]
      exact fun h => h.elim hold hoo
  · rw [(add_task_to_outputs_exact _ t hw).2.1]
    exact fun h => h.elim hold fun h' => ht h'.symm

/-- Re-checked against `workflows/task.py` / `internals/immutable.py` on every run through
    `Generated/C17Task.lean`: neither `Task` nor
    `Immutable` defines a comparison or hash method, `Task` has no class decorator, no metaclass and
    no other base — so the graph keys nodes by object identity, as the model's node ids do. -/
theorem task_identity_is_object_identity : Generated.identityBreakers = [] := by decide +kernel

/-- Adding a task that is not yet in the workflow makes it one task
    larger (the graph operations never look at the task table, so two distinct tasks that are
    equal by value stay two tasks). -/
theorem add_task_keeps_all_tasks (g : DiGraph) (t : Nat) (ht : t ∉ g.nodes) :
    (addTask g t none).nodes = g.nodes ++ [t] ∧ (addTask g t none).nodes.length = g.nodes.length + 1 := by
  have : (addTask g t none).nodes = g.nodes ++ [t] := addNode_of_not_mem ht
  exact ⟨this, by rw [this, List.length_append]; rfl⟩

/-- `+` / `nx.compose` of workflows with disjoint task
    identities has exactly |tasks(G)| + |tasks(H)| tasks, G's then H's. -/
theorem compose_keeps_all_tasks (g h : DiGraph) (hg : WF g) (hh : WF h) (hdis : ∀ x ∈ g.nodes, x ∉ h.nodes) :
    (plus g h).nodes = g.nodes ++ h.nodes ∧ (plus g h).nodes.length = g.nodes.length + h.nodes.length := by
  have : (plus g h).nodes = g.nodes ++ h.nodes := compose_nodes_disjoint hg hh hdis
  exact ⟨this, by rw [this, List.length_append]⟩

/-- An accepted `insert_workflow(other)` (predecessors=None)
    of a workflow with other task identities — e.g. the same sub-workflow template instantiated
    a second time — has the tasks of both, in order; a refused one keeps the builder's tasks. -/
theorem insert_workflow_keeps_all_tasks (g other : DiGraph) (hg : WF g) (ho : WF other)
    (hdis : ∀ x ∈ g.nodes, x ∉ other.nodes) :
    ((insertWorkflow g other none).2 = none ∧ (insertWorkflow g other none).1.nodes = g.nodes ++ other.nodes) ∨
    ((insertWorkflow g other none).2 ≠ none ∧ (insertWorkflow g other none).1.nodes = g.nodes) := by
  cases hc : connectEdges (insertOuts g none) other.inputNodes with
  | error e =>
    rw [insert_workflow_refusal_atomic _ _ _ e hc]
    exact Or.inr ⟨nofun, rfl⟩
  | ok es =>
    have hn := compose_nodes_disjoint hg ho hdis
    have hep := connectEdges_endpoints hc
    unfold insertWorkflow
    rw [hc]
    refine Or.inl ⟨rfl, ?_⟩
    show ((g.compose other).addEdgesFrom es).nodes = _
    rw [addEdgesFrom_nodes_of_closed, hn]
    intro e he
    rw [hn]
    exact ⟨List.mem_append_left _ (mem_outputNodes.mp (hep e he).1).1,
           List.mem_append_right _ (mem_inputNodes.mp (hep e he).2).1⟩

/-- For EVERY task table (also one in which
    several node ids carry the same name, function and static inputs) the dask
    dict has one entry per task and pairwise distinct keys. -/
theorem dask_dict_one_entry_per_task (tb : Table) (g : DiGraph) (d : List Entry) (hnd : g.nodes.Nodup)
    (h : asDaskDict tb g = .ok d) : d.length = g.nodes.length ∧ (d.map (·.key)).Nodup := by
  obtain ⟨sink, _, hk, hnd', _, _⟩ := dask_dict_faithful tb g d hnd h
  have := congrArg List.length hk
  rw [List.length_map, List.length_map] at this
  exact ⟨this, hnd'⟩

/-- When any number of graphs are live on one scheduler — the parent
    submitted by `run`, children submitted by `call_workflow` under pairwise distinct
    `unique_name`s — all keys the scheduler sees are pairwise distinct, PROVIDED every
    `as_dask_dict` call draws fresh keys (distinct `inst`: the uuid4 freshness assumption). -/
theorem scheduler_keys_distinct (subs : List Submission)
    (hfresh : (subs.map (·.inst)).Nodup)
    (hnames : (subs.map (·.rename)).Nodup)
    (hdict : ∀ s ∈ subs, (s.dict.map (·.key)).Nodup) :
    (schedulerKeys subs).Nodup := by
  rw [schedulerKeys, List.Nodup, List.pairwise_flatMap]
  refine ⟨fun s hs => ?_, ?_⟩
  · exact List.pairwise_map.mpr
      ((List.pairwise_map.mp (hdict s hs)).imp fun hne heq => hne (Submission.key_eq heq).1)
  · rw [List.Nodup, List.pairwise_map] at hfresh hnames
    refine (hfresh.and hnames).imp ?_
    rintro a b ⟨hi, hr⟩ x hx y hy rfl
    obtain ⟨ea, _, hxa⟩ := List.mem_map.mp hx
    obtain ⟨eb, _, hyb⟩ := List.mem_map.mp hy
    exact (Submission.key_eq (hxa.trans hyb.symm)).2.elim hi hr

/-- The freshness assumption is needed: two live graphs whose keys are NOT drawn
    freshly (same `inst`, e.g. keys made of task name and position) share keys as
    soon as they have a task with the same number. -/
theorem scheduler_keys_need_freshness :
    let d : List Entry := [⟨.task 0, ⟨0, false, []⟩, []⟩, ⟨.results, ⟨1, false, []⟩, [.task 0]⟩]
    (schedulerKeys [⟨7, none, d⟩, ⟨7, some 1, d⟩]).Nodup = False ∧
    (schedulerKeys [⟨7, none, d⟩, ⟨8, some 1, d⟩]).Nodup := by
  refine ⟨?_, by decide +kernel⟩
  simp only [eq_iff_iff, iff_false]
  decide +kernel

/-- When the scheduler's (union) graph `tgU` agrees with a
    sub-workflow's own graph `tg` on that sub-workflow's keys `K` (which is what distinct keys
    give) and `K` is closed under dependencies, every key in `K` has the value its own graph
    specifies — so `call_workflow` returns the child's own result. -/
theorem shared_scheduler_sound {κ V : Type} (tgU tg : TaskGraph κ V) (K : κ → Prop)
    (hclosed : ∀ k, K k → ∀ d ∈ tg.deps k, K d)
    (hagree : ∀ k, K k → tgU.deps k = tg.deps k ∧ tgU.fn k = tg.fn k) :
    ∀ n k, K k → den tgU n k = den tg n k := by
  intro n
  induction n with
  | zero => exact fun _ _ => rfl
  | succ n ih =>
    intro k hk
    simp only [den]
    rw [(hagree k hk).1, (hagree k hk).2, lookupAll_congr fun d hd => ih d (hclosed k hk d hd)]

/-- `+` (clause `builder_ops_exact` of DESIGN §6 C17): the union of tasks and of edges. -/
theorem plus_exact (g h : DiGraph) (hg : WF g) (hh : WF h) :
    WF (plus g h) ∧ (∀ x, x ∈ (plus g h).nodes ↔ x ∈ g.nodes ∨ x ∈ h.nodes) ∧
    (∀ e, e ∈ (plus g h).edges ↔ e ∈ g.edges ∨ e ∈ h.edges) :=
  ⟨compose_wf, fun _ => compose_nodes_mem hg hh, fun _ => compose_edges_mem hg hh⟩

/-- In an acyclic workflow (a rank function increasing along every
    edge exists) with exactly one output task, EVERY task has a path to the output task.  dask
    computes exactly the keys `'results'` depends on, so with `fires_exactly_once` every task
    is run exactly once. -/
theorem single_sink_all_upstream (g : DiGraph) (hwf : WF g) (sink : Nat) (hs : g.outputNodes = [sink])
    (rank : Nat → Nat) (hrank : ∀ e ∈ g.edges, rank e.1 < rank e.2) :
    ∀ x ∈ g.nodes, Reach g x sink := by
  obtain ⟨N, hN⟩ := exists_bound g.nodes rank
  intro x hx
  -- a task without successor is the output task; otherwise step to a successor, whose rank is nearer to the bound
  induction hm : N - rank x using Nat.strongRecOn generalizing x with
  | ind m ih =>
    cases hsx : g.succOf x with
    | nil =>
      have : x ∈ g.outputNodes := List.mem_filter.mpr ⟨hx, by rw [hsx]; rfl⟩
      rw [hs, List.mem_singleton] at this
      exact this ▸ Reach.refl _
    | cons y ys =>
      have hy : (x, y) ∈ g.edges := mem_succOf.mp (hsx ▸ List.mem_cons_self ..)
      have hyn := (hwf.closed _ hy).2
      have h1 : rank x < rank y := hrank _ hy
      exact Reach.step hy (ih _ (hm ▸ Nat.sub_lt_sub_left (Nat.lt_of_lt_of_le h1 (hN y hyn)) h1) y hyn rfl)

/-! ## Non-vacuity -/

/-- A diamond 0 → {1, 2} → 3: two different admissible schedules, same values. -/
def diamond : TaskGraph Nat Nat where
  deps k := if k = 3 then [1, 2] else if k = 1 ∨ k = 2 then [0] else []
  fn k vs := vs.foldl (· + ·) (k + 1)

example : (runSeq diamond Env.empty [0, 1, 2, 3]).isSome = true ∧ (runSeq diamond Env.empty [0, 2, 1, 3]).isSome = true ∧
    (runSeq diamond Env.empty [0, 3]).isSome = false ∧ (runSeq diamond Env.empty [0, 1, 1]).isSome = false := by
  decide +kernel

example : ((runSeq diamond Env.empty [0, 1, 2, 3]).bind (· 3)) = some 11 ∧
    ((runSeq diamond Env.empty [0, 2, 1, 3]).bind (· 3)) = some 11 ∧ den diamond 3 3 = some 11 := by
  decide +kernel

/-- `static_inputs_literal_partial` applies to a dict with harmless static inputs. -/
example : ∀ e ∈ ([⟨.task 0, ⟨0, true, [.atom .ctx, .atom (.s "s0"), .list [.s "p", .s "q"]]⟩, []⟩,
    ⟨.results, ⟨1, false, [.atom (.s "k")]⟩, [.task 0]⟩] : List Entry), ∀ a ∈ e.task.static, a.hazard = false := by
  decide +kernel

/-- A well-formed workflow whose context-taking task entered last, with one output task. -/
def okTable : Table := [(0, ⟨0, false, []⟩), (1, ⟨1, false, []⟩), (2, ⟨2, true, []⟩)]
def okGraph : DiGraph := ⟨[1, 0, 2], [(0, 2), (1, 2)]⟩

example : WF okGraph ∧ (∀ x ∈ okGraph.nodes, x < 1000) ∧
    ctxLast (okGraph.nodes.map okTable.get) = okGraph.nodes.map okTable.get ∧
    okGraph.outputNodes = [2] ∧ (∀ e ∈ okGraph.edges, id e.1 < id e.2) := by
  decide +kernel

example : WF ctxWitnessGraph ∧ ∀ x ∈ ctxWitnessGraph.nodes, x < 1000 := by decide +kernel

end Pharmpy.C17
