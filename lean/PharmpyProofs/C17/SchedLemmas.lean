import PharmpyModel.C17.Sched
/-
  The abstract scheduler: states only grow (`Env.le`); one firing and one step of a firing sequence as
  equivalences; the inductions over firing sequences.
-/
namespace Pharmpy.C17

section
variable {κ V : Type}

theorem TaskGraph.ext {a b : TaskGraph κ V} (hd : a.deps = b.deps) (hf : a.fn = b.fn) : a = b := by
  cases a; cases b; cases hd; cases hf; rfl

/-- `e'` has every value `e` has. -/
def Env.le (e e' : Env κ V) : Prop := ∀ k v, e k = some v → e' k = some v

variable {tg : TaskGraph κ V} {e e' : Env κ V} {k : κ} {ks : List κ} {vs : List V}

theorem lookupAll_cons_eq_some :
    lookupAll e (k :: ks) = some vs ↔ ∃ v ws, e k = some v ∧ lookupAll e ks = some ws ∧ vs = v :: ws := by
  constructor
  · intro h
    rw [lookupAll] at h
    split at h
    · next v ws hv hws => exact ⟨v, ws, hv, hws, (Option.some.inj h).symm⟩
    · cases h
  · rintro ⟨v, ws, hv, hws, rfl⟩
    rw [lookupAll, hv, hws]

theorem lookupAll_mono (hm : e.le e') (h : lookupAll e ks = some vs) : lookupAll e' ks = some vs := by
  induction ks generalizing vs with
  | nil => exact h
  | cons k ks ih =>
    obtain ⟨v, ws, hv, hws, rfl⟩ := lookupAll_cons_eq_some.mp h
    exact lookupAll_cons_eq_some.mpr ⟨v, ws, hm k v hv, ih hws, rfl⟩

theorem lookupAll_isSome_iff :
    (∃ vs, lookupAll e ks = some vs) ↔ ∀ k ∈ ks, ∃ v, e k = some v := by
  induction ks with
  | nil => exact ⟨fun _ _ h => (nomatch h), fun _ => ⟨[], rfl⟩⟩
  | cons k ks ih =>
    simp only [lookupAll_cons_eq_some, List.forall_mem_cons, ← ih]
    constructor
    · rintro ⟨_, v, ws, hv, hws, _⟩
      exact ⟨⟨v, hv⟩, ws, hws⟩
    · rintro ⟨⟨v, hv⟩, ws, hws⟩
      exact ⟨_, v, ws, hv, hws, rfl⟩

theorem lookupAll_congr (h : ∀ k ∈ ks, e k = e' k) :
    lookupAll e ks = lookupAll e' ks := by
  induction ks with
  | nil => rfl
  | cons k ks ih =>
    rw [lookupAll, lookupAll, h k (List.mem_cons_self ..), ih fun x hx => h x (List.mem_cons_of_mem _ hx)]

theorem den_succ_eq_some {n : Nat} {v : V} :
    den tg (n + 1) k = some v ↔ ∃ vs, lookupAll (den tg n) (tg.deps k) = some vs ∧ v = tg.fn k vs := by
  constructor
  · intro h
    rw [den] at h
    split at h
    · next vs hl => exact ⟨vs, hl, (Option.some.inj h).symm⟩
    · cases h
  · rintro ⟨vs, hl, rfl⟩
    rw [den, hl]

theorem den_le_succ (tg : TaskGraph κ V) (n : Nat) : Env.le (den tg n) (den tg (n + 1)) := by
  induction n with
  | zero => intro k v h; cases h
  | succ n ih =>
    intro k v h
    obtain ⟨vs, hl, rfl⟩ := den_succ_eq_some.mp h
    exact den_succ_eq_some.mpr ⟨vs, lookupAll_mono ih hl, rfl⟩

theorem den_mono (tg : TaskGraph κ V) {n m : Nat} (hnm : n ≤ m) : Env.le (den tg n) (den tg m) := by
  induction hnm with
  | refl => exact fun _ _ h => h
  | step _ ih => exact fun k v h => den_le_succ tg _ k v (ih k v h)

end

section
variable {κ V : Type} [DecidableEq κ]
variable {tg : TaskGraph κ V} {e e' : Env κ V} {k : κ} {s : List κ}

theorem Env.set_self (e : Env κ V) (k : κ) (v : V) : e.set k v k = some v := if_pos rfl

theorem Env.set_ne (e : Env κ V) {k x : κ} (v : V) (h : x ≠ k) : e.set k v x = e x := if_neg h

theorem Env.set_isSome (e : Env κ V) (k x : κ) (v : V) :
    (e.set k v x).isSome ↔ (e x).isSome ∨ x = k := by
  by_cases h : x = k
  · rw [h, Env.set_self]
    exact ⟨fun _ => Or.inr rfl, fun _ => rfl⟩
  · rw [Env.set_ne e v h]
    exact (or_iff_left h).symm

theorem Env.le_set (hk : e k = none) (v : V) : e.le (e.set k v) := by
  intro x w hx
  have : x ≠ k := by rintro rfl; rw [hk] at hx; cases hx
  rwa [Env.set_ne e v this]

theorem fire_eq_some :
    fire tg e k = some e' ↔
      e k = none ∧ ∃ vs, lookupAll e (tg.deps k) = some vs ∧ e' = e.set k (tg.fn k vs) := by
  constructor
  · intro h
    unfold fire at h
    split at h
    · cases h
    · next hk =>
      split at h
      · next vs hl => exact ⟨hk, vs, hl, (Option.some.inj h).symm⟩
      · cases h
  · rintro ⟨hk, vs, hl, rfl⟩
    rw [fire, hk, hl]

theorem runSeq_cons_eq_some {ks : List κ} :
    runSeq tg e (k :: ks) = some e' ↔ ∃ e1, fire tg e k = some e1 ∧ runSeq tg e1 ks = some e' := by
  constructor
  · intro h
    rw [runSeq] at h
    split at h
    · next e1 hf => exact ⟨e1, hf, h⟩
    · cases h
  · rintro ⟨e1, hf, h⟩
    rw [runSeq, hf]
    exact h

theorem runSeq_le (h : runSeq tg e s = some e') :
    e.le e' := by
  induction s generalizing e with
  | nil => cases h; exact fun _ _ h => h
  | cons k ks ih =>
    obtain ⟨e1, hf, h⟩ := runSeq_cons_eq_some.mp h
    obtain ⟨hk, vs, _, rfl⟩ := fire_eq_some.mp hf
    exact fun x w hx => ih h x w (Env.le_set hk _ x w hx)

theorem fire_sound {n : Nat} (hs : e.le (den tg n)) (h : fire tg e k = some e') : e'.le (den tg (n + 1)) := by
  obtain ⟨_, vs, hl, rfl⟩ := fire_eq_some.mp h
  intro x v hx
  by_cases hxk : x = k
  · subst hxk
    rw [Env.set_self] at hx
    cases hx
    exact den_succ_eq_some.mpr ⟨vs, lookupAll_mono hs hl, rfl⟩
  · rw [Env.set_ne e _ hxk] at hx
    exact den_le_succ tg n x v (hs x v hx)

theorem runSeq_sound {n : Nat} (hs : e.le (den tg n)) (h : runSeq tg e s = some e') : e'.le (den tg (s.length + n)) := by
  induction s generalizing e n with
  | nil => cases h; rw [List.length_nil, Nat.zero_add]; exact hs
  | cons k ks ih =>
    obtain ⟨e1, hf, h⟩ := runSeq_cons_eq_some.mp h
    rw [List.length_cons, Nat.add_right_comm]
    exact ih (fire_sound hs hf) h

theorem runSeq_fired (h : runSeq tg e s = some e') :
    s.Nodup ∧ (∀ k ∈ s, e k = none) ∧ ∀ k, (e' k).isSome ↔ ((e k).isSome ∨ k ∈ s) := by
  induction s generalizing e with
  | nil => cases h; simp
  | cons k ks ih =>
    obtain ⟨e1, hf, h⟩ := runSeq_cons_eq_some.mp h
    obtain ⟨hk, vs, _, rfl⟩ := fire_eq_some.mp hf
    obtain ⟨hnd, hnone, hiff⟩ := ih h
    refine ⟨List.nodup_cons.mpr ⟨fun hm => ?_, hnd⟩, ?_, ?_⟩
    · have := hnone k hm
      rw [Env.set_self] at this
      cases this
    · intro x hx
      rcases List.mem_cons.mp hx with rfl | hx
      · exact hk
      · cases hx' : e x with
        | none => rfl
        | some w =>
          have := hnone x hx
          rw [Env.le_set hk _ x w hx'] at this
          cases this
    · intro x
      rw [hiff, Env.set_isSome, List.mem_cons, or_assoc]

theorem runSeq_split {p q : List κ} (h : runSeq tg e (p ++ k :: q) = some e') :
    ∃ ep vs, runSeq tg e p = some ep ∧ ep k = none ∧ lookupAll ep (tg.deps k) = some vs ∧
      runSeq tg (ep.set k (tg.fn k vs)) q = some e' := by
  induction p generalizing e with
  | nil =>
    obtain ⟨e1, hf, hq⟩ := runSeq_cons_eq_some.mp h
    obtain ⟨hk, vs, hl, rfl⟩ := fire_eq_some.mp hf
    exact ⟨e, vs, rfl, hk, hl, hq⟩
  | cons a p ih =>
    obtain ⟨e1, hf, h⟩ := runSeq_cons_eq_some.mp h
    obtain ⟨ep, vs, hp, r⟩ := ih h
    exact ⟨ep, vs, runSeq_cons_eq_some.mpr ⟨e1, hf, hp⟩, r⟩

theorem runSeq_topo (tg : TaskGraph κ V) (hnd : s.Nodup)
    (hnone : ∀ k ∈ s, e k = none)
    (htopo : ∀ p k q, s = p ++ k :: q → ∀ d ∈ tg.deps k, (∃ v, e d = some v) ∨ d ∈ p) :
    ∃ e', runSeq tg e s = some e' := by
  induction s generalizing e with
  | nil => exact ⟨e, rfl⟩
  | cons k ks ih =>
    have hk : e k = none := hnone k (List.mem_cons_self ..)
    obtain ⟨vs, hvs⟩ := lookupAll_isSome_iff.mpr fun d hd =>
      (htopo [] k ks rfl d hd).resolve_right List.not_mem_nil
    obtain ⟨hkks, hnd⟩ := List.nodup_cons.mp hnd
    obtain ⟨e', he'⟩ := ih (e := e.set k (tg.fn k vs)) hnd
      (fun x hx => by
        rw [Env.set_ne e _ (by rintro rfl; exact hkks hx)]
        exact hnone x (List.mem_cons_of_mem _ hx))
      (fun p x q hs d hd => by
        rcases htopo (k :: p) x q (by rw [hs]; rfl) d hd with ⟨v, hv⟩ | h
        · exact Or.inl ⟨v, Env.le_set hk _ d v hv⟩
        · rcases List.mem_cons.mp h with rfl | h
          · exact Or.inl ⟨_, Env.set_self ..⟩
          · exact Or.inr h)
    exact ⟨e', runSeq_cons_eq_some.mpr ⟨_, fire_eq_some.mpr ⟨hk, vs, hvs, rfl⟩, he'⟩⟩

theorem evalAlong_schedule (tg : TaskGraph κ V) (order : List κ) (e : Env κ V) :
    ∃ s, s.Sublist order ∧ runSeq tg e s = some (evalAlong tg e order) := by
  induction order generalizing e with
  | nil => exact ⟨[], List.Sublist.refl _, rfl⟩
  | cons k ks ih =>
    simp only [evalAlong]
    cases hf : fire tg e k with
    | none =>
      obtain ⟨s, hs, hr⟩ := ih e
      exact ⟨s, hs.cons _, hr⟩
    | some e1 =>
      obtain ⟨s, hs, hr⟩ := ih e1
      exact ⟨k :: s, hs.cons_cons _, runSeq_cons_eq_some.mpr ⟨e1, hf, hr⟩⟩

end
end Pharmpy.C17
