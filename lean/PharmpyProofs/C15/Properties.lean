import PharmpyProofs.C15.ThreadInv
import PharmpyProofs.C15.ProcInv
import PharmpyProofs.C15.PoolInv
/-
  C15 — reader–writer exclusion of path locks in every schedule: thread level, process level,
  the keyed reference pools and the composition `path_exclusion`.
-/
namespace Pharmpy.C15
open TL

/-- States reachable from the initial lock by any schedule of any program
    (repaired code). -/
def Reachable (s : TL) : Prop := ∃ evs, runEvs true {} evs = some s

theorem inExBody_iff {s : TL} {t : Tid} : inExBody s t = true ↔ 0 < exc s.frames t := by
  simp [inExBody, TL.exCount]
theorem inBody_iff {s : TL} {t : Tid} : inBody s t = true ↔ 0 < cnt s.frames t := by
  simp [inBody, TL.count]
theorem inExBody_false_iff {s : TL} {t : Tid} : inExBody s t = false ↔ exc s.frames t = 0 := by
  simp [inExBody, TL.exCount]
theorem inBody_false_iff {s : TL} {t : Tid} : inBody s t = false ↔ cnt s.frames t = 0 := by
  simp [inBody, TL.count]

theorem reachable_inv {s : TL} (h : Reachable s) : Inv s :=
  h.elim fun evs h => runEvs_inv evs inv_init h

/-- **Exclusion.** While a thread is inside an exclusive body no other thread
    is inside any body of the same lock. -/
theorem thread_exclusion {s : TL} (h : Reachable s) (t t' : Tid)
    (hex : inExBody s t = true) (hne : t' ≠ t) : inBody s t' = false :=
  inBody_false_iff.mpr ((reachable_inv h).excl t (inExBody_iff.mp hex) t' hne)

/-- An exclusive holder keeps the condition's RLock for its whole critical
    section, so every other thread's request blocks (or is refused). -/
theorem exclusive_holds_rlock {s : TL} (h : Reachable s) (t : Tid)
    (hex : inExBody s t = true) : s.owner = some t :=
  (reachable_inv h).exOwner t (inExBody_iff.mp hex)

/-- **Shared holders are compatible.** When no thread is in an exclusive body,
    a (reentrant or first) shared request by any non-waiting thread is granted
    at once, however many threads already hold the lock shared. -/
theorem shared_compatible {s : TL} (h : Reachable s) (t : Tid) (b : Bool)
    (hnoex : ∀ x, inExBody s x = false) (hw : isWaiting s t = false) :
    ∃ s', step true s (.shEnter t b true) = some (s', .entered) ∧ inBody s' t = true ∧
      ∀ x, s'.count x ≥ s.count x := by
  have ho := (reachable_inv h).owner_none fun x => inExBody_false_iff.mp (hnoex x)
  refine ⟨{ s with frames := (t, false) :: s.frames }, ?_, ?_, fun x => ?_⟩
  · simp [step, hw, TL.shEnter, rlockAvail, ho]
  · exact inBody_iff.mpr (by rw [cnt_cons, if_pos rfl]; omega)
  · show cnt _ x ≥ cnt _ x
    rw [cnt_cons]; omega

@[simp] theorem acquire_frames (u : TL) (t : Tid) : (u.acquire t).frames = u.frames := rfl
@[simp] theorem notifyAll_frames (u : TL) : u.notifyAll.frames = u.frames := rfl

theorem exProceed_ne_waiting (s : TL) (t : Tid) (r : Bool) : (s.exProceed t r).2 ≠ .waitingNow := by
  unfold TL.exProceed
  split <;> exact Out.noConfusion

/-- **A step of one thread never changes another thread's holdings**
    (a held lock is not released by unrelated activity). -/
theorem no_foreign_release {s s' : TL} {o : Out} (e : Ev) (fixed : Bool)
    (h : step fixed s e = some (s', o)) (x : Tid) (hx : x ≠ e.tid) :
    s'.count x = s.count x :=
  (step_spec h).1.cnt_other hx

theorem waiting_find {s : TL} {w : Tid} (hw : isWaiting s w = true) :
    ∃ d, s.waiting.find? (fun p => p.1 == w) = some (w, d) := by
  cases hf : s.waiting.find? (fun p => p.1 == w) with
  | none =>
    obtain ⟨d, hd⟩ := isWaiting_iff.mp hw
    simpa using List.find?_eq_none.mp hf _ hd
  | some p =>
    have e : p.1 = w := by simpa using List.find?_some hf
    exact ⟨p.2, by rw [← e]⟩

/-- **No lost wake-up.**  In every reachable state, a thread blocked in `wait()`
    whose conflicting holders have all released has been notified, the RLock is
    free, and its wake-up transition is enabled and does not put it back to sleep
    (it enters, or raises the documented recursion error). -/
theorem no_lost_wakeup {s : TL} (h : Reachable s) (w : Tid) (r : Bool)
    (hw : isWaiting s w = true) (hfree : ∀ t', t' ≠ w → s.count t' = 0) :
    w ∈ s.notified ∧ s.owner = none ∧
    ∃ s' o, step true s (.exWake w r) = some (s', o) ∧ o ≠ .waitingNow := by
  have hi := reachable_inv h
  -- an un-notified waiter would have a witness with a frame
  have hn : w ∈ s.notified := Classical.byContradiction fun hn => by
    obtain ⟨t', h1, h2⟩ := hi.wake w hw hn
    have := oldSh_pos h2; have := hfree t' h1; simp only [TL.count] at this; omega
  have ho : s.owner = none := hi.owner_none fun x => by
    by_cases hx : x = w
    · exact hx ▸ hi.waitNoEx w hw
    · have := exc_le_cnt s.frames x; have := hfree x hx; simp only [TL.count] at this; omega
  refine ⟨hn, ho, ?_⟩
  obtain ⟨d, hf⟩ := waiting_find hw
  have hoth : s.frames.any (fun f => f.1 != w) = false := (others_false_iff s.frames w).mpr hfree
  simp only [step, TL.exWake, hf, List.contains_iff_mem.mpr hn, ho, TL.others, hoth, beq_self_eq_true,
    Bool.and_self, if_true, Bool.false_eq_true, if_false]
  exact ⟨_, _, rfl, exProceed_ne_waiting _ w r⟩

/-- The code before the repair **loses a wake-up** (finding F1): T1 and T2 hold
    shared, T1 requests exclusive (blocking, reentrant) and waits for T2; T2
    releases — and T1 is not notified and cannot wake, although nobody else holds. -/
theorem lost_wakeup_witness :
    ∃ s, runEvs false {} [.shEnter 1 true true, .shEnter 2 true true, .exEnter 1 true true, .shExit 2]
          = some s ∧
      isWaiting s 1 = true ∧ (1 ∉ s.notified) ∧ s.count 2 = 0 ∧ s.frames = [(1, false)] ∧
      step false s (.exWake 1 true) = none := by
  refine ⟨_, rfl, ?_⟩
  decide

/-- … and on the same schedule the repaired code notifies T1, which then enters. -/
example :
    ∃ s, runEvs true {} [.shEnter 1 true true, .shEnter 2 true true, .exEnter 1 true true, .shExit 2,
                         .exWake 1 true] = some s ∧ inExBody s 1 = true := by
  refine ⟨_, rfl, ?_⟩
  decide

/-- **A non-blocking request never waits**: it is always enabled and its
    outcome is never `waitingNow`. -/
theorem nonblocking_never_waits (fixed : Bool) (s : TL) (t : Tid) (r : Bool)
    (hw : isWaiting s t = false) :
    (∃ s' o, step fixed s (.shEnter t false r) = some (s', o) ∧ o ≠ .waitingNow) ∧
    (∃ s' o, step fixed s (.exEnter t false r) = some (s', o) ∧ o ≠ .waitingNow) := by
  have hw' : ¬ isWaiting s t = true := by rw [hw]; exact Bool.false_ne_true
  constructor
  · rw [step, if_neg hw', TL.shEnter]
    by_cases ha : s.rlockAvail t = true
    · rw [if_pos ha]
      by_cases hr : (!r && decide (s.count t > 0)) = true
      · rw [if_pos hr]; exact ⟨_, _, rfl, Out.noConfusion⟩
      · rw [if_neg hr]; exact ⟨_, _, rfl, Out.noConfusion⟩
    · rw [if_neg ha]; exact ⟨_, _, rfl, Out.noConfusion⟩
  · rw [step, if_neg hw', TL.exEnter]
    by_cases ha : s.rlockAvail t = true
    · rw [if_pos ha]
      by_cases ho : (s.acquire t).others t = true
      · simp only [ho, if_true]; exact ⟨_, _, rfl, Out.noConfusion⟩
      · simp only [ho]; exact ⟨_, _, rfl, exProceed_ne_waiting _ t r⟩
    · rw [if_neg ha]; exact ⟨_, _, rfl, Out.noConfusion⟩
/-- A non-blocking request that would have to wait is refused. -/
theorem nonblocking_refuses {s : TL} (t t' : Tid) (r : Bool)
    (hw : isWaiting s t = false) (hne : t' ≠ t) (hb : inBody s t' = true) :
    ∃ s', step true s (.exEnter t false r) = some (s', .raisedWouldBlock) ∧ s'.frames = s.frames := by
  have hoth : (s.acquire t).others t = true :=
    (others_iff s.frames t).mpr ⟨t', hne, inBody_iff.mp hb⟩
  simp only [step, hw, TL.exEnter, hoth, Bool.false_eq_true, if_false, if_true]
  split
  · exact ⟨_, rfl, release_frames _⟩
  · exact ⟨_, rfl, rfl⟩

/-- **A non-reentrant recursive request raises rather than hangs.** -/
theorem nonreentrant_recursion_raises {s : TL} (h : Reachable s) (t : Tid) (b : Bool)
    (hw : isWaiting s t = false) (hb : inBody s t = true) :
    (∃ s', step true s (.shEnter t b false) = some (s', .raisedRecursive) ∧ s' = s) ∧
    ((∀ t', t' ≠ t → s.count t' = 0) →
      ∃ s', step true s (.exEnter t b false) = some (s', .raisedRecursive) ∧ s' = s) := by
  have hi := reachable_inv h
  have hc : 0 < cnt s.frames t := inBody_iff.mp hb
  -- the RLock is available to `t`: an owner other than `t` would be the sole holder
  have hav : s.rlockAvail t = true := rlockAvail_iff.mpr <| by
    rcases Option.eq_none_or_eq_some s.owner with ho | ⟨u, ho⟩
    · exact .inl ho
    · refine .inr (ho.trans (congrArg some (Classical.byContradiction fun hut => ?_)))
      have := hi.sole ho t (Ne.symm hut); omega
  have hrec : decide (s.count t > 0) = true := decide_eq_true hc
  constructor
  · simp only [step, hw, TL.shEnter, hav, hrec, Bool.false_eq_true, if_false, if_true, Bool.not_false,
      Bool.and_self]
    exact ⟨s, rfl, rfl⟩
  · intro hfree
    have hoth : (s.acquire t).others t = false := (others_false_iff s.frames t).mpr hfree
    have hrec' : decide ((s.acquire t).count t > 0) = true := hrec
    simp only [step, hw, TL.exEnter, hav, hoth, TL.exProceed, hrec', Bool.false_eq_true, if_false, if_true,
      Bool.not_false, Bool.and_self]
    exact ⟨_, rfl, release_acquire hi hav⟩

/-- **Clean quiescence.** When every thread has left, the RLock is free. -/
theorem quiescent_clean {s : TL} (h : Reachable s) (hq : s.frames = []) :
    s.owner = none ∧ s.depth = 0 := by
  have hi := reachable_inv h
  have ho := hi.owner_none fun x => by rw [hq]; rfl
  exact ⟨ho, hi.free ho⟩

-- non-vacuity: a reachable state with an exclusive holder and a blocked reader, and one with
-- three simultaneous readers
example : ∃ s, runEvs true {} [.exEnter 7 true false] = some s ∧ inExBody s 7 = true ∧
    step true s (.shEnter 8 true false) = none := ⟨_, rfl, by decide⟩
example : ∃ s, runEvs true {} [.shEnter 1 true false, .shEnter 2 true false, .shEnter 3 false true]
    = some s ∧ inBody s 1 = true ∧ inBody s 2 = true ∧ inBody s 3 = true := ⟨_, rfl, by decide⟩


open KS

def PReachable (s : KS) : Prop := ∃ evs, prun {} evs = some s

theorem preachable_kinv {s : KS} (h : PReachable s) : KInv s :=
  h.elim fun evs h => prun_inv evs kinv_init h

theorem pIn_held {s : KS} {p : Pid} {t : Nat} (h : pIn s p t = true) : isHeld (s.procs p) = true :=
  (isHeld_iff _).mpr <| ((Bool.or_eq_true _ _).mp h).imp ne_nil_of_contains ne_nil_of_contains

/-- **Cross-process exclusion.** While a thread of process `p` holds the file exclusively,
    no thread of any other process holds it in any mode. -/
theorem process_exclusion {s : KS} (h : PReachable s) (p q : Pid) (t t' : Nat)
    (hex : pInEx s p t = true) (hne : q ≠ p) : pIn s q t' = false := by
  have hi := preachable_kinv h
  have hk := (hi.agree p).exEntry (ne_nil_of_contains hex)
  -- a holder in `q` means an entry of `q`, but beside an exclusive entry there is none
  refine Bool.eq_false_iff.mpr fun hq => hne ?_
  obtain ⟨m, hm⟩ := (hi.agree q).entry_of_held (pIn_held hq)
  exact hi.exOnly p hk (q, m) hm

/-- **Kernel agreement / no foreign release.** Whatever other threads and processes do, a
    thread inside a body has its process holding the file in the kernel table, exclusively
    if the thread holds exclusively; the entry of a process is unique. -/
theorem kernel_agreement {s : KS} (h : PReachable s) (p : Pid) (t : Nat) (hin : pIn s p t = true) :
    (∃ m, (p, m) ∈ s.kernel ∧ (pInEx s p t = true → m = true)) ∧
    (s.kernel.map (·.1)).Nodup := by
  have hi := preachable_kinv h
  refine ⟨?_, hi.nodup⟩
  by_cases hex : pInEx s p t = true
  · exact ⟨true, (hi.agree p).exEntry (ne_nil_of_contains hex), fun _ => rfl⟩
  · obtain ⟨m, hm⟩ := (hi.agree p).entry_of_held (pIn_held hin)
    exact ⟨m, hm, fun h' => absurd h' hex⟩

/-- **No leaked kernel lock.** When no thread of any process holds the file, the kernel
    table is empty. -/
theorem no_kernel_leak {s : KS} (h : PReachable s) (hq : ∀ p, isHeld (s.procs p) = false) :
    s.kernel = [] := by
  have hi := preachable_kinv h
  refine List.eq_nil_iff_forall_not_mem.mpr fun e he => ?_
  have := (hi.agree e.1).noLeak e.2 he
  rw [hq e.1] at this; cases this

/-- **A pending `lockf` (entry, upgrade or downgrade) returns once no other process holds
    the file.** -/
theorem lockf_granted_when_free {s : KS} (h : PReachable s) (p : Pid) (pd : Pend)
    (hp : (s.procs p).pend = some pd) (hfree : ∀ q, q ≠ p → isHeld (s.procs q) = false) :
    ∃ s' o, s.pLockf p pd.tid = some (s', o) ∧ o ≠ .raisedWouldBlock := by
  have hi := preachable_kinv h
  -- the only entries left are those of `p` itself
  have hg : ∀ ex, s.grantable p ex = true := fun ex => List.all_eq_true.mpr fun e he => by
    have hep : e.1 = p := Classical.byContradiction fun hep => by
      have := (hi.agree e.1).noLeak e.2 he
      rw [hfree e.1 hep] at this; cases this
    simp [hep]
  simp only [pLockf, hp, bne_self_eq_false, Bool.false_eq_true, if_false, hg, if_true]
  split <;> exact ⟨_, _, rfl, nofun⟩

def PoolReachable (s : PoolSt) : Prop := ∃ evs, poolRun {} evs = some s

theorem poolreachable_pinv {s : PoolSt} (h : PoolReachable s) : PInv s :=
  h.elim fun evs h => poolRun_inv evs pinv_init h

/-- **One object per key while anybody uses it** (the single-fd rule; all users of a path
    share one thread lock and one process lock): two outstanding references to the same key
    were handed the same object. -/
theorem pool_single_object {s : PoolSt} (h : PoolReachable s) (t1 t2 k o1 o2 : Nat)
    (h1 : (t1, k, o1) ∈ s.holders) (h2 : (t2, k, o2) ∈ s.holders) : o1 = o2 := by
  have hi := poolreachable_pinv h
  obtain ⟨n1, e1⟩ := hi.held _ h1
  obtain ⟨n2, e2⟩ := hi.held _ h2
  exact congrArg (·.2.1) (nodup_key_unique hi.nodup e1 e2 rfl)

/-- The reference count of an entry is the number of outstanding references to its key. -/
theorem pool_refcount {s : PoolSt} (h : PoolReachable s) (k o n : Nat) (he : (k, o, n) ∈ s.pool.refs) :
    n = hcount s.holders k ∧ 0 < n :=
  (poolreachable_pinv h).count _ he

/-- **The destructor (closing the fd) never runs on an object somebody still uses.** -/
theorem pool_live_not_destroyed {s : PoolSt} (h : PoolReachable s) (t k o : Nat)
    (hh : (t, k, o) ∈ s.holders) : o ∉ s.pool.destroyed := by
  have hi := poolreachable_pinv h
  obtain ⟨n, he⟩ := hi.held _ hh
  exact fun hd => (hi.dead o hd).2 _ he rfl

/-- **When the last user has left, the pool is empty.** -/
theorem pool_quiescent_clean {s : PoolSt} (h : PoolReachable s) (hq : s.holders = []) :
    s.pool.refs = [] := by
  refine List.eq_nil_iff_forall_not_mem.mpr fun e he => ?_
  have := (poolreachable_pinv h).count e he
  rw [hq] at this
  exact absurd this.2 (this.1 ▸ Nat.lt_irrefl 0)

-- non-vacuity: two users of one key share object 0; after both leave it is destroyed once
example : ∃ s, poolRun {} [.enter 1 7, .enter 2 7, .exit 1 7] = some s ∧
    s.holders = [(2, 7, 0)] ∧ s.pool.refs = [(7, 0, 1)] ∧ s.pool.destroyed = [] := ⟨_, rfl, by decide⟩
example : ∃ s, poolRun {} [.enter 1 7, .enter 2 7, .exit 1 7, .exit 2 7, .enter 3 7] = some s ∧
    s.pool.refs = [(7, 1, 1)] ∧ s.pool.destroyed = [0] := ⟨_, rfl, by decide⟩

/-- **Reader–writer exclusion of `path_lock`, every schedule.**  If a thread `t` of process
    `p` is in an exclusive body (it holds both levels exclusively), no other thread of any
    process is in a body for that path: same process by the thread level, other processes by
    the kernel table. -/
theorem path_exclusion (tl : Pid → TL) (ks : KS)
    (h1 : ∀ p, Reachable (tl p)) (h2 : PReachable ks)
    (p q : Pid) (t t' : Nat)
    (hex1 : inExBody (tl p) t = true) (hex2 : pInEx ks p t = true)
    (hne : q ≠ p ∨ t' ≠ t) :
    ¬ (inBody (tl q) t' = true ∧ pIn ks q t' = true) := by
  rintro ⟨hb1, hb2⟩
  by_cases hq : q = p
  · subst hq
    have := thread_exclusion (h1 q) t t' hex1 (hne.resolve_left fun h => h rfl)
    rw [this] at hb1; cases hb1
  · have := process_exclusion h2 p q t t' hex2 hq
    rw [this] at hb2; cases hb2

-- non-vacuity: two processes share; an upgrade blocks until the other process leaves
example : ∃ s, prun {} [.enter 0 1 true true true, .lockf 0 1, .enter 1 2 true true true, .lockf 1 2,
    .enter 0 1 false true true] = some s ∧ pIn s 0 1 = true ∧ pIn s 1 2 = true ∧
    pstep s (.lockf 0 1) = none := ⟨_, rfl, by decide⟩
example : ∃ s, prun {} [.enter 0 1 true true true, .lockf 0 1, .enter 1 2 true true true, .lockf 1 2,
    .enter 0 1 false true true, .exit 1 2 true, .lockf 0 1] = some s ∧ pInEx s 0 1 = true ∧
    s.kernel = [(0, true)] := ⟨_, rfl, by decide⟩

end Pharmpy.C15
