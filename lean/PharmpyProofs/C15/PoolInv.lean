import PharmpyModel.C15.Pool
/-
  Invariant of the keyed reference pool and its preservation by `enter` and `exit`.
-/
namespace Pharmpy.C15
open Pool

def hcount : List (Nat × Nat × Nat) → Nat → Nat
  | [], _ => 0
  | h :: hs, k => (if h.2.1 = k then 1 else 0) + hcount hs k

theorem hcount_cons (h : Nat × Nat × Nat) (hs : List (Nat × Nat × Nat)) (k : Nat) :
    hcount (h :: hs) k = (if h.2.1 = k then 1 else 0) + hcount hs k := rfl

theorem hcount_pos_iff {hs : List (Nat × Nat × Nat)} {k : Nat} :
    0 < hcount hs k ↔ ∃ h ∈ hs, h.2.1 = k := by
  induction hs with
  | nil => exact ⟨nofun, nofun⟩
  | cons a as ih =>
    rw [hcount_cons]
    constructor
    · intro hp
      by_cases ha : a.2.1 = k
      · exact ⟨a, List.mem_cons_self, ha⟩
      · rw [if_neg ha, Nat.zero_add] at hp
        obtain ⟨h, hm, hk⟩ := ih.mp hp
        exact ⟨h, List.mem_cons_of_mem _ hm, hk⟩
    · rintro ⟨h, hm, hk⟩
      rcases List.mem_cons.mp hm with rfl | hm
      · rw [if_pos hk]; exact Nat.add_pos_left Nat.one_pos _
      · exact Nat.add_pos_right _ (ih.mpr ⟨h, hm, hk⟩)

theorem hcount_erase {hs : List (Nat × Nat × Nat)} {h : Nat × Nat × Nat} (hm : h ∈ hs) (k : Nat) :
    hcount hs k = (if h.2.1 = k then 1 else 0) + hcount (hs.erase h) k := by
  induction hs with
  | nil => cases hm
  | cons a as ih =>
    by_cases ha : a = h
    · rw [ha, List.erase_cons_head]; rfl
    · rw [List.erase_cons_tail (by simpa using ha), hcount_cons, hcount_cons,
        ih ((List.mem_cons.mp hm).resolve_left (Ne.symm ha))]
      exact Nat.add_left_comm ..

structure PInv (s : PoolSt) : Prop where
  nodup  : (s.pool.refs.map (·.1)).Nodup
  count  : ∀ e ∈ s.pool.refs, e.2.2 = hcount s.holders e.1 ∧ 0 < e.2.2
  held   : ∀ h ∈ s.holders, ∃ n, (h.2.1, h.2.2, n) ∈ s.pool.refs
  fresh  : ∀ e ∈ s.pool.refs, e.2.1 < s.pool.nextObj
  objInj : ∀ e1 ∈ s.pool.refs, ∀ e2 ∈ s.pool.refs, e1.2.1 = e2.2.1 → e1.1 = e2.1
  dead   : ∀ o ∈ s.pool.destroyed, o < s.pool.nextObj ∧ ∀ e ∈ s.pool.refs, e.2.1 ≠ o

theorem pinv_init : PInv {} :=
  ⟨List.nodup_nil, List.forall_mem_nil _, List.forall_mem_nil _, List.forall_mem_nil _,
   List.forall_mem_nil _, List.forall_mem_nil _⟩

theorem nodup_key_unique {refs : List (Nat × Nat × Nat)} (hn : (refs.map (·.1)).Nodup)
    {e1 e2 : Nat × Nat × Nat} (h1 : e1 ∈ refs) (h2 : e2 ∈ refs) (hk : e1.1 = e2.1) : e1 = e2 := by
  induction refs with
  | nil => cases h1
  | cons a as ih =>
    obtain ⟨hna, hn⟩ := List.nodup_cons.mp hn
    rcases List.mem_cons.mp h1 with rfl | h1' <;> rcases List.mem_cons.mp h2 with rfl | h2'
    · rfl
    · exact (hna (List.mem_map.mpr ⟨e2, h2', hk.symm⟩)).elim
    · exact (hna (List.mem_map.mpr ⟨e1, h1', hk⟩)).elim
    · exact ih hn h1' h2'

theorem find_some_iff {p : Pool} (hn : (p.refs.map (·.1)).Nodup) (k o n : Nat) :
    p.find k = some (o, n) ↔ (k, o, n) ∈ p.refs := by
  unfold Pool.find
  cases hf : p.refs.find? (fun e => e.1 == k) with
  | none =>
    refine ⟨nofun, fun hm => ?_⟩
    simpa using List.find?_eq_none.mp hf _ hm
  | some e =>
    have hm := List.mem_of_find?_eq_some hf
    have hk : e.1 = k := by simpa using List.find?_some hf
    obtain ⟨a, b, c⟩ := e
    constructor
    · intro h; cases h; exact hk ▸ hm
    · intro hm'; rw [nodup_key_unique hn hm hm' hk]; rfl

theorem find_none_iff {p : Pool} (k : Nat) : p.find k = none ↔ ∀ e ∈ p.refs, e.1 ≠ k := by
  rw [Pool.find, Option.map_eq_none_iff, List.find?_eq_none]
  simp only [beq_iff_eq, ne_eq]

theorem mem_replaceKey {refs : List (Nat × Nat × Nat)} {k : Nat} {e' e : Nat × Nat × Nat} :
    e ∈ e' :: refs.filter (fun e => e.1 != k) ↔ e = e' ∨ (e ∈ refs ∧ e.1 ≠ k) := by
  simp [List.mem_filter]

namespace PInv
variable {s : PoolSt}

/-- The entry of key `k` is replaced by `(k, o, n')`, where `o` is the object `k` has or, if it has
    none, a new one; the new holders are old ones or hold `o` for `k`. -/
theorem set (hi : PInv s) {k o n' next' : Nat} {hs' : List (Nat × Nat × Nat)}
    (ho : (∃ n, (k, o, n) ∈ s.pool.refs) ∨ (o = s.pool.nextObj ∧ ∀ e ∈ s.pool.refs, e.1 ≠ k))
    (hnext : s.pool.nextObj ≤ next') (hlt : o < next')
    (hsub : ∀ h ∈ hs', h ∈ s.holders ∨ (h.2.1 = k ∧ h.2.2 = o))
    (hoth : ∀ k', k' ≠ k → hcount hs' k' = hcount s.holders k')
    (hn : n' = hcount hs' k ∧ 0 < n') :
    PInv { pool := { refs := (k, o, n') :: s.pool.refs.filter (fun e => e.1 != k),
                     nextObj := next', destroyed := s.pool.destroyed },
           holders := hs' } := by
  -- what `o` being the object of `k` means for the old state
  have hobj : ∀ e ∈ s.pool.refs, e.2.1 = o → e.1 = k := fun e he heo => by
    rcases ho with ⟨n, hk⟩ | ⟨rfl, _⟩
    · exact hi.objInj e he _ hk heo
    · exact absurd (hi.fresh e he) (by omega)
  have hlive : o ∉ s.pool.destroyed := fun hd => by
    rcases ho with ⟨n, hk⟩ | ⟨rfl, _⟩
    · exact (hi.dead o hd).2 _ hk rfl
    · exact absurd (hi.dead _ hd).1 (Nat.lt_irrefl _)
  have hko : ∀ h ∈ s.holders, h.2.1 = k → h.2.2 = o := fun h hm hk => by
    obtain ⟨n₁, h₁⟩ := hi.held h hm
    rcases ho with ⟨n, hk'⟩ | ⟨_, hno⟩
    · exact congrArg (·.2.1) (nodup_key_unique hi.nodup h₁ hk' hk)
    · exact absurd hk (hno _ h₁)
  refine ⟨?_, ?_, ?_, ?_, ?_, ?_⟩
  · refine List.nodup_cons.mpr ⟨fun hm => ?_, (List.filter_sublist.map _).nodup hi.nodup⟩
    obtain ⟨e, he, hek⟩ := List.mem_map.mp hm
    simpa [hek] using (List.mem_filter.mp he).2
  · intro e he
    rcases mem_replaceKey.mp he with rfl | ⟨he, hek⟩
    · exact hn
    · exact hoth e.1 hek ▸ hi.count e he
  · intro h hm
    by_cases hk : h.2.1 = k
    · have : h.2.2 = o := (hsub h hm).elim (hko h · hk) (·.2)
      exact ⟨n', mem_replaceKey.mpr (.inl (by rw [hk, this]))⟩
    · obtain ⟨n, hn⟩ := hi.held h ((hsub h hm).resolve_right (hk ·.1))
      exact ⟨n, mem_replaceKey.mpr (.inr ⟨hn, hk⟩)⟩
  · intro e he
    rcases mem_replaceKey.mp he with rfl | ⟨he, _⟩
    · exact hlt
    · exact Nat.lt_of_lt_of_le (hi.fresh e he) hnext
  · intro e1 h1 e2 h2 heq
    rcases mem_replaceKey.mp h1 with rfl | ⟨h1, hk1⟩ <;> rcases mem_replaceKey.mp h2 with rfl | ⟨h2, hk2⟩
    · rfl
    · exact (hobj e2 h2 heq.symm).symm
    · exact hobj e1 h1 heq
    · exact hi.objInj e1 h1 e2 h2 heq
  · intro d hd
    refine ⟨Nat.lt_of_lt_of_le (hi.dead d hd).1 hnext, fun e he => ?_⟩
    rcases mem_replaceKey.mp he with rfl | ⟨he, _⟩
    · exact fun (h : o = d) => hlive (h ▸ hd)
    · exact (hi.dead d hd).2 e he

end PInv

theorem enter_inv {s s' : PoolSt} (hi : PInv s) {t k : Nat}
    (h : poolStep s (.enter t k) = some s') : PInv s' := by
  simp only [poolStep, Pool.enter] at h
  have hsub : ∀ o, ∀ h ∈ (t, k, o) :: s.holders, h ∈ s.holders ∨ (h.2.1 = k ∧ h.2.2 = o) := fun o h hm =>
    (List.mem_cons.mp hm).elim (fun e => .inr (e ▸ ⟨rfl, rfl⟩)) .inl
  have hoth : ∀ o k', k' ≠ k → hcount ((t, k, o) :: s.holders) k' = hcount s.holders k' := fun o k' hk' => by
    rw [hcount_cons, if_neg (Ne.symm hk'), Nat.zero_add]
  cases hf : s.pool.find k with
  | none =>
    simp only [hf] at h
    cases h
    have hnok := (find_none_iff k).mp hf
    -- no entry, hence no holder
    have hc0 : hcount s.holders k = 0 := Nat.eq_zero_of_not_pos fun hpos => by
      obtain ⟨h, hm, hk⟩ := hcount_pos_iff.mp hpos
      obtain ⟨n, hn⟩ := hi.held h hm
      exact hnok _ hn hk
    have hfil : s.pool.refs.filter (fun e => e.1 != k) = s.pool.refs :=
      List.filter_eq_self.mpr fun e he => by simpa using hnok e he
    rw [← hfil]
    exact hi.set (.inr ⟨rfl, hnok⟩) (Nat.le_succ _) (Nat.lt_succ_self _) (hsub _) (hoth _)
      ⟨by rw [hcount_cons, if_pos rfl, hc0], Nat.one_pos⟩
  | some on =>
    obtain ⟨o, n⟩ := on
    simp only [hf] at h
    cases h
    have hent := (find_some_iff hi.nodup k o n).mp hf
    exact hi.set (.inl ⟨n, hent⟩) (Nat.le_refl _) (hi.fresh _ hent) (hsub _) (hoth _)
      ⟨by rw [hcount_cons, if_pos rfl, ← (hi.count _ hent).1, Nat.add_comm], Nat.succ_pos _⟩

theorem exit_inv {s s' : PoolSt} (hi : PInv s) {t k : Nat}
    (h : poolStep s (.exit t k) = some s') : PInv s' := by
  simp only [poolStep] at h
  cases hfh : s.holders.find? (fun h => h.1 == t && h.2.1 == k) with
  | none => simp only [hfh] at h; cases h
  | some hd =>
    simp only [hfh] at h
    have hmem : hd ∈ s.holders := List.mem_of_find?_eq_some hfh
    have hkey : hd.2.1 = k := by have := List.find?_some hfh; simp at this; exact this.2
    obtain ⟨n, hent⟩ := hi.held hd hmem
    rw [hkey] at hent
    have herase := hcount_erase hmem
    have hoth : ∀ k', k' ≠ k → hcount (s.holders.erase hd) k' = hcount s.holders k' := fun k' hk' => by
      rw [herase k', if_neg (hkey ▸ Ne.symm hk'), Nat.zero_add]
    -- the entry counts `hd` and the holders that stay
    have hn : n = 1 + hcount (s.holders.erase hd) k :=
      (hi.count _ hent).1.trans (by rw [herase k, if_pos hkey])
    simp only [Pool.exit, (find_some_iff hi.nodup k _ _).mpr hent] at h
    by_cases hle : n ≤ 1
    · simp only [hle, if_true] at h
      cases h
      have hzero : hcount (s.holders.erase hd) k = 0 := by omega
      have hsub : ∀ e ∈ s.pool.refs.filter (fun e => e.1 != k), e ∈ s.pool.refs ∧ e.1 ≠ k :=
        fun e he => by simpa using List.mem_filter.mp he
      refine ⟨(List.filter_sublist.map _).nodup hi.nodup, fun e he => ?_, fun h hm => ?_,
        fun e he => hi.fresh e (hsub e he).1,
        fun e1 h1 e2 h2 => hi.objInj e1 (hsub e1 h1).1 e2 (hsub e2 h2).1, fun d hdm => ?_⟩
      · exact hoth e.1 (hsub e he).2 ▸ hi.count e (hsub e he).1
      · have hm : h ∈ s.holders.erase hd := hm
        have hk : h.2.1 ≠ k := fun hk => Nat.lt_irrefl 0 (hzero ▸ hcount_pos_iff.mpr ⟨h, hm, hk⟩)
        obtain ⟨n', hn'⟩ := hi.held h (List.mem_of_mem_erase hm)
        exact ⟨n', List.mem_filter.mpr ⟨hn', by simpa using hk⟩⟩
      · rcases List.mem_cons.mp hdm with rfl | hdm
        · exact ⟨hi.fresh _ hent, fun e he heo =>
            (hsub e he).2 (hi.objInj e (hsub e he).1 _ hent heo)⟩
        · exact ⟨(hi.dead d hdm).1, fun e he => (hi.dead d hdm).2 e (hsub e he).1⟩
    · simp only [hle, if_false] at h
      cases h
      exact hi.set (.inl ⟨n, hent⟩) (Nat.le_refl _) (hi.fresh _ hent)
        (fun h hm => .inl (List.mem_of_mem_erase hm)) hoth (by omega)

theorem poolStep_inv {s s' : PoolSt} (e : PoolEv) (hi : PInv s) (h : poolStep s e = some s') : PInv s' := by
  cases e with
  | enter t k => exact enter_inv hi h
  | exit t k => exact exit_inv hi h

theorem poolRun_inv (evs : List PoolEv) : ∀ {s s' : PoolSt}, PInv s → poolRun s evs = some s' → PInv s' := by
  induction evs with
  | nil => intro s s' hi h; cases h; exact hi
  | cons e es ih =>
    intro s s' hi h
    rw [poolRun] at h
    split at h
    · cases h
    · rename_i hs; exact ih (poolStep_inv e hi hs) h

end Pharmpy.C15
