import PharmpyModel.C15.Path
import PharmpyProofs.C15.Properties

/-!
  C15 — mechanism "single fd per normalised path": `path_lock` enters the thread-lock registry
  AND the descriptor pool with `os.path.normpath(path)`, so every spelling of one path reaches
  the same entries and no user's exit releases another user's lock.
-/
namespace Pharmpy.C15

/-- A block of components that leaves every stack as it found it can be dropped, wherever it stands. -/
theorem normComps_skip (abs : Bool) (xs zs ys : List String)
    (h : ∀ st, zs.foldl (normStep abs) st = st) :
    normComps abs (xs ++ zs ++ ys) = normComps abs (xs ++ ys) := by
  simp only [normComps, normStack, List.foldl_append, h]

/-- **Empty and `.` components do not matter**, wherever they occur and however many other
    components there are: `d//f`, `d/./f` and `d/f` have the same normal form. -/
theorem normpath_dot_insensitive (abs : Bool) (xs ys : List String) (c : String)
    (hc : c = "" ∨ c = ".") : normComps abs (xs ++ c :: ys) = normComps abs (xs ++ ys) := by
  have := normComps_skip abs xs [c] ys fun st => by
    rcases hc with rfl | rfl <;> simp [normStep]
  simpa using this

/-- **A detour `x/..` through a proper component is cancelled** (lexically), wherever it occurs:
    `d/sub/../f` and `d/f` have the same normal form. -/
theorem normpath_dotdot_cancels (abs : Bool) (xs ys : List String) (c : String)
    (h1 : c ≠ "") (h2 : c ≠ ".") (h3 : c ≠ "..") :
    normComps abs (xs ++ c :: ".." :: ys) = normComps abs (xs ++ ys) := by
  have := normComps_skip abs xs [c, ".."] ys fun st => by
    -- `c` is pushed, `..` pops it again
    simp [normStep, h1, h2, h3]
  simpa using this

theorem normStep_clean {abs : Bool} {st : List String} {c : String}
    (h : ∀ x ∈ st, x ≠ "" ∧ x ≠ ".") : ∀ x ∈ normStep abs st c, x ≠ "" ∧ x ≠ "." := by
  unfold normStep
  by_cases h1 : (c == "" || c == ".") = true
  · rw [if_pos h1]; exact h
  · rw [if_neg h1]
    have hc : c ≠ "" ∧ c ≠ "." := by
      simpa only [Bool.or_eq_true, beq_iff_eq, not_or] using h1
    have hcons : ∀ x ∈ c :: st, x ≠ "" ∧ x ≠ "." := fun x hx =>
      (List.mem_cons.mp hx).elim (fun e => e ▸ hc) (h x)
    by_cases h2 : (c != "..") = true
    · rw [if_pos h2]; exact hcons
    · rw [if_neg h2]
      cases st with
      | nil => cases abs; exact hcons; nofun
      | cons top rest =>
        show ∀ x ∈ (if (top == "..") = true then c :: top :: rest else rest), _
        by_cases h3 : (top == "..") = true
        · rw [if_pos h3]; exact hcons
        · rw [if_neg h3]; exact fun x hx => h x (List.mem_cons_of_mem _ hx)

/-- A normalised stack contains no empty and no `.` component. -/
theorem normStack_clean (abs : Bool) (cs : List String) :
    ∀ c ∈ normStack abs cs, c ≠ "" ∧ c ≠ "." := by
  suffices h : ∀ st : List String, (∀ c ∈ st, c ≠ "" ∧ c ≠ ".") →
      ∀ c ∈ cs.foldl (normStep abs) st, c ≠ "" ∧ c ≠ "." from h [] nofun
  induction cs with
  | nil => exact fun st h => h
  | cons x xs ih => exact fun st h => ih _ (normStep_clean h)

/-- `path_lock` uses ONE key — the normalised path — for the thread-lock registry and for the
    descriptor pool (and therefore opens the normalised name). -/
theorem path_lock_keys_normalised (p : String) :
    (pathLockKeys p).fdKey = normpath p ∧ (pathLockKeys p).threadKey = normpath p := ⟨rfl, rfl⟩

/-- **Two spellings of one path use the same registry entries.** -/
theorem path_lock_same_keys (p q : String) (h : normpath p = normpath q) :
    pathLockKeys p = pathLockKeys q := by
  simp [pathLockKeys, h]

/-- Descriptor-pool states reachable by `path_lock` users with arbitrary spellings. -/
def fdPoolRun (num : String → Nat) (evs : List PathEv) : Option PoolSt :=
  poolRun {} (evs.map (PathEv.toFdPool num))

def threadPoolRun (num : String → Nat) (evs : List PathEv) : Option PoolSt :=
  poolRun {} (evs.map (PathEv.toThreadPool num))

/-- **Single descriptor per file and process, every history, every spelling**: two users whose
    paths have the same normal form were handed the same file descriptor. -/
theorem path_lock_single_fd (num : String → Nat) (evs : List PathEv) (s : PoolSt)
    (h : fdPoolRun num evs = some s) (t1 t2 : Nat) (p q : String) (fd1 fd2 : Nat)
    (hn : normpath p = normpath q)
    (h1 : (t1, num (pathLockKeys p).fdKey, fd1) ∈ s.holders)
    (h2 : (t2, num (pathLockKeys q).fdKey, fd2) ∈ s.holders) : fd1 = fd2 := by
  rw [path_lock_same_keys p q hn] at h1
  exact pool_single_object ⟨_, h⟩ t1 t2 _ fd1 fd2 h1 h2

/-- Same for the thread-level lock object: all spellings of one path exclude one another. -/
theorem path_lock_single_thread_lock (num : String → Nat) (evs : List PathEv) (s : PoolSt)
    (h : threadPoolRun num evs = some s) (t1 t2 : Nat) (p q : String) (o1 o2 : Nat)
    (hn : normpath p = normpath q)
    (h1 : (t1, num (pathLockKeys p).threadKey, o1) ∈ s.holders)
    (h2 : (t2, num (pathLockKeys q).threadKey, o2) ∈ s.holders) : o1 = o2 := by
  rw [path_lock_same_keys p q hn] at h1
  exact pool_single_object ⟨_, h⟩ t1 t2 _ o1 o2 h1 h2

/-- **Another user finishing with the same file never closes the descriptor of a user that is
    still inside**, whatever spellings the two used. -/
theorem path_lock_fd_not_closed (num : String → Nat) (evs : List PathEv) (s : PoolSt)
    (h : fdPoolRun num evs = some s) (t : Nat) (p : String) (fd : Nat)
    (hh : (t, num (pathLockKeys p).fdKey, fd) ∈ s.holders) : fd ∉ s.pool.destroyed :=
  pool_live_not_destroyed ⟨_, h⟩ t _ fd hh

/-- **When the last user leaves, the descriptor pool is empty** (every descriptor closed). -/
theorem path_lock_quiescent_clean (num : String → Nat) (evs : List PathEv) (s : PoolSt)
    (h : fdPoolRun num evs = some s) (hq : s.holders = []) : s.pool.refs = [] :=
  pool_quiescent_clean ⟨_, h⟩ hq

-- non-vacuity: the spellings the harness generates
example : normpath "/locks/./p0" = "/locks/p0" ∧ normpath "/locks//p0" = "/locks/p0" ∧
    normpath "/locks/sub/../p0" = "/locks/p0" ∧ normpath "/locks/p0" = "/locks/p0" := by decide +kernel
-- POSIX keeps exactly two leading slashes; `..` at the root disappears; relative `..` stays
example : normpath "//a" = "//a" ∧ normpath "///a" = "/a" ∧ normpath "/../a" = "/a" ∧
    normpath "a/../../b" = "../b" ∧ normpath "" = "." := by decide +kernel
-- thread 1 locks `d/f`, thread 2 locks `d/./f`, thread 1 leaves: thread 2 keeps descriptor 0, open
example : ∃ s, fdPoolRun (fun k => k.length)
      [.enter 1 "/d/f", .enter 2 "/d/./f", .exit 1 "/d/f"] = some s ∧
    s.holders = [(2, 4, 0)] ∧ s.pool.refs = [(4, 0, 1)] ∧ s.pool.destroyed = [] := ⟨_, rfl, by decide⟩

end Pharmpy.C15
