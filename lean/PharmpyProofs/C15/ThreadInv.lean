import PharmpyProofs.C15.Lemmas
/-
  The inductive invariant of the thread-level lock and its preservation.
-/
namespace Pharmpy.C15
open TL

/-- `Inv` says: the RLock is free exactly when nobody has an exclusive frame; otherwise its owner
    is the sole holder, as deep in the RLock as it has exclusive frames, and not waiting. -/
structure Inv (s : TL) : Prop where
  own      : ∀ t, s.owner = some t → s.depth = exc s.frames t ∧ 0 < s.depth
  free     : s.owner = none → s.depth = 0
  exOwner  : ∀ t, 0 < exc s.frames t → s.owner = some t
  excl     : ∀ t, 0 < exc s.frames t → ∀ t', t' ≠ t → cnt s.frames t' = 0
  waitNoEx : ∀ t, isWaiting s t = true → exc s.frames t = 0
  waitDepth : ∀ p ∈ s.waiting, p.2 = 1
  notifSub : ∀ w ∈ s.notified, isWaiting s w = true
  /-- no lost wake-up: an un-notified waiter still has a reason to wait, and that reason
      (a thread whose *oldest* frame is shared) is guaranteed to notify when it leaves -/
  wake     : ∀ w, isWaiting s w = true → w ∉ s.notified →
               ∃ t', t' ≠ w ∧ oldSh s.frames t' = true

theorem inv_init : Inv {} :=
  ⟨nofun, fun _ => rfl, fun _ h => absurd h (Nat.lt_irrefl 0), fun _ h => absurd h (Nat.lt_irrefl 0),
   fun _ _ => rfl, List.forall_mem_nil _, List.forall_mem_nil _, fun _ h => absurd h Bool.false_ne_true⟩

theorem isWaiting_iff {s : TL} {w : Tid} : isWaiting s w = true ↔ ∃ d, (w, d) ∈ s.waiting := by
  simp only [isWaiting, List.any_eq_true, beq_iff_eq]
  constructor
  · rintro ⟨⟨a, d⟩, hp, rfl⟩; exact ⟨d, hp⟩
  · rintro ⟨d, hp⟩; exact ⟨(w, d), hp, rfl⟩

theorem rlockAvail_iff {s : TL} {t : Tid} : s.rlockAvail t = true ↔ s.owner = none ∨ s.owner = some t := by
  simp [rlockAvail]

/-- The part of `Inv` that speaks of the condition variable, over the three lists it depends on. -/
structure WaitOK (fs : List (Tid × Bool)) (ws : List (Tid × Nat)) (ns : List Tid) : Prop where
  depth : ∀ p ∈ ws, p.2 = 1
  sub   : ∀ w ∈ ns, ∃ d, (w, d) ∈ ws
  wake  : ∀ w d, (w, d) ∈ ws → w ∉ ns → ∃ t', t' ≠ w ∧ oldSh fs t' = true

namespace WaitOK
variable {fs fs' : List (Tid × Bool)} {ws : List (Tid × Nat)} {ns : List Tid}

theorem frames (h : WaitOK fs ws ns) (hm : ∀ x, oldSh fs x = true → oldSh fs' x = true) :
    WaitOK fs' ws ns :=
  ⟨h.depth, h.sub, fun w d hw hn => (h.wake w d hw hn).imp fun t' ht' => ⟨ht'.1, hm t' ht'.2⟩⟩

theorem notifyAll (h : WaitOK fs ws ns) : WaitOK fs' ws (ws.map (·.1)) :=
  ⟨h.depth, fun w hw => by obtain ⟨p, hp, rfl⟩ := List.mem_map.mp hw; exact ⟨p.2, hp⟩,
   fun w d hw hn => absurd (List.mem_map.mpr ⟨_, hw, rfl⟩) hn⟩

theorem sleep (h : WaitOK fs ws ns) {t u : Tid} {d : Nat} (hd : d = 1) (hu : u ≠ t)
    (hold : oldSh fs u = true) : WaitOK fs ((t, d) :: ws) ns := by
  refine ⟨?_, fun w hw => (h.sub w hw).imp fun _ => List.mem_cons_of_mem _, ?_⟩
  · intro p hp
    rcases List.mem_cons.mp hp with rfl | hp
    · exact hd
    · exact h.depth p hp
  · intro w d' hw hn
    rcases List.mem_cons.mp hw with e | hw
    · cases e; exact ⟨u, hu, hold⟩
    · exact h.wake w d' hw hn

theorem leave (h : WaitOK fs ws ns) (t : Tid) :
    WaitOK fs (ws.filter (fun w => w.1 != t)) (ns.filter (· != t)) := by
  refine ⟨fun p hp => h.depth p (List.mem_filter.mp hp).1, ?_, ?_⟩
  · intro w hw
    obtain ⟨hw, hwt⟩ := List.mem_filter.mp hw
    exact (h.sub w hw).imp fun d hd => List.mem_filter.mpr ⟨hd, hwt⟩
  · intro w d hw hn
    obtain ⟨hw, hwt⟩ := List.mem_filter.mp hw
    exact h.wake w d hw fun hm => hn (List.mem_filter.mpr ⟨hm, hwt⟩)

end WaitOK

namespace Inv
variable {s : TL} {t : Tid}

theorem waitOK (hi : Inv s) : WaitOK s.frames s.waiting s.notified :=
  ⟨hi.waitDepth, fun w hw => isWaiting_iff.mp (hi.notifSub w hw),
   fun w d hw hn => hi.wake w (isWaiting_iff.mpr ⟨d, hw⟩) hn⟩

theorem noEx_of_free (hi : Inv s) (ho : s.owner = none) (x : Tid) : exc s.frames x = 0 :=
  Nat.eq_zero_of_not_pos fun hx => by have := hi.exOwner x hx; rw [ho] at this; cases this

theorem sole (hi : Inv s) (ho : s.owner = some t) (x : Tid) (hx : x ≠ t) : cnt s.frames x = 0 :=
  hi.excl t ((hi.own t ho).1 ▸ (hi.own t ho).2) x hx

theorem not_waiting (hi : Inv s) (ho : s.owner = some t) : isWaiting s t = false :=
  Bool.eq_false_iff.mpr fun hw => by have := hi.waitNoEx t hw; have := hi.own t ho; omega

theorem of_free (ho : s.owner = none) (hd : s.depth = 0) (hex : ∀ x, exc s.frames x = 0)
    (hw : WaitOK s.frames s.waiting s.notified) : Inv s := by
  have hno : ∀ x, ¬ 0 < exc s.frames x := fun x h => by rw [hex x] at h; cases h
  refine ⟨fun _ h => ?_, fun _ => hd, fun x h => absurd h (hno x), fun x h => absurd h (hno x),
    fun x _ => hex x, hw.depth, fun w h => isWaiting_iff.mpr (hw.sub w h),
    fun w h hn => (isWaiting_iff.mp h).elim fun d hd => hw.wake w d hd hn⟩
  rw [ho] at h; cases h

theorem of_owned (ho : s.owner = some t) (hd : s.depth = exc s.frames t) (hpos : 0 < s.depth)
    (hsole : ∀ x, x ≠ t → cnt s.frames x = 0) (hnw : isWaiting s t = false)
    (hw : WaitOK s.frames s.waiting s.notified) : Inv s := by
  have hex : ∀ x, 0 < exc s.frames x → x = t := fun x hx => Classical.byContradiction fun hxt => by
    have := hsole x hxt; have := exc_le_cnt s.frames x; omega
  refine ⟨fun x h => ?_, fun h => ?_, fun x h => hex x h ▸ ho, fun x h => hex x h ▸ hsole, fun x h => ?_,
    hw.depth, fun w h => isWaiting_iff.mpr (hw.sub w h),
    fun w h hn => (isWaiting_iff.mp h).elim fun d hd => hw.wake w d hd hn⟩
  · rw [ho] at h; cases h; exact ⟨hd, hpos⟩
  · rw [ho] at h; cases h
  · apply Nat.eq_zero_of_not_pos
    intro hx; rw [hex x hx, hnw] at h; cases h

theorem depth_eq (hi : Inv s) (ha : s.rlockAvail t = true) : s.depth = exc s.frames t := by
  rcases rlockAvail_iff.mp ha with ho | ho
  · rw [hi.free ho, hi.noEx_of_free ho]
  · exact (hi.own t ho).1

theorem owner_none (hi : Inv s) (hex : ∀ x, exc s.frames x = 0) : s.owner = none := by
  rcases Option.eq_none_or_eq_some s.owner with ho | ⟨u, ho⟩
  · exact ho
  · have := hi.own u ho; have := hex u; omega

end Inv

theorem release_acquire {s : TL} (hi : Inv s) {t : Tid} (ha : s.rlockAvail t = true) :
    (s.acquire t).release = s := by
  have hfree := hi.free
  have hown := hi.own t
  obtain ⟨o, d, fs, ws, ns⟩ := s
  rcases rlockAvail_iff.mp ha with ho | ho
  · cases ho; cases hfree rfl; rfl
  · cases ho
    have : ¬ d + 1 ≤ 1 := by have := (hown rfl).2; simp only at this; omega
    simp [acquire, release, this]

variable {s s' : TL} {o : Out} {t : Tid} {b r fixed : Bool}

theorem shEnter_spec (h : s.shEnter t b r = some (s', o)) : FramesStep t s.frames s'.frames ∧ (Inv s → Inv s') := by
  unfold TL.shEnter at h
  rcases ite_eq_cases h with ⟨ha, h⟩ | ⟨_, h⟩
  · rcases ite_eq_cases h with ⟨_, h⟩ | ⟨_, h⟩
    · cases h; exact ⟨.inl rfl, id⟩
    · cases h
      refine ⟨.inr (.inl ⟨_, rfl⟩), fun hi => ?_⟩
      have hw := hi.waitOK.frames (fs' := (t, false) :: s.frames) fun _ => oldSh_push _
      rcases rlockAvail_iff.mp ha with ho | ho
      · exact Inv.of_free ho (hi.free ho) (fun x => by simpa [exc_cons] using hi.noEx_of_free ho x) hw
      · exact Inv.of_owned ho (by simpa [exc_cons] using (hi.own t ho).1) (hi.own t ho).2
          (fun x hx => by rw [cnt_cons, if_neg (Ne.symm hx), hi.sole ho x hx]) (hi.not_waiting ho) hw
  · cases (of_guard_not h).2; exact ⟨.inl rfl, id⟩

theorem shExit_spec (h : s.shExit fixed t = some (s', o)) :
    FramesStep t s.frames s'.frames ∧ (fixed = true → Inv s → Inv s') := by
  unfold TL.shExit at h
  have h := (of_guard h).2
  cases hp : popFrame s.frames t false with
  | none => rw [hp] at h; cases h
  | some fs =>
    rw [hp] at h
    cases h
    refine ⟨.inr (.inr ⟨false, ?_⟩), fun hf hi => ?_⟩
    · rw [hp]; split <;> rfl
    subst hf
    have hexc : ∀ x, exc s.frames x = exc fs x := fun x => by simpa using popFrame_exc hp x
    have hcnt := popFrame_cnt hp
    -- the RLock's side does not notice a shared frame going away
    have key : ∀ ns, WaitOK fs s.waiting ns → Inv { s with frames := fs, notified := ns } := by
      intro ns hw
      rcases Option.eq_none_or_eq_some s.owner with ho | ⟨u, ho⟩
      · exact Inv.of_free ho (hi.free ho) (fun x => hexc x ▸ hi.noEx_of_free ho x) hw
      · refine Inv.of_owned ho (hexc u ▸ (hi.own u ho).1) (hi.own u ho).2 (fun x hx => ?_)
          (hi.not_waiting ho) hw
        have := hi.sole ho x hx; have := hcnt x; show cnt fs x = 0; omega
    show Inv (if _ then _ else _)
    split
    · exact key _ hi.waitOK.notifyAll
    · rename_i hz
      -- `t` keeps a frame, so every thread keeps its oldest one
      refine key _ (hi.waitOK.frames fun x hx => ?_)
      rw [popFrame_oldSh hp x, if_neg fun h' => hz (by simp [TL.count, h'.1 ▸ h'.2])] at hx
      exact hx

theorem release_frames (u : TL) : u.release.frames = u.frames := by
  unfold TL.release; split <;> rfl

theorem exProceed_frames (h : s.exProceed t r = (s', o)) : FramesStep t s.frames s'.frames := by
  unfold TL.exProceed at h
  rcases ite_eq_cases h with ⟨_, h⟩ | ⟨_, h⟩
  · cases h; exact .inl (release_frames s)
  · cases h; exact .inr (.inl ⟨_, rfl⟩)

theorem exEnter_spec (h : s.exEnter t b r = some (s', o)) :
    FramesStep t s.frames s'.frames ∧ (Inv s → isWaiting s t = false → Inv s') := by
  unfold TL.exEnter at h
  rcases ite_eq_cases h with ⟨ha, h⟩ | ⟨_, h⟩
  · rcases ite_eq_cases h with ⟨hoth, h⟩ | ⟨hoth, h⟩
    · rcases ite_eq_cases h with ⟨_, h⟩ | ⟨_, h⟩
      · -- somebody else holds: `wait()`.  Then nobody has an exclusive frame and the RLock was free.
        cases h
        refine ⟨.inl rfl, fun hi _ => ?_⟩
        obtain ⟨u, hu, hpos⟩ := (others_iff s.frames t).mp hoth
        have ho : s.owner = none := (rlockAvail_iff.mp ha).resolve_right fun ho => by
          have := hi.sole ho u hu; omega
        have hd : s.depth = 0 := hi.free ho
        exact Inv.of_free rfl rfl (hi.noEx_of_free ho) (hi.waitOK.sleep (by simp [acquire, hd]) hu
          (oldSh_of_noex (hi.noEx_of_free ho u) hpos))
      · cases h
        exact ⟨.inl (release_frames _), fun hi _ => by rw [release_acquire hi ha]; exact hi⟩
    · injection h with h
      refine ⟨(exProceed_frames h :), fun hi hnw => ?_⟩
      unfold TL.exProceed at h
      rcases ite_eq_cases h with ⟨_, h⟩ | ⟨_, h⟩
      · cases h; rw [release_acquire hi ha]; exact hi
      · cases h
        have hsole := (others_false_iff s.frames t).mp (Bool.eq_false_iff.mpr hoth)
        exact Inv.of_owned (t := t) rfl (by simp [acquire, exc_cons, hi.depth_eq ha, Nat.add_comm])
          (Nat.succ_pos _) (fun x hx => by rw [cnt_cons, if_neg (Ne.symm hx), Nat.zero_add]; exact hsole x hx) hnw
          (hi.waitOK.frames fun _ => oldSh_push _)
  · cases (of_guard_not h).2; exact ⟨.inl rfl, fun hi _ => hi⟩

theorem exExit_spec (h : s.exExit t = some (s', o)) : FramesStep t s.frames s'.frames ∧ (Inv s → Inv s') := by
  unfold TL.exExit at h
  cases hp : popFrame s.frames t true with
  | none => rw [hp] at h; cases h
  | some fs =>
    rw [hp] at h
    cases h
    refine ⟨.inr (.inr ⟨true, hp.trans (congrArg some (release_frames { s with frames := fs }).symm)⟩),
      fun hi => ?_⟩
    have hexc : exc s.frames t = 1 + exc fs t := by simpa using popFrame_exc hp t
    have ho := hi.exOwner t (by omega)
    have hd : s.depth = 1 + exc fs t := (hi.own t ho).1.trans hexc
    have hsole : ∀ x, x ≠ t → cnt fs x = 0 := fun x hx =>
      Nat.eq_zero_of_add_eq_zero_left ((popFrame_cnt hp x).symm.trans (hi.sole ho x hx))
    -- the popped frame is exclusive, so it was nobody's oldest shared frame
    have hw : WaitOK fs s.waiting s.notified := hi.waitOK.frames fun x hx => by
      rw [popFrame_oldSh hp x] at hx
      split at hx
      · cases hx
      · exact hx
    unfold TL.release
    split
    · rename_i hle
      refine Inv.of_free rfl rfl (fun x => ?_) hw
      by_cases hx : x = t
      · subst hx; simp only at hle; show exc fs x = 0; omega
      · exact Nat.le_zero.mp (hsole x hx ▸ exc_le_cnt fs x)
    · rename_i hle
      have : s.depth - 1 = exc fs t ∧ 0 < s.depth - 1 := by simp only at hle; omega
      exact Inv.of_owned ho this.1 this.2 hsole (hi.not_waiting ho) hw

theorem exWake_frames (h : s.exWake t r = some (s', o)) : FramesStep t s.frames s'.frames := by
  unfold TL.exWake at h
  cases hf : s.waiting.find? (fun w => w.1 == t) with
  | none => rw [hf] at h; cases h
  | some p =>
    rw [hf] at h
    rcases ite_eq_cases (of_guard h).2 with ⟨_, h⟩ | ⟨_, h⟩
    · cases h; exact .inl rfl
    · injection h with h
      exact (exProceed_frames h :)

/-- A notified waiter that gets the RLock (which is free then) does what a blocking `exEnter` does
    once it has the RLock: its saved recursion depth is 1 = 0 + 1. -/
theorem exWake_as_exEnter (hi : Inv s)
    (h : s.exWake t r = some (s', o)) :
    s.owner = none ∧
    ({ s with waiting := s.waiting.filter (fun w => w.1 != t),
              notified := s.notified.filter (· != t) } : TL).exEnter t true r = some (s', o) := by
  unfold TL.exWake at h
  cases hf : s.waiting.find? (fun w => w.1 == t) with
  | none => rw [hf] at h; cases h
  | some p =>
    rw [hf] at h
    obtain ⟨a, d⟩ := p
    cases hi.waitDepth _ (List.mem_of_find?_eq_some hf)
    obtain ⟨hc, h⟩ := of_guard h
    have ho : s.owner = none := eq_of_beq (Bool.and_eq_true_iff.mp hc).2
    refine ⟨ho, ?_⟩
    simp only [TL.exEnter, rlockAvail, ho, TL.acquire, hi.free ho, if_true]
    exact h

theorem exWake_inv (hi : Inv s)
    (h : s.exWake t r = some (s', o)) : Inv s' := by
  obtain ⟨ho, h'⟩ := exWake_as_exEnter hi h
  refine (exEnter_spec h').2 ?_ ?_
  · exact Inv.of_free ho (hi.free ho) (hi.noEx_of_free ho) (hi.waitOK.leave t)
  · exact Bool.eq_false_iff.mpr fun hw => by
      obtain ⟨d, hd⟩ := isWaiting_iff.mp hw
      simpa using (List.mem_filter.mp hd).2

theorem step_spec {e : Ev} (h : step fixed s e = some (s', o)) :
    FramesStep e.tid s.frames s'.frames ∧ (fixed = true → Inv s → Inv s') := by
  cases e with
  | shEnter t b r =>
    exact (shEnter_spec (of_guard_not h).2).imp_right fun k _ => k
  | shExit t =>
    exact shExit_spec (of_guard_not h).2
  | exEnter t b r =>
    obtain ⟨hw, h⟩ := of_guard_not h
    exact (exEnter_spec h).imp_right fun k _ hi => k hi (Bool.eq_false_iff.mpr hw)
  | exWake t r => exact ⟨exWake_frames h, fun _ hi => exWake_inv hi h⟩
  | exExit t =>
    exact (exExit_spec (of_guard_not h).2).imp_right fun k _ => k

theorem runEvs_inv (evs : List Ev) : ∀ {s s' : TL}, Inv s → runEvs true s evs = some s' → Inv s' := by
  induction evs with
  | nil => intro s s' hi h; cases h; exact hi
  | cons e es ih =>
    intro s s' hi h
    rw [runEvs] at h
    split at h
    · cases h
    · rename_i hs; exact ih ((step_spec hs).2 rfl hi) h

end Pharmpy.C15
