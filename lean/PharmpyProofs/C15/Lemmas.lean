import PharmpyModel.C15.Thread
/-
  Taking an `if` in a hypothesis apart (`ite_eq_cases`, `of_guard`, `of_guard_not`), and frame lists of
  the thread-level lock: `cnt`, `exc`, `oldSh` under push and LIFO pop.
-/
namespace Pharmpy.C15
open TL

/-- Takes `h : f s = some (s', o)` apart, `f` a nest of `if`s, one level at a time. -/
theorem ite_eq_cases {α : Sort _} {c : Prop} [Decidable c] {a b x : α}
    (h : (if c then a else b) = x) : (c ∧ a = x) ∨ (¬c ∧ b = x) := by
  split at h
  · exact .inl ⟨‹_›, h⟩
  · exact .inr ⟨‹_›, h⟩

theorem of_guard {α : Type _} {c : Prop} [Decidable c] {a : Option α} {x : α}
    (h : (if c then a else none) = some x) : c ∧ a = some x :=
  (ite_eq_cases h).elim id fun h => nomatch h.2
theorem of_guard_not {α : Type _} {c : Prop} [Decidable c] {a : Option α} {x : α}
    (h : (if c then none else a) = some x) : ¬c ∧ a = some x :=
  (ite_eq_cases h).elim (fun h => nomatch h.2) id

theorem cnt_cons (f : Tid × Bool) (fs : List (Tid × Bool)) (x : Tid) :
    cnt (f :: fs) x = (if f.1 = x then 1 else 0) + cnt fs x := rfl
theorem exc_cons (f : Tid × Bool) (fs : List (Tid × Bool)) (x : Tid) :
    exc (f :: fs) x = (if f.1 = x ∧ f.2 = true then 1 else 0) + exc fs x := rfl
theorem oldSh_cons (f : Tid × Bool) (fs : List (Tid × Bool)) (x : Tid) :
    oldSh (f :: fs) x = if f.1 = x then (if cnt fs x = 0 then !f.2 else oldSh fs x) else oldSh fs x := rfl

variable {fs fs' : List (Tid × Bool)} {t x : Tid} {m : Bool}

theorem exc_le_cnt (fs : List (Tid × Bool)) (t : Tid) : exc fs t ≤ cnt fs t := by
  induction fs with
  | nil => exact Nat.le_refl 0
  | cons f fs ih =>
    rw [exc_cons, cnt_cons]
    refine Nat.add_le_add ?_ ih
    split
    · rename_i h; rw [if_pos h.1]; exact Nat.le_refl 1
    · exact Nat.zero_le _

theorem oldSh_pos (h : oldSh fs t = true) : 0 < cnt fs t := by
  induction fs with
  | nil => cases h
  | cons f fs ih =>
    rw [oldSh_cons] at h
    rw [cnt_cons]
    by_cases hf : f.1 = t
    · rw [if_pos hf]; exact Nat.add_pos_left Nat.one_pos _
    · rw [if_neg hf] at h ⊢; rw [Nat.zero_add]; exact ih h

/-- The oldest frame of `t` is one of its frames, and none of them is exclusive. -/
theorem oldSh_of_noex (h0 : exc fs t = 0) (h1 : 0 < cnt fs t) :
    oldSh fs t = true := by
  induction fs with
  | nil => cases h1
  | cons f fs ih =>
    rw [exc_cons] at h0
    rw [cnt_cons] at h1
    rw [oldSh_cons]
    grind

theorem oldSh_push (f : Tid × Bool) (h : oldSh fs x = true) :
    oldSh (f :: fs) x = true := by
  rw [oldSh_cons]
  have := oldSh_pos h
  split
  · rw [if_neg (by omega)]; exact h
  · exact h

theorem others_iff (fs : List (Tid × Bool)) (t : Tid) :
    (fs.any (fun f => f.1 != t)) = true ↔ ∃ t', t' ≠ t ∧ 0 < cnt fs t' := by
  induction fs with
  | nil => simp [cnt]
  | cons f fs ih =>
    simp only [List.any_cons, Bool.or_eq_true, ih, cnt_cons, bne_iff_ne]
    constructor
    · rintro (h | ⟨t', h1, h2⟩)
      · exact ⟨f.1, h, by rw [if_pos rfl]; omega⟩
      · exact ⟨t', h1, by omega⟩
    · rintro ⟨t', h1, h2⟩
      by_cases hf : f.1 = t'
      · exact .inl (hf ▸ h1)
      · exact .inr ⟨t', h1, by simpa [hf] using h2⟩

theorem others_false_iff (fs : List (Tid × Bool)) (t : Tid) :
    (fs.any (fun f => f.1 != t)) = false ↔ ∀ t', t' ≠ t → cnt fs t' = 0 := by
  rw [← Bool.not_eq_true, others_iff]
  simp only [not_exists, not_and, Nat.not_lt, Nat.le_zero]

/-- `popFrame fs t m = some fs'` as a relation: `fs'` is `fs` without its first frame of `t`, which
    has mode `m`. -/
theorem popFrame_rec {t : Tid} {m : Bool} {P : List (Tid × Bool) → List (Tid × Bool) → Prop}
    (head : ∀ fs, P ((t, m) :: fs) fs)
    (tail : ∀ f fs fs', f.1 ≠ t → popFrame fs t m = some fs' → P fs fs' → P (f :: fs) (f :: fs'))
    {fs fs' : List (Tid × Bool)} (h : popFrame fs t m = some fs') : P fs fs' := by
  induction fs generalizing fs' with
  | nil => cases h
  | cons f fs ih =>
    rw [popFrame] at h
    split at h
    · rename_i hf
      split at h
      · rename_i hm
        obtain ⟨a, b⟩ := f
        cases h; cases eq_of_beq hf; cases eq_of_beq hm
        exact head fs
      · cases h
    · rename_i hf
      obtain ⟨fs'', h1, rfl⟩ := Option.map_eq_some_iff.mp h
      exact tail f fs fs'' (by simpa using hf) h1 (ih h1)

theorem popFrame_cnt (h : popFrame fs t m = some fs')
    (x : Tid) : cnt fs x = (if t = x then 1 else 0) + cnt fs' x := by
  refine popFrame_rec (P := fun fs fs' => cnt fs x = _ + cnt fs' x) (fun _ => rfl) ?_ h
  intro f fs fs' _ _ ih
  rw [cnt_cons, cnt_cons, ih]; exact Nat.add_left_comm ..

theorem popFrame_exc (h : popFrame fs t m = some fs')
    (x : Tid) : exc fs x = (if t = x ∧ m = true then 1 else 0) + exc fs' x := by
  refine popFrame_rec (P := fun fs fs' => exc fs x = _ + exc fs' x) (fun _ => rfl) ?_ h
  intro f fs fs' _ _ ih
  rw [exc_cons, exc_cons, ih]; exact Nat.add_left_comm ..

/-- The popped frame was the oldest frame of `t` iff `t` has none left. -/
theorem popFrame_oldSh (h : popFrame fs t m = some fs') (x : Tid) :
    oldSh fs x = if t = x ∧ cnt fs' x = 0 then !m else oldSh fs' x := by
  refine popFrame_rec (P := fun fs fs' => oldSh fs x = if t = x ∧ cnt fs' x = 0 then !m else oldSh fs' x)
    ?_ ?_ h
  · intro fs
    rw [oldSh_cons]
    by_cases hxt : t = x <;> simp [hxt]
  · intro f fs fs' hf hp ih
    rw [oldSh_cons, oldSh_cons, cnt_cons, ih, popFrame_cnt hp x]
    by_cases hfx : f.1 = x
    · -- `x ≠ t`: the frames of `x` below `f` are untouched
      have hxt : ¬ t = x := fun e => hf (hfx.trans e.symm)
      simp [hfx, hxt]
    · simp [hfx]

def FramesStep (t : Tid) (fs fs' : List (Tid × Bool)) : Prop :=
  fs' = fs ∨ (∃ m, fs' = (t, m) :: fs) ∨ ∃ m, popFrame fs t m = some fs'

theorem FramesStep.cnt_other (h : FramesStep t fs fs')
    (hx : x ≠ t) : cnt fs' x = cnt fs x := by
  rcases h with h | ⟨m, h⟩ | ⟨m, h⟩
  · rw [h]
  · rw [h, cnt_cons, if_neg hx.symm, Nat.zero_add]
  · rw [popFrame_cnt h x, if_neg hx.symm, Nat.zero_add]

end Pharmpy.C15
