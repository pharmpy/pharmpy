import PharmpyModel.C15.Proc
import PharmpyProofs.C15.Lemmas
/-
  Invariant of the process-level lock + kernel table (per process: `Agree`) and its preservation.
-/
namespace Pharmpy.C15
open KS

/-- The bookkeeping `l` of process `p` against the kernel table `k`: holders have an
    entry of the right mode, an entry has holders, and a pending `lockf` call is either a first lock
    / upgrade (`addAfter`; if shared, nothing is held yet) or the downgrade of an exclusive entry. -/
structure Agree (k : List (Pid × Bool)) (p : Pid) (l : PL) : Prop where
  exEntry : l.exclBy ≠ [] → (p, true) ∈ k
  shEntry : l.sharedBy ≠ [] → ∃ m, (p, m) ∈ k
  noLeak  : ∀ m, (p, m) ∈ k → isHeld l = true
  pendSh  : ∀ pd, l.pend = some pd → pd.addAfter = true → pd.shared = true → isHeld l = false
  pendDown : ∀ pd, l.pend = some pd → pd.addAfter = false →
              pd.shared = true ∧ l.exclBy = [] ∧ l.sharedBy ≠ [] ∧ (p, true) ∈ k

structure KInv (s : KS) : Prop where
  nodup  : (s.kernel.map (·.1)).Nodup
  exOnly : ∀ p, (p, true) ∈ s.kernel → ∀ e ∈ s.kernel, e.1 = p
  agree  : ∀ p, Agree s.kernel p (s.procs p)

theorem Agree.of_nopend {k : List (Pid × Bool)} {p : Pid} {l : PL} (hp : l.pend = none)
    (hex : l.exclBy ≠ [] → (p, true) ∈ k) (hsh : l.sharedBy ≠ [] → ∃ m, (p, m) ∈ k)
    (hleak : ∀ m, (p, m) ∈ k → isHeld l = true) : Agree k p l :=
  ⟨hex, hsh, hleak, fun _ h => absurd (hp.symm.trans h) nofun,
   fun _ h => absurd (hp.symm.trans h) nofun⟩

theorem kinv_init : KInv {} :=
  ⟨List.nodup_nil, fun _ h => (List.not_mem_nil h).elim, fun _ =>
   .of_nopend rfl (fun h => absurd rfl h) (fun h => absurd rfl h) fun _ h => (List.not_mem_nil h).elim⟩

/-- `Agree k p` looks only at the entries of `p`. -/
theorem Agree.congr {k k' : List (Pid × Bool)} {p : Pid} {l : PL} (ha : Agree k p l)
    (h : ∀ m, (p, m) ∈ k' ↔ (p, m) ∈ k) : Agree k' p l :=
  ⟨fun e => (h _).mpr (ha.exEntry e), fun e => (ha.shEntry e).imp fun m => (h m).mpr,
   fun m hm => ha.noLeak m ((h m).mp hm), ha.pendSh,
   fun pd h1 h2 => (ha.pendDown pd h1 h2).imp_right (·.imp_right (·.imp_right (h _).mpr))⟩

theorem Agree.entry_of_held {k : List (Pid × Bool)} {p : Pid} {l : PL} (ha : Agree k p l)
    (hh : isHeld l = true) : ∃ m, (p, m) ∈ k := by
  rcases (Bool.or_eq_true _ _).mp hh with h | h
  · exact ha.shEntry fun e => by simp [e] at h
  · exact ⟨true, ha.exEntry fun e => by simp [e] at h⟩

theorem ne_nil_of_contains {l : List Nat} {t : Nat} (h : l.contains t = true) : l ≠ [] :=
  fun e => by simp [e] at h

theorem setProc_same (s : KS) (p : Pid) (l : PL) : (s.setProc p l).procs p = l := if_pos rfl
theorem setProc_other (s : KS) (p q : Pid) (l : PL) (h : q ≠ p) : (s.setProc p l).procs q = s.procs q :=
  if_neg h
@[simp] theorem setProc_kernel (s : KS) (p : Pid) (l : PL) : (s.setProc p l).kernel = s.kernel := rfl

theorem mem_kset {s : KS} {p q : Pid} {ex m : Bool} :
    (q, m) ∈ (s.kset p ex).kernel ↔ (q = p ∧ m = ex) ∨ ((q, m) ∈ s.kernel ∧ q ≠ p) := by
  simp [kset]
theorem mem_kerase {s : KS} {p q : Pid} {m : Bool} :
    (q, m) ∈ (s.kerase p).kernel ↔ (q, m) ∈ s.kernel ∧ q ≠ p := by
  simp [kerase]

theorem isHeld_iff (l : PL) : isHeld l = true ↔ l.sharedBy ≠ [] ∨ l.exclBy ≠ [] := by
  simp [isHeld]
theorem isHeld_false_iff (l : PL) : isHeld l = false ↔ l.sharedBy = [] ∧ l.exclBy = [] := by
  simp [isHeld]
theorem isHeld_add (l : PL) (t : Nat) (sh : Bool) : isHeld (addHolder l t sh) = true := by
  cases sh <;> simp [isHeld, addHolder]
theorem addHolder_pend (l : PL) (t : Nat) (sh : Bool) : (addHolder l t sh).pend = l.pend := by
  cases sh <;> rfl
theorem removeHolder_pend (l : PL) (t : Nat) (sh : Bool) : (removeHolder l t sh).pend = l.pend := by
  cases sh <;> rfl
theorem removeHolder_exclBy {l : PL} {t : Nat} {sh : Bool} (h : (removeHolder l t sh).exclBy ≠ []) :
    l.exclBy ≠ [] := by
  cases sh
  · exact fun e => h (by simp [removeHolder, e])
  · exact h
theorem removeHolder_sharedBy {l : PL} {t : Nat} {sh : Bool} (h : (removeHolder l t sh).sharedBy ≠ []) :
    l.sharedBy ≠ [] := by
  cases sh
  · exact h
  · exact fun e => h (by simp [removeHolder, e])

namespace KInv
variable {s : KS} {p : Pid} {l : PL}

theorem update (hi : KInv s) {k' : List (Pid × Bool)} (hn : (k'.map (·.1)).Nodup)
    (hex : ∀ q, (q, true) ∈ k' → ∀ e ∈ k', e.1 = q)
    (hoth : ∀ q, q ≠ p → ∀ m, (q, m) ∈ k' ↔ (q, m) ∈ s.kernel) (ha : Agree k' p l) :
    KInv (({ s with kernel := k' } : KS).setProc p l) := by
  refine ⟨hn, hex, fun q => ?_⟩
  by_cases h : q = p
  · subst h; rw [setProc_same]; exact ha
  · rw [setProc_other _ _ _ _ h]; exact (hi.agree q).congr (hoth q h)

theorem setProc (hi : KInv s) (ha : Agree s.kernel p l) : KInv (s.setProc p l) :=
  hi.update hi.nodup hi.exOnly (fun _ _ _ => Iff.rfl) ha

theorem kset (hi : KInv s) {ex : Bool} (hg : s.grantable p ex = true)
    (ha : Agree (s.kset p ex).kernel p l) : KInv ((s.kset p ex).setProc p l) := by
  have hgr : ∀ e ∈ s.kernel, e.1 = p ∨ (ex = false ∧ e.2 = false) := fun e he => by
    simpa using List.all_eq_true.mp hg e he
  refine hi.update ?_ ?_ (fun q hq m => mem_kset.trans (by simp [hq])) ha
  · refine List.nodup_cons.mpr ⟨fun hm => ?_, (List.filter_sublist.map _).nodup hi.nodup⟩
    obtain ⟨e, he, hep⟩ := List.mem_map.mp hm
    simpa [hep] using (List.mem_filter.mp he).2
  · -- an exclusive entry after the grant is the new one, and then no other process had any
    intro q hq e he
    rcases mem_kset.mp hq with ⟨rfl, rfl⟩ | ⟨hq, hqp⟩
    · rcases (mem_kset (q := e.1) (m := e.2)).mp he with h | ⟨he, hep⟩
      · exact h.1
      · exact (hgr e he).elim id fun h => Bool.noConfusion h.1
    · exact (hgr _ hq).elim (absurd · hqp) fun h => Bool.noConfusion h.2

theorem kerase (hi : KInv s) (ha : Agree (s.kerase p).kernel p l) :
    KInv ((s.kerase p).setProc p l) :=
  hi.update ((List.filter_sublist.map _).nodup hi.nodup)
    (fun q hq e he => hi.exOnly q (mem_kerase.mp hq).1 e (List.mem_filter.mp he).1)
    (fun _ hq _ => mem_kerase.trans (and_iff_left hq)) ha

end KInv

variable {s s' : KS} {o : POut} {p : Pid} {t : Nat} {sh b r : Bool}

theorem pEnter_inv (hi : KInv s)
    (h : s.pEnter p t sh b r = some (s', o)) : KInv s' := by
  have ha := hi.agree p
  unfold KS.pEnter at h
  simp only [] at h
  cases hp : (s.procs p).pend with
  | some pd =>
    rw [hp] at h
    cases (of_guard_not h).2; exact hi
  | none =>
    rw [hp] at h
    rcases ite_eq_cases h with ⟨_, h⟩ | ⟨_, h⟩
    · cases h; exact hi
    · rcases ite_eq_cases h with ⟨hneed, h⟩ | ⟨hneed, h⟩
      · cases h
        refine hi.setProc ⟨ha.exEntry, ha.shEntry, ha.noLeak, ?_, ?_⟩
        · rintro _ ⟨⟩ _ (rfl : sh = true)
          exact (by simpa using hneed : isHeld (s.procs p) = false)
        · rintro _ ⟨⟩ h; cases h
      · cases h
        have hheld : isHeld (s.procs p) = true := by
          cases hh : isHeld (s.procs p)
          · simp [hh] at hneed
          · rfl
        refine hi.setProc (.of_nopend ((addHolder_pend ..).trans hp) (fun hex => ?_) (fun _ => ?_)
          fun _ _ => isHeld_add ..)
        · cases sh
          · -- exclusive request without `lockf`: no shared holder, so an exclusive one
            have hns : (s.procs p).sharedBy = [] := by simpa [hheld] using hneed
            exact ha.exEntry (((isHeld_iff _).mp hheld).resolve_left (absurd hns))
          · exact ha.exEntry hex
        · exact ha.entry_of_held hheld

theorem pExit_inv (hi : KInv s)
    (h : s.pExit p t sh = some (s', o)) : KInv s' := by
  have ha := hi.agree p
  unfold KS.pExit at h
  simp only [] at h
  cases hp : (s.procs p).pend with
  | some pd => rw [hp] at h; cases h
  | none =>
    rw [hp] at h
    have hp1 : (removeHolder (s.procs p) t sh).pend = none := (removeHolder_pend ..).trans hp
    obtain ⟨hin, h⟩ := of_guard_not h
    have hin : (if sh = true then (s.procs p).sharedBy.contains t else (s.procs p).exclBy.contains t) = true := by
      simpa only [Bool.not_eq_true', Bool.not_eq_false] using hin
    rcases ite_eq_cases h with ⟨hheld, h⟩ | ⟨hheld, h⟩
    · cases h
      obtain ⟨h1, h2⟩ := (isHeld_false_iff _).mp (by simpa using hheld)
      exact hi.kerase (.of_nopend hp1 (absurd h2) (absurd h1) fun m hm => absurd rfl (mem_kerase.mp hm).2)
    · have hheld : isHeld (removeHolder (s.procs p) t sh) = true := by simpa using hheld
      rcases ite_eq_cases h with ⟨hdown, h⟩ | ⟨_, h⟩
      · -- the last exclusive holder leaves, shared ones stay: downgrade
        cases h
        obtain ⟨hex, rfl⟩ : (removeHolder (s.procs p) t sh).exclBy = [] ∧ sh = false := by
          simpa using hdown
        have hk : (p, true) ∈ s.kernel := ha.exEntry (ne_nil_of_contains hin)
        have hsh := ((isHeld_iff _).mp hheld).resolve_right (absurd hex)
        refine hi.setProc ⟨absurd hex, fun _ => ⟨true, hk⟩, fun _ _ => hheld, ?_, ?_⟩
        · rintro _ ⟨⟩ h; cases h
        · rintro _ ⟨⟩ _; exact ⟨rfl, hex, hsh, hk⟩
      · cases h
        exact hi.setProc (.of_nopend hp1 (fun e => ha.exEntry (removeHolder_exclBy e))
          (fun e => ha.shEntry (removeHolder_sharedBy e)) fun _ _ => hheld)

theorem pLockf_inv (hi : KInv s)
    (h : s.pLockf p t = some (s', o)) : KInv s' := by
  have ha := hi.agree p
  unfold KS.pLockf at h
  simp only [] at h
  cases hp : (s.procs p).pend with
  | none => rw [hp] at h; cases h
  | some pd =>
    rw [hp] at h
    rcases ite_eq_cases (of_guard_not h).2 with ⟨hg, h⟩ | ⟨_, h⟩
    · have hnew : (p, !pd.shared) ∈ (s.kset p (!pd.shared)).kernel := mem_kset.mpr (.inl ⟨rfl, rfl⟩)
      rcases ite_eq_cases h with ⟨hadd, h⟩ | ⟨hadd, h⟩
      · cases h
        refine hi.kset hg (.of_nopend (addHolder_pend ..) (fun hex => ?_) (fun _ => ⟨_, hnew⟩)
          fun _ _ => isHeld_add ..)
        rcases Bool.eq_false_or_eq_true pd.shared with hs | hs
        · -- a shared first lock: nothing was held, so there is no exclusive holder now
          have := ((isHeld_false_iff _).mp (ha.pendSh pd hp hadd hs)).2
          simp [addHolder, hs, this] at hex
        · rw [hs] at hnew ⊢; exact hnew
      · cases h
        obtain ⟨_, hex, hsh, _⟩ := ha.pendDown pd hp (by simpa using hadd)
        exact hi.kset hg (.of_nopend rfl (absurd hex) (fun _ => ⟨_, hnew⟩)
          fun _ _ => (isHeld_iff _).mpr (.inl hsh))
    · cases (of_guard_not h).2
      exact hi.setProc (.of_nopend rfl ha.exEntry ha.shEntry ha.noLeak)

theorem pstep_inv (e : PEv) (hi : KInv s)
    (h : pstep s e = some (s', o)) : KInv s' := by
  cases e with
  | enter p t sh b r => exact pEnter_inv hi h
  | lockf p t => exact pLockf_inv hi h
  | exit p t sh => exact pExit_inv hi h

theorem prun_inv (evs : List PEv) : ∀ {s s' : KS}, KInv s → prun s evs = some s' → KInv s' := by
  induction evs with
  | nil => intro s s' hi h; cases h; exact hi
  | cons e es ih =>
    intro s s' hi h
    rw [prun] at h
    split at h
    · cases h
    · rename_i hs; exact ih (pstep_inv e hi hs) h

end Pharmpy.C15
