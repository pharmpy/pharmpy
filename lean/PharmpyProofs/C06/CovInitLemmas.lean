import Mathlib.Algebra.Order.Field.Basic
import Mathlib.Algebra.Order.Field.Rat
import PharmpyModel.C06.CovInit
namespace Pharmpy.C06.CovInit

theorem rnd_nonneg (n : Int) (d : Nat) (hn : 0 ≤ n) : 0 ≤ rnd n d := by
  have h : 0 ≤ n / (d : Int) := Int.ediv_nonneg hn (Int.natCast_nonneg d)
  unfold rnd
  dsimp only
  repeat' split
  all_goals omega

/-- Rounding up happens only on a positive remainder, hence never from a zero floor of a nonpositive `n`. -/
theorem rnd_nonpos (n : Int) (d : Nat) (hd : 0 < d) (hn : n ≤ 0) : rnd n d ≤ 0 := by
  have h : n / (d : Int) ≤ 0 := Int.ediv_nonpos_of_nonpos_of_neg hn (by omega)
  have hrem : n / (d : Int) = 0 → n % (d : Int) = n := fun h0 => by simp [Int.emod_def, h0]
  unfold rnd
  dsimp only
  repeat' split
  all_goals omega

theorem round4_nonneg (q : Rat) (h : 0 ≤ q) : 0 ≤ round4 q :=
  rnd_nonneg _ _ (Int.mul_nonneg (Rat.num_nonneg.mpr h) (by decide))

theorem round4_nonpos (q : Rat) (h : q ≤ 0) : round4 q ≤ 0 :=
  rnd_nonpos _ _ q.den_pos (Int.mul_nonpos_of_nonpos_of_nonneg (Rat.num_nonpos.mpr h) (by decide))

/-- the general branch of the `exp` bounds: `lower ≤ 0 ≤ upper` -/
theorem exp_general_signs (minDiff maxDiff : Rat) (hmin : minDiff < 0) (hmax : 0 < maxDiff) :
    round4 (pmax ((-2) / maxDiff) (2 / minDiff)) ≤ 0 ∧ 0 ≤ round4 (pmin ((-2) / minDiff) (2 / maxDiff)) := by
  constructor
  · apply round4_nonpos
    unfold pmax
    split
    · exact div_nonpos_of_nonneg_of_nonpos (by decide) hmin.le
    · exact div_nonpos_of_nonpos_of_nonneg (by decide) hmax.le
  · apply round4_nonneg
    unfold pmin
    split
    · exact div_nonneg (by decide) hmax.le
    · exact div_nonneg_of_nonpos (by decide) hmin.le

theorem inv_gap_nonpos (md mx : Rat) (h : md ≤ mx) : round4 (1 / (md - mx)) ≤ 0 :=
  round4_nonpos _ (div_nonpos_of_nonneg_of_nonpos (by decide) (sub_nonpos.mpr h))

end Pharmpy.C06.CovInit
