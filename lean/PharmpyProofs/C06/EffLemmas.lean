import PharmpyModel.C06.Effects
namespace Pharmpy.C06.Eff

/-- Names bound to an argument-owned region (`< K`) are tainted; fresh ids are `≥ K`. -/
def Inv (t : List Name) (K : Nat) (σ : State) : Prop :=
  K ≤ σ.next ∧ ∀ x o, σ.env x = some o → o < K → x ∈ t

variable {body : List Stmt} {t : List Name} {K : Nat}

theorem step_sound (hc : closed body t = true) (hw : noTaintedWrite body t = true)
    {s : Stmt} (hs : s ∈ body) {σ : State} (hi : Inv t K σ) :
    Inv t K (step s σ) ∧ ∀ o < K, (step s σ).ver o = σ.ver o := by
  obtain ⟨hn, he⟩ := hi
  cases s with
  | alias x y =>
    -- `x` now denotes what `y` did; if that is argument-owned, `y` is tainted and closedness taints `x`
    have hxy : y ∉ t ∨ x ∈ t := by simpa using List.all_eq_true.mp hc _ hs
    refine ⟨⟨hn, fun z o hz ho => ?_⟩, fun _ _ => rfl⟩
    simp only [step] at hz
    split at hz
    · subst z; exact hxy.resolve_left (fun h => h (he y o hz ho))
    · exact he z o hz ho
  | fresh x =>
    refine ⟨⟨Nat.le_succ_of_le hn, fun z o hz ho => ?_⟩, fun _ _ => rfl⟩
    simp only [step] at hz
    split at hz
    · cases hz; omega
    · exact he z o hz ho
  | write x =>
    have hx : x ∉ t := by simpa using List.all_eq_true.mp hw _ hs
    simp only [step]
    split
    · exact ⟨⟨hn, he⟩, fun _ _ => rfl⟩
    · next p hp =>
      refine ⟨⟨hn, he⟩, fun o ho => ?_⟩
      have : o ≠ p := fun h => hx (he x o (h ▸ hp) ho)
      simp [this]

theorem check_sound {f : Fn} (hc : check f = true) (tr : List Stmt) (htr : ∀ s ∈ tr, s ∈ f.body)
    (σ : State) (hK : K ≤ σ.next) (hinit : ∀ x o, σ.env x = some o → o < K → x ∈ f.params) :
    Inv (taint f) K (run tr σ) ∧ ∀ o < K, (run tr σ).ver o = σ.ver o := by
  simp only [check, Bool.and_eq_true] at hc
  obtain ⟨⟨hp, hcl⟩, hw⟩ := hc
  have hi : Inv (taint f) K σ :=
    ⟨hK, fun x o hx ho => by simpa using List.all_eq_true.mp hp x (hinit x o hx ho)⟩
  clear hK hinit
  induction tr generalizing σ with
  | nil => exact ⟨hi, fun _ _ => rfl⟩
  | cons s tr ih =>
    have ⟨hi', hv⟩ := step_sound hcl hw (htr s (.head _)) hi
    have ⟨hi'', hv'⟩ := ih (fun s' h => htr s' (.tail _ h)) _ hi'
    exact ⟨hi'', fun o ho => (hv' o ho).trans (hv o ho)⟩

/-! `taint f` runs as many propagation rounds as the body has statements.  A `closed` set is a fixpoint of the round,
    so the iteration may stop at the first closed set. -/

theorem taintRound_of_closed : ∀ {body : List Stmt}, closed body t = true → taintRound body t = t
  | [], _ => rfl
  | s :: body, hc => by
    simp only [closed, List.all_cons, Bool.and_eq_true] at hc
    have hs : taintRound (s :: body) t = taintRound body t := by
      cases s with
      | alias x y =>
        have : ¬(y ∈ t ∧ x ∉ t) := fun h => h.2 ((by simpa using hc.1 : y ∉ t ∨ x ∈ t).resolve_left (· h.1))
        simp [taintRound, this]
      | _ => rfl
    exact hs.trans (taintRound_of_closed hc.2)

theorem taintIter_of_closed (hc : closed body t = true) : ∀ n, taintIter body n t = t
  | 0 => rfl
  | n + 1 => by rw [taintIter, taintRound_of_closed hc, taintIter_of_closed hc n]

def accepts (f : Fn) (t : List Name) : Bool :=
  f.params.all t.contains && closed f.body t && noTaintedWrite f.body t

/-- `check` with at most `n` further rounds from `t`, stopping at the first closed set. -/
def checkFrom (f : Fn) : Nat → List Name → Bool
  | 0, t => accepts f t
  | n + 1, t =>
    if closed f.body t then f.params.all t.contains && noTaintedWrite f.body t
    else checkFrom f n (taintRound f.body t)

theorem checkFrom_eq (f : Fn) : ∀ n t, checkFrom f n t = accepts f (taintIter f.body n t)
  | 0, _ => rfl
  | n + 1, t => by
    rw [checkFrom]
    split
    · next hc => simp [accepts, taintIter_of_closed hc, hc]
    · exact checkFrom_eq f n _

theorem check_eq_checkFrom (f : Fn) : check f = checkFrom f f.body.length f.params :=
  (checkFrom_eq f _ _).symm

end Pharmpy.C06.Eff
