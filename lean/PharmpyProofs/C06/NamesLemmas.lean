import PharmpyModel.C06.Names
/-
  `create` walks the flattened list of names with a growing seen-set and accepts exactly the duplicate-free lists.
-/
namespace Pharmpy.C06.Names
open checkFrom (checkNames)

theorem checkNames_append (seen a b : List String) :
    checkNames seen (a ++ b) = (checkNames seen a).bind (checkNames · b) := by
  induction a generalizing seen with
  | nil => rfl
  | cons n a ih =>
    simp only [List.cons_append, checkNames]
    split
    · rfl
    · exact ih _

theorem checkFrom_eq_checkNames (seen : List String) (xs : List Item) :
    checkFrom seen xs = (checkNames seen (namesOf xs)).map fun _ => () := by
  induction xs generalizing seen with
  | nil => rfl
  | cons x xs ih =>
    simp only [checkFrom, namesOf, List.flatMap_cons, checkNames_append]
    cases checkNames seen x.names with
    | error n => rfl
    | ok seen' => exact ih seen'

theorem checkNames_isOk_iff (seen ns : List String) :
    (∃ s, checkNames seen ns = .ok s) ↔ ns.Nodup ∧ ∀ n ∈ ns, n ∉ seen := by
  induction ns generalizing seen with
  | nil => simp [checkNames]
  | cons n ns ih =>
    simp only [checkNames]
    split
    · next hc => simp [List.contains_iff_mem.mp hc]
    · next hc =>
      have hn : n ∉ seen := by simpa using hc
      rw [ih]
      simp only [List.nodup_cons, List.mem_cons, not_or, forall_eq_or_imp]
      grind

theorem checkFrom_ok_iff (seen : List String) (xs : List Item) :
    checkFrom seen xs = .ok () ↔ (namesOf xs).Nodup ∧ ∀ n ∈ namesOf xs, n ∉ seen := by
  rw [checkFrom_eq_checkNames, ← checkNames_isOk_iff]
  cases checkNames seen (namesOf xs) <;> simp [Except.map]

theorem createChecked_eq_ok_iff (xs ys : List Item) :
    createChecked xs = .ok ys ↔ ys = xs ∧ (namesOf xs).Nodup := by
  have h := checkFrom_ok_iff [] xs
  unfold createChecked
  cases hc : checkFrom [] xs <;> simp_all [eq_comm]

theorem namesOf_append (xs ys : List Item) : namesOf (xs ++ ys) = namesOf xs ++ namesOf ys :=
  List.flatMap_append

end Pharmpy.C06.Names
