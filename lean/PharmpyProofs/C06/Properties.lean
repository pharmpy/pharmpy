import PharmpyProofs.C06.Lemmas
import PharmpyProofs.C06.EffLemmas
import PharmpyProofs.C06.KindLemmas
import PharmpyProofs.C06.NamesLemmas
import PharmpyModel.Generated.Containers
import PharmpyModel.C06.Cache
import PharmpyModel.Generated.EqHash
import PharmpyModel.Generated.Effects
/-
  C06 — models are immutable values: `==` is consistent with `hash` (T3a); no in-place write reaches an argument (T3b);
  names are unique in the named collections (T3c); cached hashes do not leak into derived objects.
-/
namespace Pharmpy.C06
open Pharmpy.C06.Generated

/-- If every hashed field of every object inside `a` is compared by `__eq__` in a way that determines what the hash
    sees (`lawful`), then `a == b` implies `hash a = hash b`, whatever function `H` of the key the interpreter uses. -/
theorem eq_implies_hash_eq (T : Table) (H : Val → Nat)
    (hH : ∀ x y, keyEqv x y = true → H x = H y) (a b : Val)
    (hl : lawful T a = true) (h : eqV T a b = true) :
    H (hashKey T a) = H (hashKey T b) :=
  hH _ _ ((eq_hash_core T).1 a b h hl)

/-- The key form: the keys agree structurally, entry sets (`frozenset(items())`) as sets. -/
theorem eq_implies_hash_key_eqv (T : Table) (a b : Val)
    (hl : lawful T a = true) (h : eqV T a b = true) :
    keyEqv (hashKey T a) (hashKey T b) = true :=
  (eq_hash_core T).1 a b h hl

/-- The key form for a field chain compared and hashed field-wise by a class. -/
theorem eq_implies_hash_eq_fields (T : Table) (fs : List FieldSpec) (vs vs' : Val)
    (hl : lawfulFs T fs vs = true) (h : eqFs T fs vs vs' = true) :
    keyEqv (hashFs T fs vs) (hashFs T fs vs') = true :=
  (eq_hash_core T).2 fs vs vs' h hl

/-- A class whose `__eq__` starts with `if hash(self) != hash(other): return False`
    (Parameter, Parameters, Assignment) is consistent whatever its fields are. -/
theorem hash_guard_consistent (T : Table) (c : String) (sp : ClassSpec) (vs b : Val)
    (hf : T.find c = some sp) (hg : sp.hashGuard = true) (h : eqV T (.obj c vs) b = true) :
    keyEqv (hashKey T (.obj c vs)) (hashKey T b) = true :=
  (eq_hash_core T).1 _ b h (by simp [lawful, hf, hg])

/-- A class that compares a graph by content but hashes the graph object (identity):
    `CompartmentalSystem` at /repo 2f7a606 (`hash((self._t, self._g))`). -/
def specIdentityHash : ClassSpec :=
  { name := "CS", hashGuard := false, fields := [
      { name := "_g", cmp := some .content, hash := some .plain, kind := .ident },
      { name := "_t", cmp := some .plain, hash := some .plain, kind := .prim } ] }

theorem identity_hash_witness :
    ∃ a b, eqV [specIdentityHash] a b = true ∧ keyEqv (hashKey [specIdentityHash] a) (hashKey [specIdentityHash] b) = false :=
  ⟨.obj "CS" (.cons (.ident 1 "g") (.cons (.atom "t") .nil)),
   .obj "CS" (.cons (.ident 2 "g") (.cons (.atom "t") .nil)), by decide +kernel, by decide +kernel⟩

/-- A class that hashes a field its `__eq__` ignores: `Model._dataset`,
    `ColumnInfo._descriptor` at /repo 2f7a606. -/
def specHashedNotCompared : ClassSpec :=
  { name := "CI", hashGuard := false, fields := [
      { name := "_name", cmp := some .plain, hash := some .plain, kind := .prim },
      { name := "_descriptor", cmp := none, hash := some .plain, kind := .prim } ] }

theorem hashed_not_compared_witness :
    ∃ a b, eqV [specHashedNotCompared] a b = true ∧
      keyEqv (hashKey [specHashedNotCompared] a) (hashKey [specHashedNotCompared] b) = false :=
  ⟨.obj "CI" (.cons (.atom "WGT") (.cons (.atom "age") .nil)),
   .obj "CI" (.cons (.atom "WGT") (.cons (.atom "body weight") .nil)), by decide +kernel, by decide +kernel⟩

/-- A mapping compared as a mapping (order-free) and hashed through `tuple(items())`:
    `frozenmapping` at /repo 2f7a606. -/
def specOrderedItems : ClassSpec :=
  { name := "FM", hashGuard := false, fields := [
      { name := "_mapping", cmp := some .plain, hash := some .orderedItems, kind := .dict } ] }

theorem ordered_items_witness :
    ∃ a b, eqV [specOrderedItems] a b = true ∧ keyEqv (hashKey [specOrderedItems] a) (hashKey [specOrderedItems] b) = false :=
  ⟨.obj "FM" (.cons (.dict [("a", "1"), ("b", "2")]) .nil),
   .obj "FM" (.cons (.dict [("b", "2"), ("a", "1")]) .nil), by decide +kernel, by decide +kernel⟩

/-- A class that compares a graph by its (order-free) content but hashes an iteration over it in insertion order
    (`tuple(g.edges.data('rate'))`, the flows in the order they were added). -/
def specOrderedContent : ClassSpec :=
  { name := "CS", hashGuard := false, fields := [
      { name := "_g", cmp := some .content, hash := some .orderedContent, kind := .ident } ] }

theorem ordered_content_witness :
    ∃ a b, eqV [specOrderedContent] a b = true ∧
      keyEqv (hashKey [specOrderedContent] a) (hashKey [specOrderedContent] b) = false :=
  ⟨.obj "CS" (.cons (.ident 1 "n|e#out;c2p;p2c") .nil),
   .obj "CS" (.cons (.ident 2 "n|e#p2c;c2p;out") .nil), by decide +kernel, by decide +kernel⟩

/-- The repaired shapes of /repo (3364a47 `hash(frozenset(items()))`, d2e36d7 `frozenset(g.nodes)`) satisfy
    the law on the same objects: the keys are equivalent. -/
example :
    let T : Table := [{ name := "FM", hashGuard := false, fields := [
      { name := "_mapping", cmp := some .plain, hash := some .itemSet, kind := .dict } ] }]
    let a := Val.obj "FM" (.cons (.dict [("a", "1"), ("b", "2")]) .nil)
    let b := Val.obj "FM" (.cons (.dict [("b", "2"), ("a", "1")]) .nil)
    eqV T a b = true ∧ lawful T a = true ∧ keyEqv (hashKey T a) (hashKey T b) = true := by decide +kernel

example :
    let T : Table := [{ name := "CS", hashGuard := false, fields := [
      { name := "_g", cmp := some .content, hash := some .contentPart, kind := .ident } ] }]
    let a := Val.obj "CS" (.cons (.ident 1 "n|e") .nil)
    let b := Val.obj "CS" (.cons (.ident 2 "n|e") .nil)
    eqV T a b = true ∧ lawful T a = true ∧ keyEqv (hashKey T a) (hashKey T b) = true := by decide +kernel

/-- An inconsistency is inherited by every container that hashes the object: a tuple of such
    systems (`Statements._statements`) is equal but hashes differently. -/
theorem inherited_by_container_witness :
    ∃ a b, eqV [specIdentityHash] (.tup a) (.tup b) = true ∧
      keyEqv (hashKey [specIdentityHash] (.tup a)) (hashKey [specIdentityHash] (.tup b)) = false :=
  ⟨.cons (.obj "CS" (.cons (.ident 1 "g") (.cons (.atom "t") .nil))) .nil,
   .cons (.obj "CS" (.cons (.ident 2 "g") (.cons (.atom "t") .nil))) .nil, by decide +kernel, by decide +kernel⟩

/-- Classes of /repo for which the static check is known to fail: `Model` only (`_dataset` is hashed but not compared;
    `_initial_individual_estimates` is compared by content and hashed as the unhashable frame).  frozenmapping,
    ColumnInfo, CompartmentalSystem — and with them DataInfo, the execution steps and Statements — pass since their
    repair in /repo (3364a47, 6f20d2f, d2e36d7). -/
def knownInconsistent : List String := ["Model"]

/-- Every other class of the regenerated table passes the static eq/hash check.  A new `__hash__` that hashes an
    uncompared or identity field breaks this theorem. -/
theorem all_classes_hash_consistent :
    ∀ c ∈ inconsistentClasses eqHashTable, c ∈ knownInconsistent := by
  decide +kernel

/-- If the static check accepts kind `k` (with any fuel), every value typed by `k` according to the table's field
    kinds satisfies the per-field law. -/
theorem class_check_sound (T : Table) (n : Nat) (k : Kind) (v : Val)
    (hok : kindOK T n k = true) (hk : HasKind T k v) : lawful T v = true :=
  kind_sound hk n hok

/-- Hence for every class the static check accepts and every well-typed instance `a` of it (fields of any nesting
    depth and length), `a == b → hash a = hash b`. -/
theorem consistent_class_eq_implies_hash_eq (T : Table) (c : String) (hc : classOK T c = true)
    (a b : Val) (ha : HasKind T (.cls c) a) (h : eqV T a b = true)
    (H : Val → Nat) (hH : ∀ x y, keyEqv x y = true → H x = H y) :
    H (hashKey T a) = H (hashKey T b) :=
  eq_implies_hash_eq T H hH a b (class_check_sound T _ _ a hc ha) h

/-- Non-vacuity of the typed statement on the regenerated table: a well-typed `Parameter`. -/
example : HasKind eqHashTable (.cls "Parameter")
    (.obj "Parameter" (.cons (.atom "CL") (.cons (.atom "0.1") (.cons (.atom "0") (.cons (.atom "inf") (.cons (.atom "False") .nil)))))) :=
  .obj _ cls_Parameter _ (by decide +kernel)
    (.cons _ _ _ _ (.prim _) (.cons _ _ _ _ (.prim _) (.cons _ _ _ _ (.prim _) (.cons _ _ _ _ (.prim _)
      (.cons _ _ _ _ (.prim _) .nil)))))

/-- The fields directly responsible for a failing class: none outside the two known ones of `Model`. -/
theorem direct_causes_known :
    ∀ sp ∈ eqHashTable, ∀ f ∈ directBad sp,
      (sp.name, f) ∈ [("Model", "_dataset"), ("Model", "_initial_individual_estimates")] := by
  decide +kernel

/-- Non-vacuity: the check accepts most of the table (at least these classes). -/
example : ["Expr", "Parameter", "Parameters", "Assignment", "Compartment", "Bolus", "Infusion",
           "NormalDistribution", "JointNormalDistribution", "RandomVariables", "frozenmapping", "ColumnInfo",
           "DataInfo", "EstimationStep", "ExecutionSteps", "CompartmentalSystem", "Statements"].all (classOK eqHashTable) = true := by
  decide +kernel

/-- Non-vacuity of `eq_implies_hash_eq`: a lawful, non-trivial pair of equal objects. -/
example :
    let a := Val.obj "Parameters" (.cons (.tup (.cons (.obj "Parameter"
      (.cons (.atom "CL") (.cons (.atom "0.1") (.cons (.atom "0") (.cons (.atom "inf") (.cons (.atom "False") .nil)))))) .nil)) .nil)
    lawful eqHashTable a = true ∧ eqV eqHashTable a a = true := by
  decide +kernel

section Effects
open Eff

/-- If `check f` holds then along **every** sequence of statements drawn from the body (any order, repetition, prefix —
    whichever branches are taken, however often loops run, wherever an exception cuts the execution short), from every
    heap in which only the parameters are bound to the `K` argument-owned objects, every argument-owned object keeps
    its contents. -/
theorem effect_checker_sound (f : Fn) (hc : check f = true)
    (tr : List Stmt) (htr : ∀ s ∈ tr, s ∈ f.body)
    (σ : State) (K : Nat) (hK : K ≤ σ.next)
    (hinit : ∀ x o, σ.env x = some o → o < K → x ∈ f.params) :
    ∀ o < K, (run tr σ).ver o = σ.ver o :=
  (check_sound hc tr htr σ hK hinit).2

/-- The invariant also holds in the final state, so the guarantee composes with a continuation. -/
theorem effect_checker_sound_inv (f : Fn) (hc : check f = true)
    (tr : List Stmt) (htr : ∀ s ∈ tr, s ∈ f.body)
    (σ : State) (K : Nat) (hK : K ≤ σ.next)
    (hinit : ∀ x o, σ.env x = some o → o < K → x ∈ f.params) :
    K ≤ (run tr σ).next ∧ ∀ x o, (run tr σ).env x = some o → o < K → x ∈ taint f :=
  (check_sound hc tr htr σ hK hinit).1

/-- The checker is not trivially accepting: the shape of `add_admid` at /repo 2f7a606
    (`dataset = model.dataset; dataset["ADMID"] = …`) is rejected, and executing it changes the argument-owned object. -/
def aliasThenWrite : Fn :=
  { name := "add_admid", params := ["model"], body := [.alias "dataset" "model", .write "dataset"] }

theorem alias_then_write_witness :
    check aliasThenWrite = false ∧
    (run aliasThenWrite.body { env := fun n => if n = "model" then some 0 else none, ver := fun _ => 0, next := 1 }).ver 0 ≠ 0 := by
  decide +kernel

/-- … while the repaired shape (`dataset = model.dataset.copy(); dataset["ADMID"] = …`) is accepted. -/
example : check { name := "add_admid", params := ["model"], body := [.fresh "dataset", .write "dataset"] } = true := by
  decide +kernel

end Effects

/-- Public functions whose effect program is **not** proved free of writes to arguments, all through imprecision of
    the flow-insensitive abstraction, and covered by the snapshot monitors only: `x = [] if x is None` followed by
    `x.append` (add_allometry, create_joint_distribution, plot_abs_cwres_vs_ipred, plot_cwres_vs_idv); `df = df.copy()`
    followed by stores (deidentify_data); `option *= n` on an element of a list argument (add_iiv — this one does
    lengthen a caller's one-element list in place, a non-model argument); a set obtained from a computed property and
    updated (remove_covariate_effect); a frame derived inside a helper and then extended (plot_dv_vs_ipred,
    plot_dv_vs_pred, plot_vpc).  `add_admid` and `add_cmt` pass since their repair in /repo (c8f61e3). -/
def notProvedPure : List String :=
  ["add_allometry", "add_iiv", "create_joint_distribution", "deidentify_data",
   "plot_abs_cwres_vs_ipred", "plot_cwres_vs_idv", "plot_dv_vs_ipred", "plot_dv_vs_pred",
   "remove_covariate_effect", "plot_vpc"]

/-- Every other public function of `pharmpy.modeling` (table regenerated from /repo on every run) passes the checker;
    with `effect_checker_sound` no statement sequence of its body writes an object owned by an argument.
    A new `df[c] = …` on an alias of `model.dataset` breaks this. -/
theorem all_public_functions_pass :
    ∀ f ∈ Generated.effects, f.name ∉ notProvedPure → Eff.check f = true := by
  -- `||` looks at the name only where the checker rejects
  have h : Generated.effects.all (fun f =>
      Eff.checkFrom f f.body.length f.params || notProvedPure.contains f.name) = true := by decide +kernel
  intro f hf hn
  simpa [Eff.check_eq_checkFrom, hn] using List.all_eq_true.mp h f hf

/-- Non-vacuity: the table is large and nothing is left unanalysed. -/
example : 200 ≤ Generated.effects.length ∧ Generated.unanalysed = [] := by decide +kernel

section NamesSection
open Names

/-- `create` (Parameters.create, RandomVariables.create) accepts a list exactly when no name is defined twice. -/
theorem create_ok_iff (xs : List Item) :
    (∃ ys, createChecked xs = .ok ys) ↔ (namesOf xs).Nodup := by
  simp [createChecked_eq_ok_iff]

theorem create_returns_input (xs ys : List Item) (h : createChecked xs = .ok ys) : ys = xs :=
  ((createChecked_eq_ok_iff xs ys).mp h).1

/-- A collection operation that goes through the checking `create` returns only well-formed collections: the
    concatenation, with no name defined twice. -/
theorem checked_combine_wellformed (reflected : Bool) (self other r : List Item)
    (h : combine .checked reflected self other = .ok r) :
    uniqueNames r = true ∧ r = (if reflected then other ++ self else self ++ other) := by
  obtain ⟨rfl, hnd⟩ := (createChecked_eq_ok_iff _ _).mp h
  exact ⟨decide_eq_true hnd, rfl⟩

/-- … and refuses whenever a name of the newcomer is already taken, whatever the other attributes of the two items are. -/
theorem checked_combine_refuses_collision (reflected : Bool) (self other : List Item) (n : String)
    (h1 : n ∈ namesOf self) (h2 : n ∈ namesOf other) :
    ∃ e, combine .checked reflected self other = .error e := by
  cases hc : combine .checked reflected self other with
  | error e => exact ⟨e, rfl⟩
  | ok r =>
    have hnd := ((createChecked_eq_ok_iff _ _).mp hc).2
    cases reflected <;> simp only [Bool.false_eq_true, ↓reduceIte, namesOf_append] at hnd
    · exact absurd rfl ((List.nodup_append.mp hnd).2.2 n h1 n h2)
    · exact absurd rfl ((List.nodup_append.mp hnd).2.2 n h2 n h1)

/-- It accepts every admissible addition (so refusal is not the trivial way to be safe). -/
theorem checked_combine_accepts_fresh (self other : List Item)
    (hs : (namesOf self).Nodup) (ho : (namesOf other).Nodup)
    (hd : ∀ n ∈ namesOf self, n ∉ namesOf other) :
    combine .checked false self other = .ok (self ++ other) :=
  (createChecked_eq_ok_iff _ _).mpr
    ⟨rfl, namesOf_append .. ▸ List.nodup_append.mpr ⟨hs, ho, fun a ha _ hb hab => hd a ha (hab ▸ hb)⟩⟩

/-- The raw constructor on a concatenation (RandomVariables.__add__, DataInfo at /repo 2f7a606) returns an
    ill-formed collection for a newcomer with a taken name. -/
theorem raw_combine_witness :
    ∃ self other r, uniqueNames self = true ∧ uniqueNames other = true ∧
      combine .raw false self other = .ok r ∧ uniqueNames r = false :=
  ⟨[⟨["ETA_CL"], "iiv;0;IIV_CL"⟩], [⟨["ETA_CL"], "iiv;0;IIV_VC"⟩], _, by decide +kernel, by decide +kernel, rfl, by decide +kernel⟩

/-- Testing the newcomer by *value* membership (`if param in self`) and then using the raw constructor
    refuses an identical item but accepts one with a taken name and different init/bounds/fix. -/
theorem by_value_combine_witness :
    (∃ e, combine .byValue false [⟨["POP_KA"], "1.5;0;inf;False"⟩] [⟨["POP_KA"], "1.5;0;inf;False"⟩] = .error e) ∧
    ∃ r, combine .byValue false [⟨["POP_KA"], "1.5;0;inf;False"⟩] [⟨["POP_KA"], "2.0;0;inf;False"⟩] = .ok r ∧
      uniqueNames r = false :=
  ⟨⟨"POP_KA", by rfl⟩,
   [⟨["POP_KA"], "1.5;0;inf;False"⟩, ⟨["POP_KA"], "2.0;0;inf;False"⟩], by rfl, by decide +kernel⟩

/-- Collection operations of /repo known not to go through a checking `create`: RandomVariables `+` / reflected `+` use
    the raw constructor; DataInfo.create has no name check, so none of DataInfo's operations has one. -/
def knownUnchecked : List (String × String) :=
  [("RandomVariables", "__add__"), ("RandomVariables", "__radd__"),
   ("DataInfo", "create"), ("DataInfo", "replace"), ("DataInfo", "__add__"), ("DataInfo", "__radd__")]

/-- Every other `create` / `replace` / `+` of the named collections (table regenerated from /repo on every run) goes
    through the checking `create`; with `checked_combine_wellformed` its results have unique names. -/
theorem all_container_ops_checked :
    ∀ op ∈ Generated.containerOps, (op.cls, op.method) ∉ knownUnchecked → op.policy = .checked := by
  decide +kernel

example : 7 ≤ (Generated.containerOps.filter (fun op => op.policy == .checked)).length := by decide +kernel

end NamesSection

section CacheSection
open Cache

theorem cache_step_ok (H : Content → Nat) (op : Op) (hop : op.cloneFree = true) (o : Obj) (ho : CacheOK H o) :
    CacheOK H (step H op o) := by
  cases op with
  | hashIt =>
    right
    rcases ho with h | h <;> simp [step, h]
  | replaceFresh k v => left; rfl
  | replaceClone k v => simp [Op.cloneFree] at hop
  | copyCtor => exact ho

/-- Along every sequence of hashing, cache-free derivations and identical-content copies — however often
    and whenever the intermediate objects were hashed — a cached hash is the hash of the current content. -/
theorem cache_ok_run (H : Content → Nat) (ops : List Op) (hops : ∀ op ∈ ops, op.cloneFree = true)
    (o : Obj) (ho : CacheOK H o) : CacheOK H (run H ops o) := by
  induction ops generalizing o with
  | nil => exact ho
  | cons op ops ih =>
    exact ih (fun op' h' => hops op' (.tail _ h')) _ (cache_step_ok H op (hops op (.head _)) o ho)

/-- Hence `hash` of a derived object is a function of its content only: objects with equal content reached
    along different histories (one source hashed before, the other never) hash equal. -/
theorem derived_hash_is_content_hash (H : Content → Nat) (ops₁ ops₂ : List Op)
    (h₁ : ∀ op ∈ ops₁, op.cloneFree = true) (h₂ : ∀ op ∈ ops₂, op.cloneFree = true)
    (o₁ o₂ : Obj) (ho₁ : CacheOK H o₁) (ho₂ : CacheOK H o₂)
    (hc : (run H ops₁ o₁).content = (run H ops₂ o₂).content) :
    hashOf H (run H ops₁ o₁) = hashOf H (run H ops₂ o₂) := by
  have e : ∀ o, CacheOK H o → hashOf H o = H o.content := fun o ho => by
    rcases ho with h | h <;> simp [hashOf, h]
  rw [e _ (cache_ok_run H ops₁ h₁ o₁ ho₁), e _ (cache_ok_run H ops₂ h₂ o₂ ho₂), hc]

/-- A derivation that starts from a clone carrying the source's cache reports the hash of the OLD content
    once the source has been hashed; the same derivation from a never-hashed source does not. -/
theorem replace_clone_witness :
    let H : Content → Nat := fun c => c.length
    let o : Obj := ⟨[("Y", "1")], none⟩
    hashOf H (run H [.hashIt, .replaceClone "Y_2" "2"] o) ≠ H (run H [.hashIt, .replaceClone "Y_2" "2"] o).content ∧
    hashOf H (run H [.replaceClone "Y_2" "2"] o) = H (run H [.replaceClone "Y_2" "2"] o).content := by
  decide +kernel

end CacheSection

end Pharmpy.C06
