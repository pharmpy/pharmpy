import PharmpyProofs.C06.CovInitLemmas
/-
  C06 — "parameter initial values lie within their bounds" for the thetas created by `add_covariate_effect`
  (`_choose_bounds` + `_choose_param_inits`), for every covariate (all rational statistics with min ≤ median ≤ max).
-/
namespace Pharmpy.C06.CovInit

/-- The `exp` bounds are ordered whatever the covariate: the early return `(0.01, 100)` when the median sits on the
    minimum or maximum, `lower ≤ 0 ≤ upper` otherwise. -/
theorem exp_bounds_ordered (md mn mx : Rat) (idx : Option Nat) (h1 : mn ≤ md) (h2 : md ≤ mx) (l u : Int)
    (h : chooseBounds .exp md mn mx idx = .ok (l, u)) : l ≤ u := by
  unfold chooseBounds at h
  dsimp only at h
  split at h
  · cases h; decide
  · rename_i hne
    have hmin : mn - md < 0 := lt_of_le_of_ne (sub_nonpos.mpr h1) fun hz => hne (.inl hz)
    have hmax : 0 < mx - md := lt_of_le_of_ne (sub_nonneg.mpr h2) fun hz => hne (.inr hz.symm)
    obtain ⟨hl, hu⟩ := exp_general_signs (mn - md) (mx - md) hmin hmax
    cases h
    omega

/-- The two-sided check of `_choose_param_inits` (`lower > init_default or init_default > upper`, else midpoint,
    else `upper / 5`) puts the `exp` initial estimate inside ANY ordered pair of bounds. -/
theorem exp_init_inside_ordered_bounds (l u : Int) (h : l ≤ u) :
    10 * l ≤ initFor .exp l u ∧ initFor .exp l u ≤ 10 * u := by
  unfold initFor initDefault10
  dsimp only
  repeat' split
  all_goals omega

/-- **`exp` effect**: for every covariate — median on the minimum, on the maximum, constant, interior, of any
    magnitude — the created parameter satisfies `lower ≤ init ≤ upper`. -/
theorem exp_init_within_bounds (md mn mx : Rat) (idx : Option Nat) (h1 : mn ≤ md) (h2 : md ≤ mx) (r : Inits)
    (h : chooseInits .exp md mn mx idx = .ok r) : r.wf := by
  unfold chooseInits at h
  split at h
  · cases h
  · rename_i l u hb
    cases h
    exact exp_init_inside_ordered_bounds l u (exp_bounds_ordered md mn mx idx h1 h2 l u hb)

/-- `exp` never refuses. -/
theorem exp_total (md mn mx : Rat) (idx : Option Nat) : ∃ r, chooseInits .exp md mn mx idx = .ok r := by
  by_cases hc : mn - md = 0 ∨ mx - md = 0 <;> simp only [chooseInits, chooseBounds, hc, ↓reduceIte] <;>
    exact ⟨_, rfl⟩

/-- **Every effect**, under the decidable side condition that the linear upper bound `round(1/(median - min), 4)`
    admits the default `0.001`: the created parameter satisfies `lower ≤ init ≤ upper`. -/
theorem init_within_bounds_partial (eff : Effect) (md mn mx : Rat) (idx : Option Nat) (h1 : mn ≤ md) (h2 : md ≤ mx)
    (hs : upperAdmitsDefault eff md mn idx = true) (r : Inits)
    (h : chooseInits eff md mn mx idx = .ok r) : r.wf := by
  cases eff with
  | exp => exact exp_init_within_bounds md mn mx idx h1 h2 r h
  | lin =>
    -- the lower bound `round(1/(median - max), 4)` is `≤ 0`
    have hlo := inv_gap_nonpos md mx h2
    simp only [chooseInits, chooseBounds] at h
    cases h
    simp only [upperAdmitsDefault, Bool.or_eq_true, decide_eq_true_eq] at hs
    constructor <;> simp only [initFor, initDefault10, big4] <;> split
    · omega
    · omega
    · omega
    · next hne => have := hs.resolve_left hne; omega
  | pieceLin =>
    have hlo := inv_gap_nonpos md mx h2
    simp only [upperAdmitsDefault, Bool.or_eq_true, Bool.not_eq_true', decide_eq_false_iff_not, decide_eq_true_eq] at hs
    simp only [chooseInits, chooseBounds] at h
    split at h
    · cases h
    · rename_i l u hb
      cases h
      split at hb
      · cases hb
      · split at hb <;> cases hb <;> simp only [Inits.wf, initFor, initDefault10, big4]
        · next hi => have := hs.resolve_left (· hi); omega
        · omega
  | pow | cat | cat2 | other => simp only [chooseInits, chooseBounds] at h; cases h; decide

/-- The side condition cannot be dropped: for a covariate with median 3000, minimum 1000 the `lin` upper bound is
    `0.0005` and the default initial estimate `0.001` lies above it (the code as it is). -/
theorem lin_upper_below_default_witness :
    chooseInits .lin 3000 1000 5000 none = .ok ⟨100, -5, 5⟩ ∧ initOk .lin 3000 1000 5000 none = false := by
  decide +kernel

/-- non-vacuity: a 0/1 flag column whose median is its maximum takes the early return and gets the midpoint `50.005`;
    an interior median keeps `0.001`; a covariate in the tens of thousands gets `upper / 5` -/
example : chooseInits .exp 1 0 1 none = .ok ⟨5000500, 100, 1000000⟩ := by decide +kernel
example : chooseInits .exp (13/10) (6/10) (36/10) none = .ok ⟨100, -8696, 8696⟩ := by decide +kernel
example : chooseInits .exp 30000 10000 50000 none = .ok ⟨2, -1, 1⟩ := by decide +kernel
example : upperAdmitsDefault .lin (13/10) (6/10) none = true ∧ upperAdmitsDefault .pieceLin 3 1 (some 0) = true := by
  decide +kernel

end Pharmpy.C06.CovInit
