import PharmpyModel.C06.EqHash
/- `a == b → hash a = hash b` for lawful values: the per-field step, and the induction along `eqV` / `eqFs`. -/
namespace Pharmpy.C06

theorem dictEq_eq_of_length_le_one {a b : List (String × String)} (hl : a.length ≤ 1) (h : dictEq a b = true) : a = b := by
  simp only [dictEq, Bool.and_eq_true, beq_iff_eq, List.all_eq_true] at h
  obtain ⟨⟨hlen, hall⟩, -⟩ := h
  rcases a with _ | ⟨x, _ | _⟩
  · exact (List.eq_nil_of_length_eq_zero hlen.symm).symm
  · obtain ⟨y, rfl⟩ := List.length_eq_one_iff.mp hlen.symm
    simpa using hall x (.head _)
  · simp at hl

/-- Values that every comparison mode and every hash mode treats as the plain mode does. -/
def plainLike : Val → Bool
  | .ident .. | .frame .. | .dict _ => false
  | _ => true

section
variable {h : Val} (hp : plainLike h = true)
include hp

theorem fieldKey_plainLike (m : HashMode) (k : Val) : fieldKey m k h = k := by
  cases h <;> first | (cases m <;> rfl) | cases hp

theorem fieldEq_plainLike (m : CmpMode) (e : Bool) (h' : Val) : fieldEq m e h h' = e := by
  cases h <;> first | (cases m <;> rfl) | cases hp

theorem fieldLawful_plainLike (hm : HashMode) (cm : CmpMode) (d : Bool) :
    fieldLawful (some hm) (some cm) d h = d := by
  cases h <;> first | (cases hm <;> cases cm <;> rfl) | cases hp

end

theorem eqV_plainLike {T : Table} {a b : Val} (h : eqV T a b = true) : plainLike a = plainLike b := by
  unfold eqV at h
  split at h <;> first | rfl | cases h

theorem field_step {T : Table} {hm : HashMode} {cm : CmpMode} {h h' : Val}
    (ih : eqV T h h' = true → lawful T h = true → keyEqv (hashKey T h) (hashKey T h') = true)
    (lw : fieldLawful (some hm) (some cm) (lawful T h) h = true)
    (he : fieldEq cm (eqV T h h') h h' = true) :
    keyEqv (fieldKey hm (hashKey T h) h) (fieldKey hm (hashKey T h') h') = true := by
  cases hp : plainLike h with
  | true =>
    rw [fieldLawful_plainLike hp] at lw
    rw [fieldEq_plainLike hp] at he
    rw [fieldKey_plainLike hp, fieldKey_plainLike (eqV_plainLike he ▸ hp)]
    exact ih he lw
  | false =>
    cases h with
    | ident i c | frame i c =>
      -- lawful only if hashed as compared: both plainly, or compared by content and hashed by (part of) it
      cases cm with
      | plain =>
        cases hm <;> cases lw
        exact ih he rfl
      | content =>
        cases h' <;> simp [fieldEq, eqContent, eqV] at he
        cases hm <;> cases lw <;> simp [fieldKey, contentKey, contentPartKey, partOf, keyEqv, he]
    | dict a =>
      -- the other side is a dict with the same entries up to order; as a whole a dict is unhashable on both sides
      have e : eqV T (.dict a) h' = true := by cases cm <;> exact he
      cases h' <;> simp only [eqV, Bool.false_eq_true] at e
      cases hm
      case orderedItems =>
        have hl : a.length ≤ 1 := by cases cm <;> simpa [fieldLawful] using lw
        simp [fieldKey, itemsKey, keyEqv, dictEq_eq_of_length_le_one hl e]
      case itemSet => simpa [fieldKey, itemSetKey, keyEqv] using e
      all_goals rfl
    | _ => cases hp

/-- By induction along the equations of `eqV` (cases 1–8) and `eqFs` (9–11). -/
theorem eq_hash_core (T : Table) :
    (∀ a b, eqV T a b = true → lawful T a = true → keyEqv (hashKey T a) (hashKey T b) = true) ∧
    (∀ fs a b, eqFs T fs a b = true → lawfulFs T fs a = true →
      keyEqv (hashFs T fs a) (hashFs T fs b) = true) := by
  apply eqV.mutual_induct
  case case1 => intro s t h _; simpa [eqV, hashKey, keyEqv] using h
  case case2 => intro i c j d h _; simp_all [eqV, hashKey, keyEqv]
  case case5 =>
    intro h t h' t' ihh iht he hl
    simp only [eqV, lawful, Bool.and_eq_true] at he hl
    simp only [hashKey, keyEqv, Bool.and_eq_true]
    exact ⟨ihh he.1 hl.1, iht he.2 hl.2⟩
  case case6 => intro a b ih he hl; exact ih he hl
  case case7 =>
    intro c vs c' vs' ih he hl
    simp only [eqV, Bool.and_eq_true, beq_iff_eq] at he
    obtain ⟨rfl, he⟩ := he
    cases hf : T.find c with
    | none => simp [hf] at he
    | some sp =>
      simp only [hf, Bool.and_eq_true, Bool.or_eq_true, Bool.not_eq_true'] at he
      simp only [lawful, hf, Bool.or_eq_true] at hl
      -- under the hash guard `==` itself has compared the keys
      rcases hl with hg | hl
      · exact he.1.resolve_left (by simp [hg])
      · simp only [hashKey, hf, keyEqv, beq_self_eq_true, Bool.true_and]
        exact ih sp he.2 hl
  case case8 => intro a b h1 h2 h3 h4 h5 h6 h7 he; simp [eqV.eq_8 T a b h1 h2 h3 h4 h5 h6 h7] at he
  case case10 =>
    intro f fs h t h' t' ihh iht he hl
    simp only [eqFs, lawfulFs, Bool.and_eq_true] at he hl
    have htl := iht he.2 hl.2
    simp only [hashFs]
    -- an unhashed field contributes nothing; a hashed one must be compared
    rcases hhash : f.hash with _ | hm
    · exact htl
    · rcases hcmp : f.cmp with _ | cm
      · simp [hhash, hcmp, fieldLawful] at hl
      · simp only [hhash, hcmp] at he hl
        simp only [keyEqv, Bool.and_eq_true]
        exact ⟨field_step ihh hl.1 he.1, htl⟩
  case case11 => intro a fs b h1 h2 he; simp [eqFs.eq_3 T fs a b h1 h2] at he
  -- two dicts (unhashable on both sides); `nil` against `nil`, as values and as field chains
  all_goals intros; rfl

end Pharmpy.C06
