import PharmpyProofs.C06.Lemmas
namespace Pharmpy.C06

theorem noIdent_sound {T : Table} {k : Kind} {v : Val} (hk : HasKind T k v) (hn : k.noIdent = true) :
    isIdentLike v = false := by
  induction k with
  | either a b iha ihb =>
    simp only [Kind.noIdent, Bool.and_eq_true] at hn
    cases hk with
    | left _ _ _ h => exact iha h hn.1
    | right _ _ _ h => exact ihb h hn.2
  | ident | frame => cases hn
  | _ => cases hk; rfl

theorem noDict_sound {T : Table} {k : Kind} {v : Val} (hk : HasKind T k v) (hn : k.noDict = true) (kvs) :
    v ≠ .dict kvs := by
  induction k with
  | either a b iha ihb =>
    simp only [Kind.noDict, Bool.and_eq_true] at hn
    cases hk with
    | left _ _ _ h => exact iha h hn.1
    | right _ _ _ h => exact ihb h hn.2
  | dict => cases hn
  | _ => cases hk; exact Val.noConfusion

theorem fieldCheck_sound {T : Table} {ok : Kind → Bool} {f : FieldSpec} {h : Val} {lw : Bool}
    (hc : fieldCheck ok f = true) (hk : HasKind T f.kind h) (hok : ok f.kind = true → lw = true) :
    fieldLawful f.hash f.cmp lw h = true := by
  unfold fieldCheck at hc
  rcases hh : f.hash with _ | hm
  · rfl
  rcases hcm : f.cmp with _ | cm
  · simp [hh, hcm] at hc
  rw [hh, hcm] at hc
  -- whatever the modes, the check has asked for `ok f.kind`
  have hlw : lw = true := hok (by cases hm <;> cases cm <;> simp only [Bool.and_eq_true] at hc <;> first | exact hc | exact hc.2)
  subst hlw
  cases hp : plainLike h with
  | true => exact fieldLawful_plainLike hp ..
  | false =>
    -- an identity object or frame refutes `noIdent`, a dict `noDict`; the modes then left are lawful on them
    cases h with
    | ident i c | frame i c =>
      have hn : f.kind.noIdent = false := Bool.eq_false_iff.mpr fun hn => nomatch noIdent_sound hk hn
      cases hm <;> cases cm <;> first | rfl | simp [hn] at hc
    | dict kvs =>
      have hn : f.kind.noDict = false := Bool.eq_false_iff.mpr fun hn => noDict_sound hk hn kvs rfl
      cases hm <;> cases cm <;> first | rfl | simp [hn] at hc
    | _ => cases hp

/-- Induction over the typing derivation (values, tuple items, field chains); the fuel is consumed along with it. -/
theorem kind_sound {T : Table} {k : Kind} {v : Val} (hk : HasKind T k v) :
    ∀ n, kindOK T n k = true → lawful T v = true := by
  apply HasKind.rec (t := hk)
    (motive_1 := fun k v _ => ∀ n, kindOK T n k = true → lawful T v = true)
    (motive_2 := fun k v _ => ∀ n, kindOK T n k = true → lawful T v = true)
    (motive_3 := fun fs v _ => ∀ n, fs.all (fieldCheck (kindOK T n)) = true → lawfulFs T fs v = true)
  -- the constructors in order: five leaf kinds, `tup`, `left`, `right`, `obj`; items `nil`, `cons`; fields `nil`, `cons`
  iterate 5 intros; rfl
  · exact fun k t _ ih => fun | n + 1, hok => ih n hok
  · exact fun a b v _ ih => fun | n + 1, hok => ih n (Bool.and_eq_true_iff.mp hok).1
  · exact fun a b v _ ih => fun | n + 1, hok => ih n (Bool.and_eq_true_iff.mp hok).2
  · intro c sp vs hfind _ ih n hok
    match n, hok with
    | n + 1, hok =>
      simp only [kindOK, hfind, Bool.or_eq_true] at hok
      simp only [lawful, hfind, Bool.or_eq_true]
      exact hok.imp_right (ih n)
  · intros; rfl
  · exact fun k h t _ _ ihh iht n hok => Bool.and_eq_true_iff.mpr ⟨ihh n hok, iht n hok⟩
  · intros; rfl
  · intro f fs h t hh _ ihh iht n hall
    simp only [List.all_cons, Bool.and_eq_true] at hall
    simp only [lawfulFs, Bool.and_eq_true]
    exact ⟨fieldCheck_sound hall.1 hh (ihh n), iht n hall.2⟩

end Pharmpy.C06
