import PharmpyProofs.C02.Lemmas
/-
  C02 — `diff` models `pharmpy.internals.sequence.lcs.diff` (prefix/suffix trimming, `_matrix`,
  `_diff`); the theorems hold for lists over every type with decidable equality.
-/
namespace Pharmpy.C02

section
variable {α : Type} [DecidableEq α]

/-- Dropping the insertions gives back `old`. -/
theorem lcs_diff_old (old new : List α) : dropIns (diff old new) = old := by
  obtain ⟨pre, mx, my, suf, hx, -, hd⟩ := diff_trim old new
  rw [hd, dropIns_append, dropIns_append, dropIns_zeros, dropIns_zeros, walkSpec_dropIns, List.reverse_reverse,
    List.append_assoc, ← hx]

/-- Dropping the deletions gives `new`. -/
theorem lcs_diff_new (old new : List α) : dropDel (diff old new) = new := by
  obtain ⟨pre, mx, my, suf, -, hy, hd⟩ := diff_trim old new
  rw [hd, dropDel_append, dropDel_append, dropDel_zeros, dropDel_zeros, walkSpec_dropDel, List.reverse_reverse,
    List.append_assoc, ← hy]

/-- The ops `diff` yields are deletions (-1), kept elements (0) and insertions (+1) only. -/
theorem lcs_diff_ops (old new : List α) : ∀ o ∈ diff old new, o.1 = -1 ∨ o.1 = 0 ∨ o.1 = 1 := by
  obtain ⟨pre, mx, my, suf, -, -, hd⟩ := diff_trim old new
  have hz : ∀ l : List α, ∀ o ∈ zeros l, o.1 = -1 ∨ o.1 = 0 ∨ o.1 = 1 := by
    intro l o ho
    obtain ⟨_, _, rfl⟩ := List.mem_map.1 ho
    exact Or.inr (Or.inl rfl)
  intro o ho
  rw [hd, List.mem_append, List.mem_append] at ho
  rcases ho with (ho | ho) | ho
  · exact hz _ o ho
  · simpa using List.all_eq_true.1 (walkSpec_ops _ _) o ho
  · exact hz _ o ho

/-- A common prefix yields only 0-ops, and the rest is
    the diff of the remainders. -/
theorem lcs_diff_prefix (p x y : List α) : diff (p ++ x) (p ++ y) = zeros p ++ diff x y := by
  unfold diff
  simp only [commonPrefix_append, List.length_append, List.drop_length_add_append]
  simp [zeros]

/-- The 0-ops of `diff old new` are a *longest* common subsequence of
    `old` and `new`. -/
theorem lcs_diff_kept_is_lcs (old new : List α) :
    (kept (diff old new)).Sublist old ∧ (kept (diff old new)).Sublist new ∧
    ∀ zs : List α, zs.Sublist old → zs.Sublist new → zs.length ≤ (kept (diff old new)).length := by
  refine ⟨?_, ?_, ?_⟩
  · have := kept_sublist_dropIns (diff old new); rwa [lcs_diff_old] at this
  · have := kept_sublist_dropDel (diff old new); rwa [lcs_diff_new] at this
  · -- prefix and suffix are kept entirely, the middle contributes its LCS length; each bounds its part
    obtain ⟨pre, mx, my, suf, rfl, rfl, hd⟩ := diff_trim old new
    have hlen : (kept (diff (pre ++ (mx ++ suf)) (pre ++ (my ++ suf)))).length =
        pre.length + (lcsR mx.reverse my.reverse + suf.length) := by
      rw [hd, kept_append, kept_append, kept_zeros, kept_zeros, List.length_append, List.length_append,
        walkSpec_kept_length, Nat.add_assoc]
    rw [hlen]
    exact commonBound_append_left pre
      (commonBound_append_right suf (commonBound_of_reverse (lcsR_bound mx.reverse my.reverse)))

/-- An unchanged list is all common prefix: only 0-ops. -/
theorem lcs_diff_unchanged_all_zero (l : List α) : diff l l = zeros l := by
  have := lcs_diff_prefix l [] []
  rwa [List.append_nil, show diff ([] : List α) [] = [] by simp [diff, commonPrefix, table, walk, zeros], List.append_nil] at this

end

example : diff [1, 2, 3, 4, 5] [1, 3, 9, 4, 5] = [(0, 1), (-1, 2), (0, 3), (1, 9), (0, 4), (0, 5)] := by decide +kernel
example : diff [1, 2] [2, 1] = [(-1, 1), (0, 2), (1, 1)] := by decide +kernel
example : matrixPy [1, 2, 3] [2, 3, 4] = [[0, 0, 0, 0], [0, 0, 0, 0], [0, 1, 1, 1], [0, 1, 2, 2]] := by decide +kernel

end Pharmpy.C02
