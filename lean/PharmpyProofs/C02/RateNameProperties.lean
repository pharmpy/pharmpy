/-
  C02 × C01 — every rate-constant name written by the generator is read back as the flow it
  was written for: for every number of compartments, every source and every destination.
-/
import PharmpyModel.C02.RateName
namespace Pharmpy.C02.RateName
open Pharmpy.C01.Rates

theorem natOf_eq (cs : List Char) : natOf cs = Nat.ofDigitChars 10 cs 0 := rfl

theorem natOf_digits (k : Nat) : natOf (digits k) = k := Nat.ofDigitChars_ten_toDigits

theorem digits_all (k : Nat) : (digits k).all Char.isDigit = true :=
  List.all_eq_true.2 fun _ hc => Nat.isDigit_of_mem_toDigits (by decide) (by decide) hc

theorem digits_ne_nil (k : Nat) : digits k ≠ [] := Nat.toDigits_ne_nil

theorem digits_lt10 {k : Nat} (h : k < 10) : digits k = [Nat.digitChar k] :=
  Nat.toDigits_of_lt_base h

theorem digits_two {k : Nat} (h1 : 10 ≤ k) (h2 : k < 100) : digits k = [Nat.digitChar (k / 10), Nat.digitChar (k % 10)] := by
  unfold digits
  rw [Nat.toDigits_of_base_le (by decide) h1, Nat.toDigits_of_lt_base (by omega)]
  rfl

theorem digits_short {k : Nat} (h : k < 100) : (∃ x, digits k = [x]) ∨ ∃ x y, digits k = [x, y] := by
  by_cases h1 : k < 10
  · exact .inl ⟨_, digits_lt10 h1⟩
  · exact .inr ⟨_, _, digits_two (by omega) h⟩

theorem rateOf_T (n : Nat) (d1 d2 : List Char) (h1 : d1.all Char.isDigit = true) (h1' : d1 ≠ [])
    (h2 : d2.all Char.isDigit = true) (h2' : d2 ≠ []) :
    rateOf n (String.ofList ('K' :: (d1 ++ 'T' :: d2))) = some (fin n (natOf d1) (natOf d2)) := by
  have h1 := List.all_eq_true.1 h1
  simp [rateOf, splitRate, List.takeWhile_append_of_pos h1, List.dropWhile_append_of_pos h1, isDigits, h2, h2', h1',
    decode]

theorem rateOf_bare (n : Nat) (d1 : List Char) (h1 : d1.all Char.isDigit = true) (h1' : d1 ≠ []) :
    rateOf n (String.ofList ('K' :: d1)) = some (decode n d1 none) := by
  have h1 := List.all_eq_true.1 h1
  have ht := List.takeWhile_append_of_pos (l₂ := []) h1
  have hd := List.dropWhile_append_of_pos (l₂ := []) h1
  rw [List.append_nil] at ht hd
  simp [rateOf, splitRate, ht, hd, h1']

theorem rateOf_bare_digits (n sn dn : Nat) :
    rateOf n (String.ofList ('K' :: (digits sn ++ digits dn))) = some (decode n (digits sn ++ digits dn) none) :=
  rateOf_bare n _ (by rw [List.all_append, digits_all, digits_all]; rfl) (by simp [digits_ne_nil])

/-- **Round trip (all sizes).**  For every number `n` of the output compartment, every source and
    every destination (the output is `dn = n`), the name the generator writes is read back by
    `_find_rates` as the flow `sn → dn`. -/
theorem rate_name_roundtrip (n sn dn : Nat) (hs : 1 ≤ sn) (hd : 1 ≤ dn) (hdn : dn ≤ n) :
    rateOf n (rateParam n sn dn) = some (.flow sn dn) := by
  unfold rateParam
  -- the destination as written: all digits, and read back as `dn` (`0` stands for the output)
  generalize hdst : (if dn = n then ['0'] else digits dn) = dst
  have hall : dst.all Char.isDigit = true ∧ dst ≠ [] := by
    subst hdst; split
    · exact ⟨rfl, by simp⟩
    · exact ⟨digits_all dn, digits_ne_nil dn⟩
  have hfin : fin n sn (natOf dst) = .flow sn dn := by
    subst hdst; split
    next h => rw [h, show natOf ['0'] = 0 by decide]; rfl
    next h => rw [natOf_digits, fin, if_neg (by simp; omega)]
  have hread : some (fin n (natOf (digits sn)) (natOf dst)) = some (.flow sn dn) := by
    rw [natOf_digits, hfin]
  refine Eq.trans ?_ hread
  -- without separator both numbers are written with one digit
  have hsep : sep n sn dn = ['T'] ∨ sep n sn dn = [] ∧ sn < 10 ∧ (dn = n ∨ dn < 10) := by
    unfold sep
    split
    · split
      · exact Or.inl rfl
      · exact Or.inr ⟨rfl, by omega, by omega⟩
    · exact Or.inr ⟨rfl, by omega, by omega⟩
  rcases hsep with h | ⟨h, hs', hd'⟩
  · rw [h, List.append_assoc]
    exact rateOf_T n (digits sn) dst (digits_all sn) (digits_ne_nil sn) hall.1 hall.2
  · obtain ⟨y, rfl⟩ : ∃ y, dst = [y] := by
      subst hdst; split
      · exact ⟨_, rfl⟩
      · exact ⟨_, digits_lt10 (by omega)⟩
    rw [digits_lt10 hs', h]
    exact rateOf_bare n [_, y] (by simpa [hs'] using hall.1) (by simp)

/-- The reason for the separator before `0`: with the output numbered 12 the flow `11 → output` is
    written `K11T0`; the bare spelling `K110` (the code before the repair) cannot be read back. -/
theorem rate_name_witness :
    rateParam 12 11 12 = "K11T0" ∧ rateOf 12 (rateParam 12 11 12) = some (.flow 11 12) ∧
    rateParamOld 12 11 12 = "K110" ∧ rateOf 12 (rateParamOld 12 11 12) = some .ambiguous := by
  decide +kernel

/-- The old spelling and the new one differ only for a source numbered 10 or more flowing to the output. -/
theorem rateParamOld_eq (n sn dn : Nat) (h : dn ≠ n ∨ sn < 10) : rateParamOld n sn dn = rateParam n sn dn := by
  unfold rateParamOld rateParam sepOld sep
  rcases h with h | h
  · simp [h]
  · have : ¬ 10 ≤ sn := by omega
    simp [this]

example : rateOf 5 (rateParam 5 2 3) = some (.flow 2 3) := rate_name_roundtrip 5 2 3 (by decide) (by decide) (by decide)
example : rateParam 11 9 10 = "K9T10" ∧ rateParam 11 10 9 = "K10T9" ∧ rateParam 10 9 10 = "K90" := by decide +kernel

/-- Three digits: whichever of the readings `x → yz`, `xy → z` fits is the decoding, unless both fit. -/
theorem decode_three (n : Nat) (x y z : Char) :
    ((decide (natOf [x] ≤ n) && decide (natOf [y, z] ≤ n) && (natOf [y, z] != 0)) = true →
      decode n [x, y, z] none = fin n (natOf [x]) (natOf [y, z]) ∨ decode n [x, y, z] none = .ambiguous) ∧
    ((decide (natOf [x, y] ≤ n) && decide (natOf [z] ≤ n)) = true →
      decode n [x, y, z] none = fin n (natOf [x, y]) (natOf [z]) ∨ decode n [x, y, z] none = .ambiguous) := by
  simp only [decode]
  constructor
  · intro q1
    rw [q1]
    cases decide (natOf [x, y] ≤ n) && decide (natOf [z] ≤ n)
    · exact Or.inl rfl
    · exact Or.inr rfl
  · intro q2
    rw [q2]
    cases decide (natOf [x] ≤ n) && decide (natOf [y, z] ≤ n) && (natOf [y, z] != 0)
    · exact Or.inl rfl
    · exact Or.inr rfl

/-- **Synonyms never name another flow (fewer than 100 compartments).**  The bare spelling `K{sn}{dn}`,
    which `add_rate_assignment_if_missing` also recognises, is read by `_find_rates` as the flow
    `sn → dn` or refused as ambiguous. -/
theorem bare_synonym_sound (n sn dn : Nat) (hn : n < 100) (hs : 1 ≤ sn) (hsn : sn ≤ n) (hd : 1 ≤ dn) (hdn : dn ≤ n) :
    rateOf n (String.ofList ('K' :: (digits sn ++ digits dn))) = some (.flow sn dn) ∨
    rateOf n (String.ofList ('K' :: (digits sn ++ digits dn))) = some .ambiguous := by
  have hfin : RateOut.flow sn dn = fin n sn dn := by rw [fin, if_neg (by simp; omega)]
  rw [rateOf_bare_digits, hfin, Option.some.injEq, Option.some.injEq]
  -- each digit string has one or two characters and is read back as its number
  have e1 := natOf_digits sn
  have e2 := natOf_digits dn
  rcases digits_short (k := sn) (by omega) with ⟨x, hx⟩ | ⟨x, y, hx⟩ <;>
    rcases digits_short (k := dn) (by omega) with ⟨z, hz⟩ | ⟨z, w, hz⟩ <;>
    rw [hx] at e1 ⊢ <;> rw [hz] at e2 ⊢ <;> subst e1 e2
  · exact .inl rfl
  · exact (decode_three n x z w).1 (by simp; omega)
  · exact (decode_three n x y z).2 (by simp; omega)
  · exact .inl rfl

/-- The ambiguous outcome does occur (twelve compartments and the output: `K112` for 1 → 12 or 11 → 2). -/
theorem bare_synonym_ambiguous_witness :
    rateOf 13 (String.ofList ('K' :: (digits 1 ++ digits 12))) = some .ambiguous ∧
    String.ofList ('K' :: (digits 1 ++ digits 12)) = String.ofList ('K' :: (digits 11 ++ digits 2)) := by decide +kernel

end Pharmpy.C02.RateName
