import PharmpyModel.C02.ModelRecord
/-
  C02 — `update_model_record` re-establishes the numbering invariant in every branch.
-/
namespace Pharmpy.C02

/-- After `update_model_record` the remembered compartment numbering is the numbering of the new system. -/
theorem update_model_record_map_fresh (advan : String) (solver : Bool) (names : List String) (int : Internals) :
    MapFresh names (updateModelRecord advan solver names int) := by
  unfold MapFresh updateModelRecord
  split
  · rfl
  · split <;> rfl

/-- A `$MODEL` record that exists afterwards lists the compartments in that numbering, unless it is
    the untouched old record of an unchanged general-linear system. -/
theorem update_model_record_model_order (advan : String) (solver : Bool) (names : List String) (int : Internals)
    (l : List String) (h : (updateModelRecord advan solver names int).modelRec = some l) :
    l = names ∨ (int.modelRec = some l ∧ int.map = newCompartmentalMap names ∧ solver = false) := by
  unfold updateModelRecord at h
  split at h
  · cases h
  · split at h
    · exact .inl (Option.some.inj h).symm
    next h2 =>
      obtain ⟨hm, hs⟩ := not_or.1 h2
      exact .inr ⟨h, Decidable.not_not.1 hm, Bool.eq_false_iff.2 hs⟩

/-- A specific ADVAN never keeps a `$MODEL` record. -/
theorem update_model_record_specific (advan : String) (solver : Bool) (names : List String) (int : Internals)
    (h : specificAdvans.contains advan = true) : (updateModelRecord advan solver names int).modelRec = none := by
  unfold updateModelRecord
  rw [if_pos h]

/-- The invariant is not trivially true: the map of a depot-plus-central system is not the numbering of the system without the depot. -/
example : ({ map := [("DEPOT", 1), ("CENTRAL", 2)], modelRec := none } : Internals).map ≠ newCompartmentalMap ["CENTRAL"] := by decide

end Pharmpy.C02
