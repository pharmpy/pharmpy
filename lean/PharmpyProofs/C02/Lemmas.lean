import PharmpyModel.C02.Lcs
namespace Pharmpy.C02

section
variable {α : Type}

theorem dropIns_append (d e : List (Op α)) : dropIns (d ++ e) = dropIns d ++ dropIns e := by
  simp [dropIns]
theorem dropDel_append (d e : List (Op α)) : dropDel (d ++ e) = dropDel d ++ dropDel e := by
  simp [dropDel]
theorem kept_append (d e : List (Op α)) : kept (d ++ e) = kept d ++ kept e := by
  simp [kept]

theorem dropIns_zeros (l : List α) : dropIns (zeros l) = l := by
  simp [dropIns, zeros, List.filter_map, Function.comp_def]
theorem dropDel_zeros (l : List α) : dropDel (zeros l) = l := by
  simp [dropDel, zeros, List.filter_map, Function.comp_def]
theorem kept_zeros (l : List α) : kept (zeros l) = l := by
  simp [kept, zeros, List.filter_map, Function.comp_def]

theorem filter_map_sublist {β γ : Type} {p q : β → Bool} (h : ∀ a, p a = true → q a = true) (f : β → γ)
    (l : List β) : ((l.filter p).map f).Sublist ((l.filter q).map f) := by
  have : l.filter p = (l.filter q).filter p := by
    rw [List.filter_filter]
    exact List.filter_congr fun a _ => by cases hp : p a <;> simp [h a, hp]
  rw [this]
  exact List.filter_sublist.map f

theorem kept_sublist_dropIns (d : List (Op α)) : (kept d).Sublist (dropIns d) :=
  filter_map_sublist (fun o h => by simp at h; simp [h]) _ d

theorem kept_sublist_dropDel (d : List (Op α)) : (kept d).Sublist (dropDel d) :=
  filter_map_sublist (fun o h => by simp at h; simp [h]) _ d

/-- `n` bounds the length of every common subsequence of `x` and `y`. -/
def CommonBound (n : Nat) (x y : List α) : Prop :=
  ∀ zs : List α, zs.Sublist x → zs.Sublist y → zs.length ≤ n

theorem commonBound_cons {n : Nat} {x y : List α} (a : α) (h : CommonBound n x y) :
    CommonBound (n + 1) (a :: x) (a :: y) := by
  intro zs hx hy
  have := h zs.tail hx.tail hy.tail
  rw [List.length_tail] at this
  omega

theorem commonBound_append_left {n : Nat} {x y : List α} (p : List α) (h : CommonBound n x y) :
    CommonBound (p.length + n) (p ++ x) (p ++ y) := by
  induction p with
  | nil => simpa using h
  | cons a p ih =>
    have := commonBound_cons a ih
    simpa [Nat.add_assoc, Nat.add_comm, Nat.add_left_comm] using this

theorem commonBound_of_reverse {n : Nat} {x y : List α} (h : CommonBound n x.reverse y.reverse) :
    CommonBound n x y :=
  fun zs hx hy => by simpa using h zs.reverse hx.reverse hy.reverse

theorem commonBound_append_right {n : Nat} {x y : List α} (s : List α) (h : CommonBound n x y) :
    CommonBound (n + s.length) (x ++ s) (y ++ s) := by
  apply commonBound_of_reverse
  have := commonBound_append_left s.reverse
    (commonBound_of_reverse (x := x.reverse) (y := y.reverse) (by simpa using h))
  simpa [Nat.add_comm] using this

end

section
variable {α : Type} [DecidableEq α]

theorem commonPrefix_prefix : ∀ (x y : List α), commonPrefix x y <+: x ∧ commonPrefix x y <+: y
  | [], _ => by simp [commonPrefix]
  | _ :: _, [] => by simp [commonPrefix]
  | a :: xs, b :: ys => by
    rw [commonPrefix]
    split
    next h =>
      subst h
      exact ⟨List.cons_prefix_cons.2 ⟨rfl, (commonPrefix_prefix xs ys).1⟩,
        List.cons_prefix_cons.2 ⟨rfl, (commonPrefix_prefix xs ys).2⟩⟩
    · exact ⟨List.nil_prefix, List.nil_prefix⟩

theorem commonPrefix_length_le_left (x y : List α) : (commonPrefix x y).length ≤ x.length :=
  (commonPrefix_prefix x y).1.length_le

theorem commonPrefix_length_le_right (x y : List α) : (commonPrefix x y).length ≤ y.length :=
  (commonPrefix_prefix x y).2.length_le

theorem commonPrefix_append (p x y : List α) : commonPrefix (p ++ x) (p ++ y) = p ++ commonPrefix x y := by
  induction p with
  | nil => rfl
  | cons a p ih => simp [commonPrefix, ih]

/-- Specification of a row: `lcsR xs` of every tail of `yr`. -/
def rowSpec (xs : List α) : List α → List Nat
  | [] => [lcsR xs []]
  | b :: ys => lcsR xs (b :: ys) :: rowSpec xs ys

theorem lcsR_nil_right (xs : List α) : lcsR xs [] = 0 := by
  cases xs <;> simp [lcsR]

theorem rowSpec_headD (xs ys : List α) : (rowSpec xs ys).headD 0 = lcsR xs ys := by
  cases ys <;> simp [rowSpec]

theorem rowSpec_tail (xs : List α) (b : α) (ys : List α) : (rowSpec xs (b :: ys)).tail = rowSpec xs ys := by
  simp [rowSpec]

theorem rowSpec_nil (ys : List α) : rowSpec ([] : List α) ys = List.replicate (ys.length + 1) 0 := by
  induction ys with
  | nil => simp [rowSpec, lcsR]
  | cons b ys ih => simp [rowSpec, lcsR, ih, List.replicate_succ]

theorem rowStep_spec (a : α) (xs : List α) : ∀ ys, rowStep a ys (rowSpec xs ys) = rowSpec (a :: xs) ys
  | [] => by simp [rowStep, rowSpec, lcsR]
  | b :: ys => by
    have ih := rowStep_spec a xs ys
    simp only [rowStep, rowSpec_tail, ih, rowSpec_headD]
    by_cases h : a = b <;> simp [rowSpec, lcsR, h]

def tableSpec : List α → List α → List (List Nat)
  | [], yr => [rowSpec [] yr]
  | a :: xs, yr => rowSpec (a :: xs) yr :: tableSpec xs yr

theorem tableSpec_headD (xs ys : List α) : (tableSpec xs ys).headD [] = rowSpec xs ys := by
  cases xs <;> simp [tableSpec]

theorem table_eq_spec : ∀ (xr yr : List α), table xr yr = tableSpec xr yr
  | [], yr => by simp [table, tableSpec, rowSpec_nil]
  | a :: xs, yr => by
    simp only [table, tableSpec, table_eq_spec xs yr, tableSpec_headD, rowStep_spec]

theorem tableSpec_map_tail (b : α) (ys : List α) : ∀ xr : List α,
    (tableSpec xr (b :: ys)).map List.tail = tableSpec xr ys
  | [] => by simp [tableSpec, rowSpec]
  | a :: xs => by simp [tableSpec, rowSpec, tableSpec_map_tail b ys xs]

theorem tableSpec_tail (a : α) (xs yr : List α) : (tableSpec (a :: xs) yr).tail = tableSpec xs yr := by
  simp [tableSpec]

theorem entry_01 (a : α) (xs : List α) (b : α) (ys : List α) :
    entry (tableSpec (a :: xs) (b :: ys)) 0 1 = lcsR (a :: xs) ys := by
  simp only [entry, tableSpec, rowSpec, List.getD_cons_zero, List.getD_cons_succ]
  cases ys <;> simp [rowSpec]

theorem entry_10 (a : α) (xs : List α) (b : α) (ys : List α) :
    entry (tableSpec (a :: xs) (b :: ys)) 1 0 = lcsR xs (b :: ys) := by
  cases xs <;> simp [entry, tableSpec, rowSpec]

theorem walk_table_eq_spec (xr yr : List α) : walk (tableSpec xr yr) xr yr = walkSpec xr yr := by
  induction xr, yr using walkSpec.induct (α := α) <;>
    simp only [walk, walkSpec, entry_01, entry_10, tableSpec_map_tail, tableSpec_tail, *, if_true, if_false]

theorem diff_eq_diffSpec (old new : List α) : diff old new = diffSpec old new := by
  simp only [diff, diffSpec, table_eq_spec, walk_table_eq_spec]

/-- What `diff` computes: common prefix and common suffix become 0-ops, the middle parts are walked
    (backwards, hence the reversals). -/
theorem diff_trim (x y : List α) : ∃ pre mx my suf, x = pre ++ (mx ++ suf) ∧ y = pre ++ (my ++ suf) ∧
    diff x y = zeros pre ++ walkSpec mx.reverse my.reverse ++ zeros suf := by
  let rx := x.drop (commonPrefix x y).length
  let ry := y.drop (commonPrefix x y).length
  have split : ∀ r c : List α, c <+: r.reverse → r = r.take (r.length - c.length) ++ c.reverse := by
    intro r c h
    have := congrArg List.reverse (List.prefix_iff_eq_append.1 h)
    simp only [List.reverse_append, List.reverse_reverse, List.drop_reverse] at this
    exact this.symm
  have suf := commonPrefix_prefix rx.reverse ry.reverse
  refine ⟨commonPrefix x y, _, _, _, ?_, ?_, diff_eq_diffSpec x y⟩
  · rw [← split rx _ suf.1]; exact (List.prefix_iff_eq_append.1 (commonPrefix_prefix x y).1).symm
  · rw [← split ry _ suf.2]; exact (List.prefix_iff_eq_append.1 (commonPrefix_prefix x y).2).symm

/- Each step of the walk appends one op to the walk of a shorter pair. -/

theorem walkSpec_dropIns (xr yr : List α) : dropIns (walkSpec xr yr) = xr.reverse := by
  induction xr, yr using walkSpec.induct (α := α) <;>
    simp only [walkSpec, *, if_true, if_false, dropIns_append, List.reverse_cons] <;> simp [dropIns]

theorem walkSpec_dropDel (xr yr : List α) : dropDel (walkSpec xr yr) = yr.reverse := by
  induction xr, yr using walkSpec.induct (α := α) <;>
    simp only [walkSpec, *, if_true, if_false, dropDel_append, List.reverse_cons] <;> simp [dropDel]

theorem walkSpec_kept_length (xr yr : List α) : (kept (walkSpec xr yr)).length = lcsR xr yr := by
  induction xr, yr using walkSpec.induct (α := α) <;>
    simp only [walkSpec, lcsR, lcsR_nil_right, *, if_true, if_false, kept_append, List.length_append] <;>
    simp [kept] <;> omega

theorem walkSpec_ops (xr yr : List α) :
    (walkSpec xr yr).all (fun o => o.1 = -1 || (o.1 = 0 || o.1 = 1)) = true := by
  induction xr, yr using walkSpec.induct (α := α) <;>
    simp only [walkSpec, *, if_true, if_false, List.all_append] <;> rfl

theorem lcsR_bound (x y : List α) : CommonBound (lcsR x y) x y := by
  induction x, y using lcsR.induct (α := α) with
  | case1 y => intro zs hx _; simp [List.sublist_nil.1 hx]
  | case2 a xs => intro zs _ hy; simp [List.sublist_nil.1 hy]
  | case3 xs b ys ih => rw [lcsR, if_pos rfl]; exact commonBound_cons b ih
  | case4 a xs b ys h ih2 ih3 =>
    -- a common subsequence cannot use both heads: it lives in `(a :: xs, ys)` or in `(xs, b :: ys)`
    rw [lcsR, if_neg h]
    intro zs hx hy
    cases hx with
    | cons _ hx' => have := ih3 _ hx' hy; omega
    | cons_cons _ hx' =>
      cases hy with
      | cons _ hy' => have := ih2 _ (hx'.cons_cons a) hy'; omega
      | cons_cons _ hy' => exact absurd rfl h

end
end Pharmpy.C02
