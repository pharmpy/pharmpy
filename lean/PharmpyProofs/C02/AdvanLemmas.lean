import PharmpyModel.C02.Advan
import PharmpyModel.C02.PkConv
namespace Pharmpy.C02
open CGraph Generated

theorem mem_succs (g : CGraph) (a b : Nat) : b ∈ g.succs a ↔ g.hasEdge a b = true := by
  simp [succs, hasEdge]

theorem mem_preds (g : CGraph) (wf : WF g) (a b : Nat) : a ∈ g.preds b ↔ g.hasEdge a b = true := by
  simp [preds, hasEdge, wf.predSame]

theorem mem_bidir (g : CGraph) (wf : WF g) (c v : Nat) :
    v ∈ g.bidir c ↔ (g.hasEdge v c = true ∧ g.hasEdge c v = true) := by
  simp only [bidir, List.mem_filter, mem_preds g wf]

theorem flowNZ_eq (g : CGraph) (wf : WF g) (a b : Nat) : g.flowNZ a b = g.hasEdge a b := by
  simp [flowNZ, wf.noZero]

theorem succs_singleton {g : CGraph} {a c : Nat} (h : g.succs a = [c]) :
    ∀ x, g.hasEdge a x = true ↔ x = c := by
  intro x; rw [← mem_succs, h, List.mem_singleton]

theorem not_succ {g : CGraph} {a c x : Nat} (h : g.succs a = [c]) (hx : x ≠ c) : g.hasEdge a x = false :=
  Bool.eq_false_iff.2 (mt (succs_singleton h x).1 hx)

theorem bidir_singleton {g : CGraph} (wf : WF g) {c p : Nat} (h : g.bidir c = [p]) :
    ∀ x, (g.hasEdge x c = true ∧ g.hasEdge c x = true) ↔ x = p := by
  intro x; rw [← mem_bidir g wf, h, List.mem_singleton]

theorem bidir_pair {g : CGraph} (wf : WF g) {c p q : Nat} (h : g.bidir c = [p, q]) :
    ∀ x, (g.hasEdge x c = true ∧ g.hasEdge c x = true) ↔ (x = p ∨ x = q) := by
  intro x; rw [← mem_bidir g wf, h]; simp

theorem WF.ne {g : CGraph} (wf : WF g) {a b : Nat} (h : g.hasEdge a b = true) : a ≠ b := by
  rintro rfl
  rw [wf.noSelf] at h
  cases h

theorem cover2 {n d c : Nat} (hn : n = 2) (hdc : d ≠ c) (hd : 1 ≤ d ∧ d ≤ n) (hc : 1 ≤ c ∧ c ≤ n)
    (a : Nat) (ha : 1 ≤ a ∧ a ≤ n) : a ∈ [d, c] := by
  simp only [List.mem_cons, List.not_mem_nil, or_false]
  omega

theorem cover3 {n d c p : Nat} (hn : n = 3) (hdc : d ≠ c) (hdp : d ≠ p) (hcp : c ≠ p)
    (hd : 1 ≤ d ∧ d ≤ n) (hc : 1 ≤ c ∧ c ≤ n) (hp : 1 ≤ p ∧ p ≤ n)
    (a : Nat) (ha : 1 ≤ a ∧ a ≤ n) : a ∈ [d, c, p] := by
  simp only [List.mem_cons, List.not_mem_nil, or_false]
  grind

/-- When `vs` lists all compartments, the edge set is a finite table: every cell from a member of
    `vs` to the output or to another member is an edge (`es`) or a non-edge (`nos`). -/
theorem exactEdges_of_table {g : CGraph} (wf : WF g) {vs : List Nat} {es nos : List (Nat × Nat)}
    (cov : ∀ a, 1 ≤ a ∧ a ≤ g.n → a ∈ vs)
    (yes : ∀ e ∈ es, g.hasEdge e.1 e.2 = true) (no : ∀ e ∈ nos, g.hasEdge e.1 e.2 = false)
    (all : ∀ a ∈ vs, ∀ b ∈ 0 :: vs, a = b ∨ (a, b) ∈ es ∨ (a, b) ∈ nos) : HasExactlyEdges g es := by
  intro a b
  refine ⟨fun hab => ?_, yes (a, b)⟩
  have hb : b ∈ 0 :: vs := by
    rcases Nat.eq_zero_or_pos b with rfl | hb
    · exact List.mem_cons_self
    · exact List.mem_cons_of_mem _ (cov b ⟨hb, wf.dstIn a b hab⟩)
  rcases all a (cov a (wf.srcIn a b hab)) b hb with hne | hm | hm
  · exact absurd hne (wf.ne hab)
  · exact hm
  · rw [no _ hm] at hab
    cases hab

/-- The compartment that eliminates: the only one that can. -/
theorem edge_to_output {g : CGraph} (wf : WF g) {vs : List Nat} (cov : ∀ a, 1 ≤ a ∧ a ≤ g.n → a ∈ vs) {c : Nat}
    (h : ∀ a ∈ vs, a ≠ c → g.hasEdge a 0 = false) : g.hasEdge c 0 = true := by
  obtain ⟨x, hx⟩ := wf.toOutput
  by_cases hxc : x = c
  · exact hxc ▸ hx
  · rw [h x (cov x (wf.srcIn x 0 hx)) hxc] at hx
    cases hx

theorem depotCentral_some {g : CGraph} {d c : Nat} (h : depotCentral g = some (some (d, c))) :
    (∃ ds, g.dosingComps = some ds ∧ ds.headD 0 = d) ∧ g.succs d = [c] := by
  unfold depotCentral at h
  split at h
  · cases h
  next ds hd =>
  dsimp only at h
  split at h
  next c' hs =>
    cases h
    exact ⟨⟨ds, hd, rfl⟩, hs⟩
  · cases h

theorem matchAdvan2_true {g : CGraph} {res : Nat → Nat → Bool} (h : matchAdvan2 g res = some true) :
    g.n = 2 ∧ ∃ d c e, depotCentral g = some (some (d, c)) ∧ res d c = false ∧ g.succs c = [e] := by
  unfold matchAdvan2 at h
  split at h
  · cases h
  next hn =>
  split at h
  · cases h
  · cases h
  next d c hdc =>
  split at h
  · cases h
  next hres =>
  obtain ⟨e, he⟩ := List.length_eq_one_iff.1 (of_decide_eq_true (Option.some.inj h))
  exact ⟨Decidable.not_not.1 hn, d, c, e, hdc, Bool.eq_false_iff.2 hres, he⟩

theorem matchAdvan3_true {g : CGraph} (wf : WF g) (h : matchAdvan3 g = some true) :
    g.n = 2 ∧ ∃ ds p, g.dosingComps = some ds ∧ g.bidir (ds.headD 0) = [p] ∧ g.hasEdge p 0 = false := by
  unfold matchAdvan3 at h
  split at h
  · cases h
  next hn =>
  split at h
  · cases h
  next ds hd =>
  dsimp only at h
  split at h
  next p hb =>
    simp only [flowNZ_eq g wf, Option.some.injEq, Bool.not_eq_true'] at h
    exact ⟨Decidable.not_not.1 hn, ds, p, hd, hb, h⟩
  · cases h

theorem matchAdvan4_true {g : CGraph} {res : Nat → Nat → Bool} (wf : WF g) (h : matchAdvan4 g res = some true) :
    g.n = 3 ∧ ∃ d c p, depotCentral g = some (some (d, c)) ∧ res d c = false ∧ g.bidir c = [p] ∧
      g.hasEdge p 0 = false ∧ g.hasEdge p d = false := by
  unfold matchAdvan4 at h
  split at h
  · cases h
  next hn =>
  split at h
  · cases h
  · cases h
  next d c hdc =>
  split at h
  · cases h
  next hres =>
  split at h
  next p hb =>
    simp only [flowNZ_eq g wf, Option.some.injEq, Bool.not_eq_true', Bool.or_eq_false_iff] at h
    exact ⟨Decidable.not_not.1 hn, d, c, p, hdc, Bool.eq_false_iff.2 hres, hb, h⟩
  · cases h

/-- Two conditions that no TRANS satisfies together (as far as the table needs it). -/
def Generated.TransCond.excl : TransCond → TransCond → Bool
  | .eq a, .eq b => a != b
  | .eq a, .notIn l => l.contains a
  | _, _ => false

theorem Generated.TransCond.excl_sound {c c' : TransCond} {tr : String} (h : c.excl c' = true)
    (h1 : c.holds tr = true) (h2 : c'.holds tr = true) : False := by
  unfold TransCond.excl at h
  split at h
  · simp only [TransCond.holds, decide_eq_true_eq] at h1 h2
    subst h1; subst h2
    simp at h
  · simp only [TransCond.holds, decide_eq_true_eq, Bool.not_eq_true'] at h1 h2
    subst h1
    rw [h] at h2; cases h2
  · cases h

theorem filter_of_pairwise_excl {α : Type} {p : α → Bool} : ∀ {l : List α},
    l.Pairwise (fun a b => ¬(p a = true ∧ p b = true)) → l.filter p = [] ∨ ∃ a ∈ l, l.filter p = [a]
  | [], _ => Or.inl rfl
  | a :: l, h => by
    obtain ⟨ha, hl⟩ := List.pairwise_cons.1 h
    by_cases hpa : p a = true
    · right
      refine ⟨a, List.mem_cons_self, ?_⟩
      rw [List.filter_cons_of_pos hpa, List.filter_eq_nil_iff.2 fun b hb hpb => ha b hb ⟨hpa, hpb⟩]
    · rw [List.filter_cons_of_neg hpa]
      rcases filter_of_pairwise_excl hl with h | ⟨b, hb, h⟩
      · exact Or.inl h
      · exact Or.inr ⟨b, List.mem_cons_of_mem _ hb, h⟩

theorem renameTable_excl :
    renameTable.Pairwise (fun r s => r.1 = s.1 → r.2.1 = s.2.1 → r.2.2.1.excl s.2.2.1 = true) := by
  decide +kernel

theorem renameFor_row (f t tr : String) :
    renameFor f t tr = [] ∨ ∃ r ∈ renameTable, renameFor f t tr = r.2.2.2 := by
  unfold renameFor
  have h := filter_of_pairwise_excl (p := fun e => e.1 = f && e.2.1 = t && e.2.2.1.holds tr)
    (renameTable_excl.imp fun {r s} hrs ⟨hr, hs⟩ => by
      simp only [Bool.and_eq_true, decide_eq_true_eq] at hr hs
      exact TransCond.excl_sound (hrs (hr.1.1.trans hs.1.1.symm) (hr.1.2.trans hs.1.2.symm)) hr.2 hs.2)
  rcases h with h | ⟨r, hr, h⟩
  · left; rw [h]; rfl
  · right; exact ⟨r, hr, by rw [h]; simp⟩

/-- The dictionary is one literal row (the conditions of the rows for one pair of ADVANs exclude
    each other), and every literal row is a partial injection. -/
theorem renameFor_injective (f t tr : String) : injectiveDict (renameFor f t tr) = true := by
  have rows : ∀ r ∈ renameTable, injectiveDict r.2.2.2 = true := by decide +kernel
  rcases renameFor_row f t tr with h | ⟨r, hr, h⟩
  · rw [h]; rfl
  · rw [h]; exact rows r hr

end Pharmpy.C02
