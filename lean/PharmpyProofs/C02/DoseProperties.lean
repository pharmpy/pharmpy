import PharmpyModel.C02.Dose
/-
  C02 — reserved dose parameters: `update_bio` / `update_lag_time` make the PREDPP reading of `$PK`
  equal to the in-memory dose attributes provided no stale reserved assignment is present.
-/
namespace Pharmpy.C02

theorem assigned_append (pk : Pk) (x y e : String) : assigned (pk ++ [(y, e)]) x = (assigned pk x || decide (y = x)) := by
  simp [assigned]

theorem alagName_one : alagName 1 = "ALAG1" := by decide

/-- `Fn` itself matches `F[0-9]`: the decimal numeral of `n` starts with a digit. -/
theorem isFdigit_fName (n : Nat) : isFdigit (fName n) = true := by
  have hl : (fName n).toList = 'F' :: Nat.toDigits 10 n := by
    simp [fName, Nat.toString_eq_repr, Nat.repr]
  unfold isFdigit
  rw [hl]
  cases h : Nat.toDigits 10 n with
  | nil => exact absurd h Nat.toDigits_ne_nil
  | cons d ds => exact Nat.isDigit_of_mem_toDigits (by decide) (by decide) (h ▸ List.mem_cons_self)

/-- If nothing stale is present (`NoStaleBio`), after `update_bio` the bioavailability PREDPP reads
    from `$PK` is the one the object has (assigned ⇔ non-neutral, same reserved symbol). -/
theorem update_bio_consistent_partial (c : DComp) (pk : Pk) (h : NoStaleBio c pk) :
    BioConsistent (updateBioOne c pk).1 (updateBioOne c pk).2 := by
  obtain ⟨h1, h2, -⟩ := h
  unfold updateBioOne BioConsistent
  dsimp only
  split
  next hc =>
    -- nothing to do: a neutral attribute has no `Fn`, an attribute `Fn` is assigned
    rcases hc with hn | hf
    · simp [hn, pkBio, h1 hn]
    · have := h2 (by rw [hf]; exact isFdigit_fName c.num)
      rw [hf] at this ⊢
      simp [pkBio, Attr.str] at this ⊢
      exact this
  · split
    next hd =>
      -- the renamed symbol was assigned, so `Fn` is now
      have : assigned (pk.map fun p => (if p.1 = c.bio.str then fName c.num else p.1, p.2)) (fName c.num) = true := by
        obtain ⟨p, hp, hp'⟩ := List.any_eq_true.1 (h2 hd)
        exact List.any_eq_true.2 ⟨_, List.mem_map_of_mem hp, by simp at hp'; simp [hp']⟩
      simp [pkBio, this]
    · simp [pkBio, assigned_append]

/-- The side condition is necessary: with a stale `F1 = F_BIO` in `$PK` and bioavailability 1 in the
    object, `update_bio` changes nothing and the text scales every dose by `F1`. -/
theorem update_bio_stale_witness :
    let c : DComp := ⟨1, .neutral, .neutral⟩
    let pk : Pk := [("F_BIO", "BIO"), ("F1", "F_BIO")]
    updateBioOne c pk = (c, pk) ∧ ¬ BioConsistent (updateBioOne c pk).1 (updateBioOne c pk).2 := by
  decide +kernel

/-- The counterpart of `update_bio_consistent_partial` for the lag time of the (first) dosing compartment. -/
theorem update_lag_consistent_partial (oldLag : Attr) (c : DComp) (pk : Pk) (h : NoStaleLag oldLag c pk) :
    LagConsistent (updateLag oldLag c pk).1 (updateLag oldLag c pk).2 := by
  obtain ⟨hnum, h1, h2⟩ := h
  unfold updateLag LagConsistent
  by_cases hc : c.lag ≠ oldLag ∧ c.lag ≠ .neutral
  · rw [if_pos hc]
    simp only [pkLag, hnum, alagName_one, assigned_append]
    simp
  · rw [if_neg hc]
    simp only [pkLag, hnum, alagName_one]
    by_cases hn : c.lag = .neutral
    · simp [hn, h1 hn]
    · have : c.lag = oldLag := by
        apply Classical.byContradiction
        intro hne; exact hc ⟨hne, hn⟩
      obtain ⟨hs, ha⟩ := h2 this hn
      simp [hs, ha]

/-- A stale `ALAG1` with an object whose lag time is 0 is not reconciled. -/
theorem update_lag_stale_witness :
    let c : DComp := ⟨1, .neutral, .neutral⟩
    let pk : Pk := [("ALAG1", "THETA(3)")]
    updateLag (.sym "ALAG1") c pk = (c, pk) ∧ ¬ LagConsistent (updateLag (.sym "ALAG1") c pk).1 (updateLag (.sym "ALAG1") c pk).2 := by
  decide +kernel

/-- Writing the reserved assignment an attribute calls for and reading it back by the PREDPP rule
    gives the attribute (so `Consistent` really is "same dosing attributes"). -/
theorem reserved_reading_roundtrip (n : Nat) (pk : Pk) (e : String) (h : assigned pk (fName n) = false) :
    pkBio pk n = .neutral ∧ pkBio (pk ++ [(fName n, e)]) n = .sym (fName n) := by
  simp [pkBio, h, assigned_append]

example : NoStaleBio ⟨1, .sym "F_BIO", .neutral⟩ [("F_BIO", "BIO")] := by
  refine ⟨by simp, by decide, by intro _ _; left; decide⟩
example : updateBioOne ⟨1, .sym "F_BIO", .neutral⟩ [("F_BIO", "BIO")] =
    (⟨1, .sym "F1", .neutral⟩, [("F_BIO", "BIO"), ("F1", "F_BIO")]) := by decide +kernel
example : updateBioOne ⟨2, .sym "F1", .neutral⟩ [("F1", "BIO")] = (⟨2, .sym "F2", .neutral⟩, [("F2", "BIO")]) := by decide +kernel

end Pharmpy.C02
