import PharmpyProofs.C02.RecordLemmas
import PharmpyProofs.C02.Properties
/-
  The code record's node index (`_index_statements_diff` + `CodeRecord.update_statements`) after one
  `update_statements` call: for every record, diff and statement printer `gen` the new
  index is a partition of the new node list whose spans are the nodes generated for / kept with
  their statements.
-/
set_option linter.unusedSectionVars false
namespace Pharmpy.C02

section
variable {σ ν : Type}

/-- Kept groups stay inside the old node list. -/
def GroupsInBounds (old : List ν) (gs : List (Group σ)) : Prop :=
  ∀ g ∈ gs, g.op = 0 → g.nj ≤ old.length

/-- The positions `update_statements` computes with `len(new_children)` are the layout of the piece
    list (gaps copied from the old record, generated blocks, kept blocks). -/
theorem update_statements_eq_pieces (gen : σ → List ν) (old : List ν) (index : List Idx) (fallback : Nat)
    (ops : List (Op σ)) (gs : List (Group σ))
    (hg : indexDiff (firstStatementIndex index fallback) index none ops = some gs)
    (hb : GroupsInBounds old gs) :
    updateStatements gen old index fallback ops =
      some (nodesOf (piecesOfGroups gen old 0 gs), indexFrom 0 0 (piecesOfGroups gen old 0 gs)) := by
  unfold updateStatements
  rw [hg]
  have h := applyGroups_spec gen old gs ⟨[], [], 0, 0⟩ ([] : List (Piece ν σ))
    ⟨rfl, rfl, rfl⟩ hb
  simp only [List.nil_append] at h
  simp only [h.1, h.2]

/-- The new index is a partition of the new node list (spans in order, disjoint, inside the list), and
    its statement ranges are consecutive and cover the statements of the kept and inserted groups. -/
theorem update_statements_partition (gen : σ → List ν) (old : List ν) (index : List Idx) (fallback : Nat)
    (ops : List (Op σ)) (gs : List (Group σ)) (ch : List ν) (ix : List Idx)
    (hg : indexDiff (firstStatementIndex index fallback) index none ops = some gs)
    (hb : GroupsInBounds old gs)
    (hu : updateStatements gen old index fallback ops = some (ch, ix)) :
    IndexWF 0 0 ch.length (groupStmts gs).length ix := by
  rw [update_statements_eq_pieces gen old index fallback ops gs hg hb] at hu
  cases hu
  have := indexFrom_wf (piecesOfGroups gen old 0 gs) 0 0
  simpa [stmtsOf_piecesOfGroups] using this

/-- Every entry of the new index cuts out of the new node list the nodes generated for one inserted
    statement (`gen s`, ALL of them) or the nodes of one kept old group, and out of the new
    statements that statement / group. -/
theorem update_statements_spans (gen : σ → List ν) (old : List ν) (index : List Idx) (fallback : Nat)
    (ops : List (Op σ)) (gs : List (Group σ)) (ch : List ν) (ix : List Idx)
    (hg : indexDiff (firstStatementIndex index fallback) index none ops = some gs)
    (hb : GroupsInBounds old gs)
    (hu : updateStatements gen old index fallback ops = some (ch, ix)) :
    ∀ e ∈ ix,
      (∃ s, slice ch e.1 e.2.1 = gen s ∧ slice (groupStmts gs) e.2.2.1 e.2.2.2 = [s]) ∨
      (∃ g ∈ gs, g.op = 0 ∧ slice ch e.1 e.2.1 = slice old g.ni g.nj ∧
        slice (groupStmts gs) e.2.2.1 e.2.2.2 = g.stmts) := by
  rw [update_statements_eq_pieces gen old index fallback ops gs hg hb] at hu
  cases hu
  intro e he
  obtain ⟨ns, ss, hm, h1, h2⟩ := indexFrom_slices (piecesOfGroups gen old 0 gs) [] [] e (by simpa using he)
  simp only [List.nil_append, stmtsOf_piecesOfGroups] at h1 h2
  rcases block_mem_piecesOfGroups gen old gs 0 ns ss hm with ⟨s, rfl, rfl⟩ | ⟨g, hgm, h0, rfl, rfl⟩
  · left; exact ⟨s, h1, h2⟩
  · right; exact ⟨g, hgm, h0, h1, h2⟩

/-- The invariant is preserved: for any relation `Rep nodes stmts` ("these nodes are the text of these
    statements"), if the printer is correct and the kept groups were represented by their old nodes,
    the node span every new entry records is the text of the statement range it records. -/
theorem update_statements_rep (Rep : List ν → List σ → Prop) (gen : σ → List ν) (old : List ν)
    (index : List Idx) (fallback : Nat) (ops : List (Op σ)) (gs : List (Group σ)) (ch : List ν) (ix : List Idx)
    (hg : indexDiff (firstStatementIndex index fallback) index none ops = some gs)
    (hb : GroupsInBounds old gs)
    (hu : updateStatements gen old index fallback ops = some (ch, ix))
    (hgen : ∀ s, Rep (gen s) [s])
    (hkeep : ∀ g ∈ gs, g.op = 0 → Rep (slice old g.ni g.nj) g.stmts) :
    ∀ e ∈ ix, Rep (slice ch e.1 e.2.1) (slice (groupStmts gs) e.2.2.1 e.2.2.2) := by
  intro e he
  rcases update_statements_spans gen old index fallback ops gs ch ix hg hb hu e he with
    ⟨s, h1, h2⟩ | ⟨g, hgm, h0, h1, h2⟩
  · rw [h1, h2]; exact hgen s
  · rw [h1, h2]; exact hkeep g hgm h0

/-- Whatever the index, if `_index_statements_diff` completes, the statements of the groups it yields
    for keeping/inserting are the diff without its deletions — by `lcs_diff_new` the new statements. -/
theorem index_diff_statements : ∀ (ops : List (Op σ)) (last : Nat) (idx : List Idx) (pend : Option (Pending σ))
    (gs : List (Group σ)), indexDiff last idx pend ops = some gs →
    groupStmts gs = dropDel ((match pend with | some p => p.2.2.2 | none => []) ++ ops) :=
  fun ops last idx pend gs h => (indexDiff_spec ops last idx pend gs h).1

/-- Spans of kept groups are spans of old index entries (so they are in bounds when the old index is). -/
theorem index_diff_spans : ∀ (ops : List (Op σ)) (last : Nat) (idx : List Idx) (pend : Option (Pending σ))
    (gs : List (Group σ)), indexDiff last idx pend ops = some gs →
    ∀ g ∈ gs, g.op = 0 →
      (∃ e ∈ idx, g.ni = e.1 ∧ g.nj = e.2.1) ∨ (∃ p, pend = some p ∧ g.ni = p.1 ∧ g.nj = p.2.1) :=
  fun ops last idx pend gs h g hg h0 => by
    rcases List.mem_append.1 ((indexDiff_spec ops last idx pend gs h).2 g hg h0) with hm | hm
    · cases pend with
      | none => cases hm
      | some p =>
        obtain ⟨h1, h2⟩ := Prod.mk.inj (List.mem_singleton.1 hm)
        exact .inr ⟨p, rfl, h1, h2⟩
    · obtain ⟨e, he, heq⟩ := List.mem_map.1 hm
      obtain ⟨h1, h2⟩ := Prod.mk.inj heq
      exact .inl ⟨e, he, h1.symm, h2.symm⟩

theorem indexWF_bound : ∀ (ix : List Idx) (off si nN nS : Nat), IndexWF off si nN nS ix →
    ∀ e ∈ ix, e.2.1 ≤ nN
  | (_, _, _, _) :: ix, _, _, nN, nS, h, e, he => by
    rcases List.mem_cons.1 he with rfl | he
    · exact h.2.2.2.2.start_le
    · exact indexWF_bound ix _ _ nN nS h.2.2.2.2 e he

/-- One `update_statements` call on a record whose index is a partition, with the LCS diff of the old
    and new statements: if it completes, the new index is again a partition of the new children and
    covers exactly `newS`; with a correct printer and represented kept groups the representation
    invariant holds for the new record. -/
theorem update_statements_frame [DecidableEq σ] (Rep : List ν → List σ → Prop) (gen : σ → List ν)
    (old : List ν) (index : List Idx) (fallback : Nat) (oldS newS : List σ) (nS : Nat)
    (gs : List (Group σ)) (ch : List ν) (ix : List Idx)
    (hwf : IndexWF 0 0 old.length nS index)
    (hg : indexDiff (firstStatementIndex index fallback) index none (diff oldS newS) = some gs)
    (hu : updateStatements gen old index fallback (diff oldS newS) = some (ch, ix))
    (hgen : ∀ s, Rep (gen s) [s])
    (hkeep : ∀ g ∈ gs, g.op = 0 → Rep (slice old g.ni g.nj) g.stmts) :
    groupStmts gs = newS ∧ IndexWF 0 0 ch.length newS.length ix ∧
      ∀ e ∈ ix, Rep (slice ch e.1 e.2.1) (slice newS e.2.2.1 e.2.2.2) := by
  have hb : GroupsInBounds old gs := by
    intro g hgm h0
    rcases index_diff_spans _ _ _ _ _ hg g hgm h0 with ⟨e, hem, _, h2⟩ | ⟨p, hp, _⟩
    · rw [h2]; exact indexWF_bound index 0 0 _ _ hwf e hem
    · cases hp
  have hs : groupStmts gs = newS := by
    have := index_diff_statements _ _ _ _ _ hg
    simpa [lcs_diff_new] using this
  refine ⟨hs, ?_, ?_⟩
  · have := update_statements_partition gen old index fallback _ gs ch ix hg hb hu
    rwa [hs] at this
  · have := update_statements_rep Rep gen old index fallback _ gs ch ix hg hb hu hgen hkeep
    rwa [hs] at this

end

/-- statement `s` prints as the `s` nodes `10*s + k`, `k < s`. -/
def exGen (s : Nat) : List Nat := (List.range s).map (fun k => 10 * s + k)

-- node 100 is a comment; statement 2 is inserted as two nodes
example : updateStatements exGen [100, 1] [(1, 2, 0, 1)] 2 (diff [1] [1, 2]) =
    some ([100, 1, 20, 21], [(1, 2, 0, 1), (2, 4, 1, 2)]) := by decide +kernel
-- second update, statement 2 replaced by 3: both nodes 20, 21 disappear
example : updateStatements exGen [100, 1, 20, 21] [(1, 2, 0, 1), (2, 4, 1, 2)] 4 (diff [1, 2] [1, 3]) =
    some ([100, 1, 30, 31, 32], [(1, 2, 0, 1), (2, 5, 1, 2)]) := by decide +kernel
-- with the span recorded as one node (the defect the invariant excludes) node 21 would survive
example : updateStatements exGen [100, 1, 20, 21] [(1, 2, 0, 1), (2, 3, 1, 2)] 4 (diff [1, 2] [1, 3]) =
    some ([100, 1, 30, 31, 32, 21], [(1, 2, 0, 1), (2, 5, 1, 2)]) := by decide +kernel

end Pharmpy.C02
