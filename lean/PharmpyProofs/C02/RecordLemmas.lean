import PharmpyModel.C02.Record
import PharmpyProofs.C02.Lemmas
set_option linter.unusedSectionVars false
namespace Pharmpy.C02

section
variable {σ ν : Type}

theorem nodesOf_append (a b : List (Piece ν σ)) : nodesOf (a ++ b) = nodesOf a ++ nodesOf b := by
  simp [nodesOf]
theorem stmtsOf_append (a b : List (Piece ν σ)) : stmtsOf (a ++ b) = stmtsOf a ++ stmtsOf b := by
  simp [stmtsOf]

theorem indexFrom_append (a b : List (Piece ν σ)) : ∀ (off si : Nat),
    indexFrom off si (a ++ b) =
      indexFrom off si a ++ indexFrom (off + (nodesOf a).length) (si + (stmtsOf a).length) b := by
  induction a with
  | nil => intro off si; simp [indexFrom, nodesOf, stmtsOf]
  | cons p a ih =>
    intro off si
    cases p <;> simp [indexFrom, ih, nodesOf, stmtsOf, Piece.nodes, Piece.stmts, Nat.add_assoc]

theorem nodesOf_gap_cons (ns : List ν) (ps : List (Piece ν σ)) : nodesOf (.gap ns :: ps) = ns ++ nodesOf ps := rfl
theorem stmtsOf_gap_cons (ns : List ν) (ps : List (Piece ν σ)) : stmtsOf (.gap ns :: ps) = stmtsOf ps := rfl
theorem nodesOf_block_cons (ns : List ν) (ss : List σ) (ps : List (Piece ν σ)) :
    nodesOf (.block ns ss :: ps) = ns ++ nodesOf ps := rfl
theorem stmtsOf_block_cons (ns : List ν) (ss : List σ) (ps : List (Piece ν σ)) :
    stmtsOf (.block ns ss :: ps) = ss ++ stmtsOf ps := rfl

theorem stmtsOf_map_block (gen : σ → List ν) (ss : List σ) :
    stmtsOf (ss.map fun s => Piece.block (gen s) [s]) = ss := by
  induction ss with
  | nil => rfl
  | cons s ss ih => rw [List.map_cons, stmtsOf_block_cons, ih]; rfl

theorem slice_length {α : Type} (l : List α) (a b : Nat) (hb : b ≤ l.length) : (slice l a b).length = b - a := by
  simp only [slice, List.length_take, List.length_drop]; omega

/-- The loop state describes the layout of the pieces produced so far. -/
def Describes (st : UState ν) (acc : List (Piece ν σ)) : Prop :=
  st.children = nodesOf acc ∧ st.index = indexFrom 0 0 acc ∧ st.si = (stmtsOf acc).length

theorem Describes.gap {st : UState ν} {acc : List (Piece ν σ)} (h : Describes st acc) (ns : List ν) (last : Nat) :
    Describes ⟨st.children ++ ns, st.index, st.si, last⟩ (acc ++ [.gap ns]) := by
  obtain ⟨hc, hi, hs⟩ := h
  refine ⟨?_, ?_, ?_⟩
  · rw [nodesOf_append, ← hc]; simp [nodesOf, Piece.nodes]
  · rw [indexFrom_append, ← hi]; simp [indexFrom]
  · rw [stmtsOf_append, List.length_append, ← hs]; rfl

theorem Describes.block {st : UState ν} {acc : List (Piece ν σ)} (h : Describes st acc) (ns : List ν)
    (ss : List σ) (last : Nat) :
    Describes ⟨st.children ++ ns,
      st.index ++ [(st.children.length, st.children.length + ns.length, st.si, st.si + ss.length)],
      st.si + ss.length, last⟩ (acc ++ [.block ns ss]) := by
  obtain ⟨hc, hi, hs⟩ := h
  refine ⟨?_, ?_, ?_⟩
  · rw [nodesOf_append, ← hc]; simp [nodesOf, Piece.nodes]
  · rw [indexFrom_append, ← hi, ← hc, ← hs]; simp [indexFrom]
  · rw [stmtsOf_append, List.length_append, ← hs]; simp [stmtsOf, Piece.stmts]

theorem insertStmts_spec (gen : σ → List ν) (last : Nat) : ∀ (ss : List σ) (ch : List ν) (ix : List Idx) (si : Nat)
    (acc : List (Piece ν σ)), Describes ⟨ch, ix, si, last⟩ acc →
    Describes ⟨(insertStmts gen ss (ch, ix, si)).1, (insertStmts gen ss (ch, ix, si)).2.1,
      (insertStmts gen ss (ch, ix, si)).2.2, last⟩ (acc ++ ss.map fun s => .block (gen s) [s])
  | [], _, _, _, acc, h => by rw [List.map_nil, List.append_nil]; exact h
  | s :: ss, ch, ix, si, acc, h => by
    have := insertStmts_spec gen last ss _ _ _ _ (h.block (gen s) [s] last)
    rwa [List.append_assoc] at this

theorem applyGroup_last (gen : σ → List ν) (old : List ν) (st : UState ν) (g : Group σ) :
    (applyGroup gen old st g).last = g.nj := by
  unfold applyGroup
  split
  · rfl
  · split <;> rfl

theorem applyGroup_spec (gen : σ → List ν) (old : List ν) (st : UState ν) (acc : List (Piece ν σ))
    (g : Group σ) (h : Describes st acc) (hb : g.op = 0 → g.nj ≤ old.length) :
    Describes (applyGroup gen old st g) (acc ++ piecesOfGroup gen old st.last g) := by
  have hgap := h.gap (slice old st.last g.ni) g.nj
  unfold applyGroup piecesOfGroup
  rw [← List.singleton_append, ← List.append_assoc]
  split
  · exact insertStmts_spec gen g.nj g.stmts _ _ _ _ hgap
  · split
    next h0 =>
      have := hgap.block (slice old g.ni g.nj) g.stmts g.nj
      rwa [slice_length old g.ni g.nj (hb h0)] at this
    · rw [List.append_nil]; exact hgap

theorem applyGroups_spec (gen : σ → List ν) (old : List ν) : ∀ (gs : List (Group σ)) (st : UState ν)
    (acc : List (Piece ν σ)), Describes st acc → (∀ g ∈ gs, g.op = 0 → g.nj ≤ old.length) →
    (applyGroups gen old st gs).children ++ old.drop (applyGroups gen old st gs).last
        = nodesOf (acc ++ piecesOfGroups gen old st.last gs) ∧
    (applyGroups gen old st gs).index = indexFrom 0 0 (acc ++ piecesOfGroups gen old st.last gs)
  | [], st, acc, h, _ => by
    obtain ⟨hc, hi, _⟩ := h.gap (old.drop st.last) 0
    exact ⟨hc, hi⟩
  | g :: gs, st, acc, h, hb => by
    have := applyGroups_spec gen old gs _ _ (applyGroup_spec gen old st acc g h (hb g List.mem_cons_self))
      fun g' hg' => hb g' (List.mem_cons_of_mem _ hg')
    rwa [applyGroup_last, List.append_assoc] at this

theorem IndexWF.mono {a b s nN nS : Nat} {es : List Idx} (hab : a ≤ b) (h : IndexWF b s nN nS es) :
    IndexWF a s nN nS es := by
  cases es <;> exact ⟨Nat.le_trans hab h.1, h.2⟩

theorem IndexWF.start_le {nN nS : Nat} : ∀ {es : List Idx} {a s : Nat}, IndexWF a s nN nS es → a ≤ nN
  | [], _, _, h => h.1
  | _ :: _, _, _, h => Nat.le_trans h.1 (Nat.le_trans h.2.1 h.2.2.2.2.start_le)

theorem indexFrom_wf : ∀ (ps : List (Piece ν σ)) (off si : Nat),
    IndexWF off si (off + (nodesOf ps).length) (si + (stmtsOf ps).length) (indexFrom off si ps)
  | [], off, si => ⟨Nat.le_refl _, rfl⟩
  | .gap ns :: ps, off, si => by
    have := indexFrom_wf ps (off + ns.length) si
    rw [nodesOf_gap_cons, stmtsOf_gap_cons, List.length_append, ← Nat.add_assoc]
    exact this.mono (Nat.le_add_right _ _)
  | .block ns ss :: ps, off, si => by
    have := indexFrom_wf ps (off + ns.length) (si + ss.length)
    rw [nodesOf_block_cons, stmtsOf_block_cons, List.length_append, List.length_append, ← Nat.add_assoc,
      ← Nat.add_assoc]
    exact ⟨Nat.le_refl _, Nat.le_add_right _ _, rfl, Nat.le_add_right _ _, this⟩

theorem slice_append_left {α : Type} (pre mid post : List α) :
    slice (pre ++ (mid ++ post)) pre.length (pre.length + mid.length) = mid := by
  simp [slice]

theorem indexFrom_slices : ∀ (ps : List (Piece ν σ)) (pre : List ν) (spre : List σ),
    ∀ e ∈ indexFrom pre.length spre.length ps, ∃ ns ss, Piece.block ns ss ∈ ps ∧
      slice (pre ++ nodesOf ps) e.1 e.2.1 = ns ∧ slice (spre ++ stmtsOf ps) e.2.2.1 e.2.2.2 = ss
  | [], _, _, _, he => nomatch he
  | .gap ns :: ps, pre, spre, e, he => by
    obtain ⟨ns', ss', hm, h1, h2⟩ := indexFrom_slices ps (pre ++ ns) spre e (by rwa [List.length_append])
    exact ⟨ns', ss', List.mem_cons_of_mem _ hm, by rwa [List.append_assoc] at h1, h2⟩
  | .block ns ss :: ps, pre, spre, e, he => by
    rcases List.mem_cons.1 he with rfl | he
    · exact ⟨ns, ss, List.mem_cons_self, slice_append_left pre ns _, slice_append_left spre ss _⟩
    · obtain ⟨ns', ss', hm, h1, h2⟩ := indexFrom_slices ps (pre ++ ns) (spre ++ ss) e
        (by rwa [List.length_append, List.length_append])
      exact ⟨ns', ss', List.mem_cons_of_mem _ hm, by rwa [List.append_assoc] at h1,
        by rwa [List.append_assoc] at h2⟩

theorem stmtsOf_piecesOfGroups (gen : σ → List ν) (old : List ν) : ∀ (gs : List (Group σ)) (last : Nat),
    stmtsOf (piecesOfGroups gen old last gs) = groupStmts gs := by
  intro gs
  induction gs with
  | nil => intro last; rfl
  | cons g gs ih =>
    intro last
    rw [piecesOfGroups, stmtsOf_append, ih, groupStmts, piecesOfGroup, stmtsOf_gap_cons]
    congr 1
    by_cases h1 : g.op = 1
    · rw [if_pos h1, if_pos (Or.inl h1)]; exact stmtsOf_map_block gen g.stmts
    · by_cases h0 : g.op = 0
      · rw [if_neg h1, if_pos h0, if_pos (Or.inr h0)]; exact List.append_nil _
      · rw [if_neg h1, if_neg h0, if_neg (by simp [h1, h0])]; rfl

theorem block_mem_piecesOfGroups (gen : σ → List ν) (old : List ν) : ∀ (gs : List (Group σ)) (last : Nat)
    (ns : List ν) (ss : List σ), Piece.block ns ss ∈ piecesOfGroups gen old last gs →
    (∃ s, ns = gen s ∧ ss = [s]) ∨ (∃ g ∈ gs, g.op = 0 ∧ ns = slice old g.ni g.nj ∧ ss = g.stmts)
  | [], _, _, _, h => by cases List.mem_singleton.1 h
  | g :: gs, last, ns, ss, h => by
    rcases List.mem_append.1 h with h | h
    · rcases List.mem_cons.1 h with h | h
      · cases h
      · split at h
        · obtain ⟨s, _, hs⟩ := List.mem_map.1 h
          cases hs
          exact .inl ⟨s, rfl, rfl⟩
        · split at h
          next h0 =>
            cases List.mem_singleton.1 h
            exact .inr ⟨g, List.mem_cons_self, h0, rfl, rfl⟩
          · cases h
    · exact (block_mem_piecesOfGroups gen old gs g.nj ns ss h).imp_right
        fun ⟨g', hg', h'⟩ => ⟨g', List.mem_cons_of_mem _ hg', h'⟩

theorem groupStmts_append (a b : List (Group σ)) : groupStmts (a ++ b) = groupStmts a ++ groupStmts b := by
  induction a with
  | nil => rfl
  | cons g a ih => simp [groupStmts, ih]

theorem groupStmts_flush (ni nj : Nat) (acc : List (Op σ)) : groupStmts (flushGroup ni nj acc) = dropDel acc := by
  unfold flushGroup
  split
  next hz =>
    -- nothing but 0-ops: nothing is filtered out
    have : acc.filter (fun o => decide (o.1 ≠ -1)) = acc :=
      List.filter_eq_self.2 fun o ho => by
        have := List.all_eq_true.1 hz o ho
        simp at this
        simp [this]
    rw [dropDel, this]
    simp [groupStmts]
  · dsimp only
    split
    next hn => simpa [groupStmts, dropDel] using hn
    · simp [groupStmts, dropDel]

theorem flushGroup_span {ni nj : Nat} {acc : List (Op σ)} {g : Group σ} (hm : g ∈ flushGroup ni nj acc)
    (h0 : g.op = 0) : (g.ni, g.nj) = (ni, nj) := by
  unfold flushGroup at hm
  split at hm
  · cases List.mem_singleton.1 hm; rfl
  · rcases List.mem_cons.1 hm with rfl | hm
    · cases h0
    · dsimp only at hm
      split at hm
      · cases hm
      · cases List.mem_singleton.1 hm; cases h0

/-- If the generator completes, the statements of its groups are the ops consumed (the pending ones
    included) without the deletions, and every kept group carries the span of an index entry, the
    pending group counting as one more entry in front. -/
theorem indexDiff_spec : ∀ (ops : List (Op σ)) (last : Nat) (idx : List Idx) (pend : Option (Pending σ))
    (gs : List (Group σ)), indexDiff last idx pend ops = some gs →
    groupStmts gs = dropDel ((match pend with | some p => p.2.2.2 | none => []) ++ ops) ∧
    ∀ g ∈ gs, g.op = 0 →
      (g.ni, g.nj) ∈ (pend.map fun p => (p.1, p.2.1)).toList ++ idx.map fun e => (e.1, e.2.1) := by
  intro ops last idx pend
  induction last, idx, pend, ops using indexDiff.induct with
    simp only [indexDiff, *, if_true, if_false, Option.map_eq_some_iff, reduceCtorEq, false_imp_iff, implies_true,
      Option.some.injEq, forall_exists_index, and_imp]
  | case1 => rintro _ rfl; exact ⟨rfl, fun g hg => nomatch hg⟩
  | case3 last idx s rest ih =>
    rintro _ gs h rfl
    obtain ⟨ih1, ih2⟩ := ih gs h
    refine ⟨by simp [groupStmts, ih1, dropDel], fun g hg h0 => ?_⟩
    rcases List.mem_cons.1 hg with rfl | hg
    · cases h0
    · exact ih2 g hg h0
  | case5 last op s rest h1 ni nj si sj idx' he ih =>
    rintro _ gs h rfl
    obtain ⟨ih1, ih2⟩ := ih gs h
    refine ⟨by rw [groupStmts_append, groupStmts_flush, ih1, ← dropDel_append]; rfl, fun g hg h0 => ?_⟩
    rcases List.mem_append.1 hg with hg | hg
    · rw [flushGroup_span hg h0]; exact List.mem_cons_self
    · exact List.mem_cons_of_mem _ (ih2 g hg h0)
  | case6 last op s rest h1 ni nj si sj idx' he ih => exact ih
  | case7 last idx ni nj expected acc op s rest he ih =>
    rintro _ gs h rfl
    obtain ⟨ih1, ih2⟩ := ih gs h
    refine ⟨by rw [groupStmts_append, groupStmts_flush, ih1, ← dropDel_append, List.append_assoc]; rfl,
      fun g hg h0 => ?_⟩
    rcases List.mem_append.1 hg with hg | hg
    · rw [flushGroup_span hg h0]; exact List.mem_cons_self
    · exact List.mem_cons_of_mem _ (ih2 g hg h0)
  | case8 last idx ni nj expected acc op s rest he ih =>
    intro gs h
    obtain ⟨ih1, ih2⟩ := ih gs h
    exact ⟨by rw [ih1, List.append_assoc]; rfl, ih2⟩

end
end Pharmpy.C02
