import PharmpyProofs.C02.AdvanLemmas
/-
  C02 — the ADVAN/TRANS decision and the PK-parameter rename tables.  The tables are those of
  `Generated/PkConv.lean` (rewritten from `update.py` on every run); the graph tests are the
  hand-written model `PharmpyModel/C02/Advan.lean`.
-/
namespace Pharmpy.C02
open CGraph Generated

/-- The order of the ADVAN tests in `new_advan_trans` is the one `chooseAdvan` models. -/
theorem advan_ladder_order :
    advanLadder = [("or:nonlin,has_zo", "ADVAN13"), ("match_advan1", "ADVAN1"), ("match_advan2", "ADVAN2"),
      ("match_advan3", "ADVAN3"), ("match_advan4", "ADVAN4"), ("match_advan11", "ADVAN11"),
      ("match_advan12", "ADVAN12"), ("else", "ADVAN5")] := by decide +kernel

def oldTransValues : List (Option String) :=
  [none, some "TRANS1", some "TRANS2", some "TRANS3", some "TRANS4", some "TRANS5", some "TRANS6"]

/-- The TRANS chosen by `new_advan_trans` exists for the chosen
    ADVAN, except in the one combination exhibited by `choose_trans_witness`. -/
theorem choose_trans_total_partial :
    ∀ advan ∈ linearAdvans, ∀ old ∈ oldTransValues, ∀ quot : Bool,
      ¬(advan = "ADVAN5" ∧ old = none ∧ quot = true) →
      ∃ t, chooseTrans old advan false quot = some t ∧ t ∈ validTrans advan := by
  decide +kernel

/-- The full statement fails: no `TRANS` option on `$SUBROUTINES`, elimination rate a quotient of two
    symbols, general linear model ⇒ `TRANS4`, which does not exist for ADVAN5. -/
theorem choose_trans_witness :
    chooseTrans none "ADVAN5" false true = some "TRANS4" ∧ "TRANS4" ∉ validTrans "ADVAN5" := by
  decide +kernel

/-- A nonlinear system gets no TRANS. -/
theorem choose_trans_nonlin (old : Option String) (advan : String) (quot : Bool) :
    chooseTrans old advan true quot = none := by
  simp [chooseTrans]

def transValues : List String := ["TRANS1", "TRANS2", "TRANS3", "TRANS4", "TRANS5", "TRANS6"]

/-- Every rename dictionary `pk_param_conversion` can build
    is a partial injection with distinct keys. -/
theorem pk_rename_injective :
    ∀ f ∈ linearAdvans, ∀ t ∈ linearAdvans, ∀ tr ∈ transValues, injectiveDict (renameFor f t tr) = true :=
  fun f _ t _ tr _ => renameFor_injective f t tr

/-- For every one-step transition (a depot or one peripheral compartment
    added or removed) the rename dictionary maps the old name of every basic PK parameter to the
    name the same role has under the new (ADVAN, TRANS). -/
theorem pk_rename_consistent_partial :
    ∀ p ∈ adjacent, ∀ t0 ∈ validTrans p.1, ∀ t1,
      chooseTrans (some t0) p.2 false false = some t1 →
      ¬(t0 = "TRANS3" ∧ (p.2 = "ADVAN11" ∨ p.2 = "ADVAN12")) →
      renameConsistent p.1 p.2 t0 t1 = true := by
  decide +kernel

/-- The excluded case is a real gap of the table: from ADVAN3 TRANS3 (CL, V, Q, VSS) to ADVAN11 the
    ladder selects TRANS4, whose central volume is `V1`, but only `Q ↦ Q2` is renamed. -/
theorem pk_rename_trans3_witness :
    chooseTrans (some "TRANS3") "ADVAN11" false false = some "TRANS4" ∧
    renameFor "ADVAN3" "ADVAN11" "TRANS4" = [("Q", "Q2")] ∧
    renameConsistent "ADVAN3" "ADVAN11" "TRANS3" "TRANS4" = false := by
  decide +kernel

theorem choose_advan_nonlinear (g : CGraph) (nonlin hasZo : Bool) (res : Nat → Nat → Bool)
    (h : (nonlin || hasZo) = true) : chooseAdvan g nonlin hasZo res = some .a13 := by
  simp [chooseAdvan, h]

theorem chooseAdvan_inv (g : CGraph) (res : Nat → Nat → Bool) (a : Advan)
    (h : chooseAdvan g false false res = some a) :
    (a = .a1 ∧ matchAdvan1 g = true) ∨
    (a = .a2 ∧ matchAdvan2 g res = some true) ∨
    (a = .a3 ∧ matchAdvan3 g = some true) ∨
    (a = .a4 ∧ matchAdvan4 g res = some true) ∨
    (a = .a11 ∧ matchAdvan11 g = some true) ∨
    (a = .a12 ∧ matchAdvan12 g res = some true) ∨
    (a = .a5) := by
  unfold chooseAdvan at h
  simp only [Bool.or_self, Bool.false_eq_true, if_false] at h
  split at h
  next h1 => cases h; exact .inl ⟨rfl, h1⟩
  split at h
  · cases h
  next h2 => cases h; exact .inr (.inl ⟨rfl, h2⟩)
  split at h
  · cases h
  next h3 => cases h; exact .inr (.inr (.inl ⟨rfl, h3⟩))
  split at h
  · cases h
  next h4 => cases h; exact .inr (.inr (.inr (.inl ⟨rfl, h4⟩)))
  split at h
  · cases h
  next h11 => cases h; exact .inr (.inr (.inr (.inr (.inl ⟨rfl, h11⟩))))
  split at h
  · cases h
  next h12 => cases h; exact .inr (.inr (.inr (.inr (.inr (.inl ⟨rfl, h12⟩)))))
  · cases h; exact .inr (.inr (.inr (.inr (.inr (.inr rfl)))))

/-- ADVAN1 ⇒ exactly one compartment, eliminating to the output. -/
theorem advan1_shape (g : CGraph) (wf : WF g) (h : matchAdvan1 g = true) :
    g.n = 1 ∧ HasExactlyEdges g [(1, 0)] := by
  have hn : g.n = 1 := of_decide_eq_true h
  have cov : ∀ a, 1 ≤ a ∧ a ≤ g.n → a ∈ [1] := fun a ha => List.mem_singleton.2 (by omega)
  have h10 := edge_to_output wf cov (c := 1) (by simp)
  exact ⟨hn, exactEdges_of_table wf cov (nos := []) (by simp [h10]) (by simp) (by simp)⟩

/-- ADVAN2 ⇒ depot `d` (the first dosing compartment) → central `c` → output, nothing else. -/
theorem advan2_shape (g : CGraph) (wf : WF g) (res : Nat → Nat → Bool)
    (h : matchAdvan2 g res = some true) :
    ∃ d c, g.n = 2 ∧ d ≠ c ∧ 1 ≤ d ∧ d ≤ 2 ∧ 1 ≤ c ∧ c ≤ 2 ∧
      (∃ ds, g.dosingComps = some ds ∧ ds.headD 0 = d) ∧ res d c = false ∧
      HasExactlyEdges g [(d, c), (c, 0)] := by
  obtain ⟨hn, d, c, e, hdc, hres, he⟩ := matchAdvan2_true h
  obtain ⟨hds, hs⟩ := depotCentral_some hdc
  have hdc' : g.hasEdge d c = true := (succs_singleton hs c).2 rfl
  have d1 := wf.srcIn d c hdc'
  have c1 := wf.srcIn c e ((succs_singleton he e).2 rfl)
  have cov := cover2 hn (wf.ne hdc') d1 c1
  have hd0 := not_succ hs (x := 0) (by omega)
  have hc0 := edge_to_output wf cov (c := c) (by simp [hd0])
  obtain rfl : 0 = e := (succs_singleton he 0).1 hc0
  have hcd := not_succ he (x := d) (by omega)
  exact ⟨d, c, hn, wf.ne hdc', by omega, by omega, by omega, by omega, hds, hres,
    exactEdges_of_table wf cov (nos := [(d, 0), (c, d)]) (by simp [hdc', hc0]) (by simp [hd0, hcd]) (by simp)⟩

/-- ADVAN3 ⇒ central `c` (the first dosing compartment) ⇄ peripheral `p`, `c` → output, nothing else. -/
theorem advan3_shape (g : CGraph) (wf : WF g) (h : matchAdvan3 g = some true) :
    ∃ c p, g.n = 2 ∧ c ≠ p ∧ 1 ≤ p ∧ p ≤ 2 ∧
      (∃ ds, g.dosingComps = some ds ∧ ds.headD 0 = c) ∧
      HasExactlyEdges g [(c, p), (p, c), (c, 0)] := by
  obtain ⟨hn, ds, p, hd, hb, hp0⟩ := matchAdvan3_true wf h
  generalize hc : ds.headD 0 = c at hb
  obtain ⟨hpc, hcp⟩ := (bidir_singleton wf hb p).2 rfl
  have c1 := wf.srcIn c p hcp
  have p1 := wf.srcIn p c hpc
  have cov := cover2 hn (wf.ne hcp) c1 p1
  have hc0 := edge_to_output wf cov (c := c) (by simp [hp0])
  exact ⟨c, p, hn, wf.ne hcp, p1.1, by omega, ⟨ds, hd, hc⟩,
    exactEdges_of_table wf cov (nos := [(p, 0)]) (by simp [hcp, hpc, hc0]) (by simp [hp0]) (by simp)⟩

/-- If the central compartment has no flow back into the
    dosing compartment, ADVAN4 ⇒ depot `d` → central `c` ⇄ peripheral `p`, `c` → output, nothing else. -/
theorem advan4_shape_partial (g : CGraph) (wf : WF g) (res : Nat → Nat → Bool)
    (h : matchAdvan4 g res = some true)
    (noBack : ∀ d c, depotCentral g = some (some (d, c)) → g.hasEdge c d = false) :
    ∃ d c p, g.n = 3 ∧ d ≠ c ∧ d ≠ p ∧ c ≠ p ∧
      (∃ ds, g.dosingComps = some ds ∧ ds.headD 0 = d) ∧ res d c = false ∧
      HasExactlyEdges g [(d, c), (c, p), (p, c), (c, 0)] := by
  obtain ⟨hn, d, c, p, hdc, hres, hb, hp0, hpd⟩ := matchAdvan4_true wf h
  obtain ⟨hds, hs⟩ := depotCentral_some hdc
  have hcd := noBack d c hdc
  obtain ⟨hpc, hcp⟩ := (bidir_singleton wf hb p).2 rfl
  have hdc' : g.hasEdge d c = true := (succs_singleton hs c).2 rfl
  have dp : d ≠ p := by rintro rfl; rw [hcd] at hcp; cases hcp
  have c1 := wf.srcIn c p hcp
  have cov := cover3 hn (wf.ne hdc') dp (wf.ne hcp) (wf.srcIn d c hdc') c1 (wf.srcIn p c hpc)
  have hd0 := not_succ hs (x := 0) (by omega)
  have hdp := not_succ hs (wf.ne hcp).symm
  have hc0 := edge_to_output wf cov (c := c) (by simp [hd0, hp0])
  exact ⟨d, c, p, hn, wf.ne hdc', dp, wf.ne hcp, hds, hres,
    exactEdges_of_table wf cov (nos := [(d, 0), (d, p), (c, d), (p, 0), (p, d)])
      (by simp [hdc', hcp, hpc, hc0]) (by simp [hd0, hdp, hcd, hp0, hpd]) (by simp)⟩

/-- DEPOT(2, dose) ⇄ CENTRAL(1) → output, and a third compartment 3 → output. -/
def backflowWitness : CGraph :=
  { n := 3, succE := [(2, 1), (1, 2), (1, 0), (3, 0)], predE := [(2, 1), (1, 2), (3, 0), (1, 0)],
    zeroRate := [], doses := [2], inputs := [], special := [], centralByName := some 1 }

/-- Without the side condition of `advan4_shape_partial` its conclusion fails: ADVAN4 is chosen for
    `backflowWitness`, whose third compartment is not connected to the central one. -/
theorem advan4_unsound_witness :
    chooseAdvan backflowWitness false false (fun _ _ => false) = some .a4 ∧
    backflowWitness.hasEdge 1 3 = false ∧ backflowWitness.hasEdge 3 1 = false ∧
    backflowWitness.hasEdge 1 2 = true := by
  decide +kernel

theorem lookup_mem {β : Type} (l : List (String × β)) (k : String) (v : β) (h : l.lookup k = some v) :
    (k, v) ∈ l := by
  obtain ⟨l₁, l₂, rfl, -⟩ := List.lookup_eq_some_iff.1 h
  exact List.mem_append_right _ List.mem_cons_self

/-- `create_compartment_remap` is injective whenever the old map has distinct
    names per number and the new map distinct numbers per name (`newCompartmentalMap_injective`). -/
theorem remap_injective (oldmap newmap : List (String × Nat))
    (hold : ∀ p ∈ oldmap, ∀ q ∈ oldmap, p.1 = q.1 → p.2 = q.2)
    (hnew : ∀ p ∈ newmap, ∀ q ∈ newmap, p.2 = q.2 → p.1 = q.1) :
    ∀ r ∈ createCompartmentRemap oldmap newmap, ∀ s ∈ createCompartmentRemap oldmap newmap,
      r.2 = s.2 → r.1 = s.1 := by
  intro r hr s hs hrs
  simp only [createCompartmentRemap, List.mem_filterMap, Option.map_eq_some_iff] at hr hs
  obtain ⟨p, hp, m, hm, rfl⟩ := hr
  obtain ⟨q, hq, m', hm', rfl⟩ := hs
  -- both old names are looked up in the new map and give the same number: they are the same name
  cases (show m = m' from hrs)
  exact hold p hp q hq (hnew (p.1, m) (lookup_mem _ _ _ hm) (q.1, m) (lookup_mem _ _ _ hm') rfl)

theorem newCompartmentalMap_injective (names : List String) :
    ∀ p ∈ newCompartmentalMap names, ∀ q ∈ newCompartmentalMap names, p.2 = q.2 → p.1 = q.1 := by
  intro p hp q hq h
  simp only [newCompartmentalMap, List.mem_map] at hp hq
  obtain ⟨⟨a, i⟩, hi, rfl⟩ := hp
  obtain ⟨⟨b, j⟩, hj, rfl⟩ := hq
  simp at h; subst h
  rw [List.mem_zipIdx_iff_getElem?] at hi hj
  simp at hi hj
  rw [hi] at hj
  simpa using hj

def advan4Example : CGraph :=
  { n := 3, succE := [(2, 1), (1, 3), (3, 1), (1, 0)], predE := [(2, 1), (3, 1), (1, 3), (1, 0)],
    zeroRate := [], doses := [2], inputs := [], special := [], centralByName := some 1 }

example : chooseAdvan advan4Example false false (fun _ _ => false) = some .a4 := by decide +kernel
example : advan4Example.order = [2, 1, 3] := by decide +kernel
example : depotCentral advan4Example = some (some (2, 1)) ∧ advan4Example.hasEdge 1 2 = false := by decide +kernel

end Pharmpy.C02
