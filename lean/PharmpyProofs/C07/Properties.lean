import PharmpyProofs.C07.Lemmas
/-
  C07 — refactorings preserve the model function: `run` yields the same environment, for every
  carrier `α`, every interpretation `I` of literals and named operations (the ODE solver is an
  uninterpreted operation), every statement list and every environment.
-/
namespace Pharmpy.C07
open Pharmpy Expr

/-- Simulation for the loop of make_declarative, from any state related by `Inv`. -/
theorem mdGo_sound {α : Type} (I : Interp α) (rest : List St) (seen : List Sym) (cur : Sub) :
    ∀ (ρo ρn : Env α), Inv I cur ρo ρn → Pending seen cur rest → mdSafe seen cur rest = true →
      run I (mdGo seen cur rest) ρn = run I rest ρo := by
  fun_induction mdSafe seen cur rest with
  | case1 seen cur =>
    intro ρo ρn hinv hp _
    exact funext fun y => (hinv.of_get_none (hp.get_none_nil y)).symm
  | case2 seen cur a r rest ih =>
    intro ρo ρn hinv hp hsafe
    rw [Bool.and_eq_true, List.all_eq_true] at hsafe
    have ha := fun y hy => not_contains_and.mp (hsafe.1 y hy)
    rw [mdGo, run_cons, run_cons]
    exact ih _ _
      (hinv.step (.ode a r) cur (fun y hy => Sub.get_none_of_not_dom cur y (ha y hy).1)
        (fun _ _ => rfl) fun y hy => (ha y hy).2)
      hp hsafe.2
  | case3 seen cur x e rest hc ih =>
    -- the only assignment of `x`: emit
    intro ρo ρn hinv hp hsafe
    rw [mdGo, if_pos hc, run_cons, run_cons]
    rw [Bool.and_eq_true, not_contains_iff] at hc hsafe
    exact ih _ _ (hinv.assign x e cur (hp.get_none_of_not_seen hc.1) (fun _ _ => rfl) hsafe.1)
      (hp.once hc.1) hsafe.2
  | case4 seen cur x e rest hc hl ih =>
    -- assigned again later: the substituted value stays pending
    intro ρo ρn hinv hp hsafe
    rw [mdGo, if_neg hc, if_pos hl, run_cons]
    exact ih _ _ (hinv.defer x _ _ (hinv.eval_substE e)) (hp.defer hl _) hsafe
  | case5 seen cur x e rest hc hl ih =>
    -- the last of several assignments: emit, `del current[x]`
    intro ρo ρn hinv hp hsafe
    rw [Bool.and_eq_true, not_contains_iff] at hsafe
    rw [mdGo, if_neg hc, if_neg hl, run_cons, run_cons]
    exact ih _ _
      (hinv.assign x e (cur.del x) (by rw [Sub.get_del, if_pos rfl])
        (fun y hy => by rw [Sub.get_del, if_neg hy]) hsafe.1)
      hp.del hsafe.2

/-- **make_declarative preserves the model function** on every statement list without a stale
    capture (`noStaleCapture`, decidable: no emitted statement re-defines a symbol that a pending
    value reads): the rewritten statements compute the same final value for *every* symbol. -/
theorem make_declarative_sound_partial {α : Type} (I : Interp α) (ss : List St)
    (h : noStaleCapture ss = true) (ρ : Env α) :
    run I (makeDeclarative ss) ρ = run I ss ρ :=
  mdGo_sound I ss [] [] ρ ρ (Inv.refl I ρ) (fun _ h => nomatch h) h

/-- Where its side-condition holds the pre-repair loop does what the current loop does: the
    first assignment it stores unsubstituted reads no pending symbol (clause (a)), so substituting
    would not have changed it.  (`seen'`: the current loop also records middle assignments.) -/
theorem mdOld_eq (rest : List St) (seen : List Sym) (cur : Sub) : ∀ (seen' : List Sym),
    (∀ y, seen'.contains y = seen.contains y) → mdSafeOld seen cur rest = true →
    mdSafe seen' cur rest = true ∧ mdGo seen' cur rest = mdGoOld seen cur rest := by
  have hcons : ∀ {seen seen' : List Sym}, (∀ y, seen'.contains y = seen.contains y) →
      ∀ x y, (x :: seen').contains y = (x :: seen).contains y := fun hs x y => by
    rw [List.contains_cons, List.contains_cons, hs]
  fun_induction mdSafeOld seen cur rest with
  | case1 seen cur => intro _ _ _; exact ⟨rfl, rfl⟩
  | case2 seen cur a r rest ih =>
    intro seen' hs h
    rw [Bool.and_eq_true] at h
    obtain ⟨h1, h2⟩ := ih seen' hs h.2
    simp only [mdSafe, mdGo, mdGoOld, h.1, h1, h2, Bool.and_self, and_self]
  | case3 seen cur x e rest hc ih =>
    intro seen' hs h
    rw [Bool.and_eq_true] at h
    obtain ⟨h1, h2⟩ := ih _ (hcons hs x) h.2
    simp only [mdSafe, mdGo, mdGoOld, hs x, hc, ↓reduceIte, h.1, h1, h2, Bool.and_self, and_self]
  | case4 seen cur x e rest hc hx ih =>
    -- the first of several assignments, stored unsubstituted
    intro seen' hs h
    rw [Bool.and_eq_true, List.all_eq_true] at h
    have hl : assignedIn x rest = true := by
      cases hl : assignedIn x rest
      · exact absurd (by rw [hx, hl]; rfl) hc
      · rfl
    simp only [mdSafe, mdGo, mdGoOld, hs x, hl, hx, Bool.not_true, Bool.and_false, Bool.false_eq_true,
      ↓reduceIte, substE_fresh cur e fun y hy => not_contains_iff.mp (h.1 y hy)]
    exact ih _ (hcons hs x) h.2
  | case5 seen cur x e rest hc hx hl ih =>
    -- a middle assignment: `x` has been seen already
    intro seen' hs h
    rw [Bool.not_eq_true, Bool.not_eq_false'] at hx
    simp only [mdSafe, mdGo, mdGoOld, hs x, hl, hx, Bool.not_true, Bool.and_false, Bool.false_eq_true,
      ↓reduceIte]
    refine ih _ (fun y => ?_) h
    rw [List.contains_cons, hs]
    by_cases hy : y = x
    · rw [hy, hx, Bool.or_true]
    · rw [beq_eq_false_iff_ne.mpr hy]; rfl
  | case6 seen cur x e rest hc hx hl ih =>
    intro seen' hs h
    rw [Bool.and_eq_true] at h
    obtain ⟨h1, h2⟩ := ih _ hs h.2
    rw [Bool.not_eq_true, Bool.not_eq_false'] at hx
    rw [Bool.not_eq_true] at hl
    simp only [mdSafe, mdGo, mdGoOld, hs x, hl, hx, Bool.not_true, Bool.not_false, Bool.and_true,
      Bool.false_eq_true, ↓reduceIte, h.1, h1, h2, Bool.and_self, and_self]

/-- What held of the pre-repair code: sound under the stronger side-condition
    `noStaleCaptureOld` (clauses (a) and (b)). -/
theorem make_declarative_pre_repair_sound_partial {α : Type} (I : Interp α) (ss : List St)
    (h : noStaleCaptureOld ss = true) (ρ : Env α) :
    run I (makeDeclarativeOld ss) ρ = run I ss ρ := by
  obtain ⟨hsafe, heq⟩ := mdOld_eq ss [] [] [] (fun _ => rfl) h
  rw [makeDeclarativeOld, ← heq]
  exact make_declarative_sound_partial I ss hsafe ρ

-- the current code handles F8's program (rejected by `noStaleCaptureOld`), giving B = 1 + A, A = 2
example : noStaleCapture [.assign "A" (.lit 1), .assign "B" (.sym "A"), .assign "A" (.lit 2),
    .assign "B" (.f2 "add" (.sym "B") (.sym "A")), .assign "Y" (.f2 "add" (.sym "P") (.sym "B"))] = true ∧
    makeDeclarative [.assign "A" (.lit 1), .assign "B" (.sym "A"), .assign "A" (.lit 2),
    .assign "B" (.f2 "add" (.sym "B") (.sym "A")), .assign "Y" (.f2 "add" (.sym "P") (.sym "B"))]
    = [.assign "A" (.lit 2), .assign "B" (.f2 "add" (.lit 1) (.sym "A")),
       .assign "Y" (.f2 "add" (.sym "P") (.sym "B"))] := by decide +kernel

theorem mdGo_lhs_subset (rest : List St) (seen : List Sym) (cur : Sub) :
    ∀ (y : Sym), y ∈ lhs (mdGo seen cur rest) → y ∈ lhs rest := by
  fun_induction mdGo seen cur rest with
  | case1 => exact fun _ h => h
  | case2 _ _ _ _ _ ih => exact ih
  | case3 _ _ _ _ _ _ ih | case5 _ _ _ _ _ _ _ ih =>
    exact fun y h => List.mem_cons.mpr ((List.mem_cons.mp h).imp_right (ih y))
  | case4 _ _ _ _ _ _ _ ih => exact fun y h => List.mem_cons_of_mem _ (ih y h)

theorem mdGo_nodup (rest : List St) (seen : List Sym) (cur : Sub) : (lhs (mdGo seen cur rest)).Nodup := by
  -- an assignment to `x` is emitted only when `x` is not assigned later
  have emit : ∀ {x rest seen cur}, assignedIn x rest ≠ true → (lhs (mdGo seen cur rest)).Nodup →
      (x :: lhs (mdGo seen cur rest)).Nodup := fun hl ih =>
    List.nodup_cons.mpr ⟨fun hm => hl ((mem_lhs_iff _ _).mp (mdGo_lhs_subset _ _ _ _ hm)), ih⟩
  fun_induction mdGo seen cur rest with
  | case1 => exact List.nodup_nil
  | case2 _ _ _ _ _ ih | case4 _ _ _ _ _ _ _ ih => exact ih
  | case3 _ _ _ _ _ hc ih =>
    rw [Bool.and_eq_true, Bool.not_eq_true', Bool.not_eq_true'] at hc
    exact emit (hc.2 ▸ Bool.false_ne_true) ih
  | case5 _ _ _ _ _ _ hl ih => exact emit hl ih

/-- **The result is declarative**: no symbol is assigned twice — for every input
    (no side-condition). -/
theorem make_declarative_single_assignment (ss : List St) : (lhs (makeDeclarative ss)).Nodup :=
  mdGo_nodup ss [] []

/-- The integers with `add` and `mul`, for the witnesses. -/
def IZ : Interp Int := ⟨id, fun f xs => match f, xs with
  | "add", [a, b] => a + b
  | "mul", [a, b] => a * b
  | _, _ => 0⟩

/-- **F8 (repaired in /repo by e5b2100), a theorem about the pre-repair variant**: on
    `A=1; B=A; A=2; B=B+A; Y=P+B` the rewrite as pharmpy performed it is
    rejected by `noStaleCaptureOld` and changes `Y` from `P+3` to `P+4`; the
    current code is accepted by `noStaleCapture` and keeps `Y = P+3`. -/
theorem make_declarative_witness :
    let ss : List St := [.assign "A" (.lit 1), .assign "B" (.sym "A"), .assign "A" (.lit 2),
      .assign "B" (.f2 "add" (.sym "B") (.sym "A")), .assign "Y" (.f2 "add" (.sym "P") (.sym "B"))]
    noStaleCaptureOld ss = false ∧
    makeDeclarativeOld ss = [.assign "A" (.lit 2), .assign "B" (.f2 "add" (.sym "A") (.sym "A")),
      .assign "Y" (.f2 "add" (.sym "P") (.sym "B"))] ∧
    run IZ ss (fun _ => 0) "Y" = 3 ∧ run IZ (makeDeclarativeOld ss) (fun _ => 0) "Y" = 4 ∧
    noStaleCapture ss = true ∧ run IZ (makeDeclarative ss) (fun _ => 0) "Y" = 3 := by
  decide +kernel

/-- **The unrestricted statement is still false of the current code**, witness
    class (b): a pending value reads an input that is assigned before the
    pending symbol's last assignment: `X=W; W=5; X=X+1`. -/
theorem make_declarative_witness_reassigned_input :
    let ss : List St := [.assign "X" (.sym "W"), .assign "W" (.lit 5),
      .assign "X" (.f2 "add" (.sym "X") (.lit 1))]
    noStaleCapture ss = false ∧
    run IZ ss (fun _ => 0) "X" = 1 ∧ run IZ (makeDeclarative ss) (fun _ => 0) "X" = 6 := by
  decide +kernel

-- non-vacuity: pheno's shape (TVV re-assigned from itself) is safe and really rewritten
example : noStaleCapture [.assign "TVV" (.f2 "mul" (.sym "POP_VC") (.sym "WGT")),
    .assign "TVV" (.f3 "ite" (.f2 "lt" (.sym "APGR") (.lit 5))
      (.f2 "mul" (.sym "TVV") (.f2 "add" (.lit 1) (.sym "COVAPGR"))) (.sym "TVV")),
    .ode ["A_CENTRAL(t)"] [.f2 "div" (.sym "CL") (.sym "TVV")],
    .assign "F" (.f2 "div" (.sym "A_CENTRAL(t)") (.sym "TVV"))] = true := by decide +kernel
example : (makeDeclarative [.assign "T" (.sym "P"), .assign "T" (.f2 "mul" (.sym "T") (.sym "T")),
    .assign "Y" (.sym "T")]) = [.assign "T" (.f2 "mul" (.sym "P") (.sym "P")), .assign "Y" (.sym "T")] := by
  decide +kernel

/-- Simulation for the inlining pass of cleanup_model: the final alias table tells how every
    original symbol is read off the new model. -/
theorem inlineGo_sound {α : Type} (I : Interp α) (rest : List St) (cur : Sub) :
    ∀ (ρo ρn : Env α), Inv I cur ρo ρn → inlineSafe cur rest = true →
      Inv I (inlineFinal cur rest) (run I rest ρo) (run I (inlineGo cur rest) ρn) := by
  fun_induction inlineSafe cur rest with
  | case1 cur => intro ρo ρn hinv _; exact hinv
  | case2 cur x y rest ih =>
    -- an alias `x = y` is dropped and recorded; `y` itself is not pending
    intro ρo ρn hinv hsafe
    rw [Bool.and_eq_true, not_contains_iff] at hsafe
    exact ih _ _
      (hinv.defer x (.sym y) _ (hinv.of_get_none (Sub.get_none_of_not_dom cur y hsafe.1)).symm)
      hsafe.2
  | case3 cur s rest hs ih =>
    -- any other statement is kept, substituted
    intro ρo ρn hinv hsafe
    rw [Bool.and_eq_true, List.all_eq_true] at hsafe
    have hd := fun y hy => not_contains_and.mp (hsafe.1 y hy)
    have hg : ∀ y ∈ s.defs, cur.get y = none := fun y hy => Sub.get_none_of_not_dom cur y (hd y hy).1
    rw [inlineFinal.eq_3 _ _ _ hs, inlineGo.eq_3 _ _ _ hs, substAll_eq_substRhs cur s hg]
    exact ih _ _ (hinv.step s cur hg (fun _ _ => rfl) fun y hy => (hd y hy).2) hsafe.2

/-- **The inlining pass of cleanup_model preserves the model function** (no alias
    chains, no kept statement re-defining an alias or its target): every symbol
    that is not a dropped alias keeps its value, and a dropped alias `x` has
    the value of the symbol recorded for it in the final alias table. -/
theorem cleanup_inline_sound_partial {α : Type} (I : Interp α) (ss : List St)
    (h : inlineSafe [] ss = true) (ρ : Env α) :
    (∀ y, y ∉ (inlineFinal [] ss).dom → run I (cleanupInline ss) ρ y = run I ss ρ y) ∧
    (∀ x t, (inlineFinal [] ss).get x = some t →
        eval I (run I (cleanupInline ss) ρ) t = run I ss ρ x) :=
  have hinv := inlineGo_sound I ss [] ρ ρ (Inv.refl I ρ) h
  ⟨fun y hy => (hinv.of_get_none (Sub.get_none_of_not_dom _ y hy)).symm,
    fun _ _ hx => (hinv.of_get_some hx).symm⟩

/-- **Alias chains break the pass** (as pharmpy performs it): on
    `A=W; C=A; D=C; Y=D+1` the result reads `C`, which no statement defines
    any more (pharmpy's model validation then raises `Symbol C is not defined`). -/
theorem cleanup_inline_chain_witness :
    let ss : List St := [.assign "A" (.sym "W"), .assign "C" (.sym "A"), .assign "D" (.sym "C"),
      .assign "Y" (.f2 "add" (.sym "D") (.lit 1))]
    inlineSafe [] ss = false ∧
    cleanupInline ss = [.assign "Y" (.f2 "add" (.sym "C") (.lit 1))] ∧
    run IZ ss (fun y => if y = "W" then 7 else 0) "Y" = 8 ∧
    run IZ (cleanupInline ss) (fun y => if y = "W" then 7 else 0) "Y" = 1 := by
  decide +kernel

-- non-vacuity: pheno's `V = VC; S1 = VC` is safe and both aliases are inlined
example : inlineSafe [] [.assign "VC" (.f2 "mul" (.sym "TVV") (.sym "E")), .assign "V" (.sym "VC"),
    .assign "S1" (.sym "VC"), .ode ["A_CENTRAL(t)"] [.f2 "div" (.sym "CL") (.sym "V")],
    .assign "F" (.f2 "div" (.sym "A_CENTRAL(t)") (.sym "S1"))] = true := by decide +kernel
example : cleanupInline [.assign "V" (.sym "VC"), .ode ["A(t)"] [.f2 "div" (.sym "CL") (.sym "V")],
    .assign "F" (.f2 "div" (.sym "A(t)") (.sym "V"))]
    = [.ode ["A(t)"] [.f2 "div" (.sym "CL") (.sym "VC")], .assign "F" (.f2 "div" (.sym "A(t)") (.sym "VC"))] := by
  decide +kernel

/-- **Substituting constants**: if the environment gives every replaced
    symbol the constant it is replaced by, and no statement defines a replaced
    symbol, `statements.subs(d)` computes the same environment. -/
theorem subst_constants_sound {α : Type} (I : Interp α) (d : List (Sym × Int)) :
    ∀ (ss : List St) (ρ : Env α),
      (∀ x c, (x, c) ∈ d → ρ x = I.lit c) →
      (∀ s ∈ ss, ∀ y ∈ s.defs, y ∉ (constSub d).dom) →
      run I (substConsts d ss) ρ = run I ss ρ := by
  intro ss
  induction ss with
  | nil => intro ρ _ _; rfl
  | cons s ss ih =>
    intro ρ hρ hdefs
    have hs := hdefs s List.mem_cons_self
    -- the constants already have their values: `ρ` is its own overlay
    have hinv : Inv I (constSub d) ρ ρ := fun y => by
      cases hg : (constSub d).get y with
      | none => rfl
      | some t => obtain ⟨c, rfl, hm⟩ := constSub_get d y t hg; exact hρ y c hm
    have hstep : (s.substAll (constSub d)).exec I ρ = s.exec I ρ := by
      rw [substAll_eq_substRhs _ s fun y hy => Sub.get_none_of_not_dom _ y (hs y hy)]
      funext y
      by_cases hy : y ∈ s.defs
      · exact hinv.exec_substRhs s hy
      · rw [exec_of_not_mem_defs I s ρ hy, exec_of_not_mem_defs I _ ρ (defs_substRhs _ s ▸ hy)]
    rw [substConsts, List.map_cons, run_cons, hstep]
    refine ih _ (fun x c hm => ?_) fun t ht => hdefs t (List.mem_cons_of_mem _ ht)
    have hx : x ∈ (constSub d).dom :=
      List.mem_map.mpr ⟨(x, .lit c), List.mem_map.mpr ⟨(x, c), hm, rfl⟩, rfl⟩
    rw [exec_of_not_mem_defs I s ρ fun hxs => hs x hxs hx]
    exact hρ x c hm

/-- **Which symbols replace_non_random_rvs substitutes**: exactly the parameters and random
    variables of distributions *all* of whose parameters are fixed to zero. -/
theorem non_random_syms_spec (zf : List Sym) (dists : List Dist) (x : Sym) :
    x ∈ nonRandomSyms zf dists ↔
      ∃ d ∈ dists, (∀ p ∈ d.params, p ∈ zf) ∧ (x ∈ d.params ∨ x ∈ d.rvs) := by
  simp only [nonRandomSyms, removedDists, List.mem_flatMap, List.mem_filter, Dist.allZeroFix,
    List.all_eq_true, List.contains_eq_mem, decide_eq_true_eq, List.mem_append]
  constructor
  · rintro ⟨d, ⟨hd, hz⟩, hx⟩; exact ⟨d, hd, hz, hx⟩
  · rintro ⟨d, hd, hz, hx⟩; exact ⟨d, ⟨hd, hz⟩, hx⟩

/-- **A random variable with variability is never replaced**: if the (only) distribution `x`
    belongs to has a parameter that is not fixed to zero — e.g. a joint block whose covariance
    alone is fixed to 0 — `x` is not substituted. -/
theorem random_rv_not_replaced (zf : List Sym) (dists : List Dist) (x : Sym)
    (h : ∀ d ∈ dists, (x ∈ d.params ∨ x ∈ d.rvs) → ∃ p ∈ d.params, p ∉ zf) :
    x ∉ nonRandomSyms zf dists := by
  rw [non_random_syms_spec]
  rintro ⟨d, hd, hz, hx⟩
  obtain ⟨p, hp, hnz⟩ := h d hd hx
  exact hnz (hz p hp)

/-- **replace_non_random_rvs preserves the model function** on every environment the
    distributions allow: where the random variables (and parameters) of the all-zero-fixed
    distributions are 0, the rewritten statements compute the same environment. -/
theorem replace_non_random_rvs_sound {α : Type} (I : Interp α) (zf : List Sym) (dists : List Dist)
    (ss : List St) (ρ : Env α)
    (hρ : ∀ x ∈ nonRandomSyms zf dists, ρ x = I.lit 0)
    (hdefs : ∀ s ∈ ss, ∀ y ∈ s.defs, y ∉ nonRandomSyms zf dists) :
    run I (replaceNonRandom zf dists ss) ρ = run I ss ρ := by
  apply subst_constants_sound
  · intro x c hm
    simp only [nonRandomConsts, List.mem_map, Prod.mk.injEq] at hm
    obtain ⟨y, hy, rfl, rfl⟩ := hm
    exact hρ y hy
  · intro s hs y hy hd
    apply hdefs s hs y hy
    simp only [constSub, nonRandomConsts, Sub.dom, List.map_map, List.mem_map, Function.comp] at hd
    obtain ⟨z, hz, rfl⟩ := hd
    exact hz

-- a BLOCK(2) whose covariance alone is fixed to 0 is kept; with every element fixed to 0 both
-- etas are replaced; univariate zero variance: that eta only
example : nonRandomSyms ["COV"] [⟨["E1", "E2"], ["V1", "COV", "V2"]⟩, ⟨["EPS"], ["SIG"]⟩] = [] := by decide +kernel
example : nonRandomSyms ["V1", "COV", "V2"] [⟨["E1", "E2"], ["V1", "COV", "V2"]⟩, ⟨["EPS"], ["SIG"]⟩]
    = ["V1", "COV", "V2", "E1", "E2"] := by decide +kernel
example : replaceNonRandom ["V2"] [⟨["E1"], ["V1"]⟩, ⟨["E2"], ["V2"]⟩]
    [.assign "CL" (.f2 "mul" (.sym "T") (.f1 "exp" (.sym "E1"))), .assign "V" (.f2 "add" (.sym "T") (.sym "E2"))]
    = [.assign "CL" (.f2 "mul" (.sym "T") (.f1 "exp" (.sym "E1"))), .assign "V" (.f2 "add" (.sym "T") (.lit 0))] := by
  decide +kernel

/-- **Prepending `theta = value`** (replace_fixed_thetas): assignments of closed
    expressions whose value is what the environment already holds change nothing. -/
theorem prepend_fixed_sound {α : Type} (I : Interp α) (ss : List St) (ρ : Env α) :
    ∀ (d : List (Sym × Expr)), (∀ p ∈ d, eval I ρ p.2 = ρ p.1) →
      run I (prependConsts d ss) ρ = run I ss ρ := by
  intro d
  induction d with
  | nil => intro _; rfl
  | cons p d ih =>
    intro h
    have : (St.assign p.1 p.2).exec I ρ = ρ := funext fun y =>
      ite_eq_right_iff.mpr fun hy => (h p List.mem_cons_self).trans (congrArg ρ hy.symm)
    rw [prependConsts, List.map_cons, List.cons_append, run_cons, this]
    exact ih fun q hq => h q (List.mem_cons_of_mem _ hq)

/-- **Renaming commutes with execution** when the renaming is injective on a
    universe `U` that contains every symbol of the statements and fixes the
    ODE amounts: started from environments that correspond under the
    renaming, the renamed statements compute at `r y` what the original
    compute at `y`. -/
theorem rename_sound {α : Type} (I : Interp α) (r : Sym → Sym) (U : Sym → Prop)
    (hinj : ∀ a b, U a → U b → r a = r b → a = b) :
    ∀ (ss : List St) (ρ ρ' : Env α),
      (∀ s ∈ ss, (∀ y ∈ s.defs, U y) ∧ (∀ y ∈ s.reads, U y)) →
      (∀ s ∈ ss, ∀ a es, s = St.ode a es → ∀ y ∈ a, r y = y) →
      (∀ y, U y → ρ' (r y) = ρ y) →
      ∀ y, U y → run I (renameAll r ss) ρ' (r y) = run I ss ρ y := by
  intro ss
  induction ss with
  | nil => intro ρ ρ' _ _ h; exact h
  | cons s ss ih =>
    intro ρ ρ' hU hamt h
    obtain ⟨hdef, hread⟩ := hU s List.mem_cons_self
    refine ih _ _ (fun t ht => hU t (List.mem_cons_of_mem _ ht))
      (fun t ht => hamt t (List.mem_cons_of_mem _ ht)) fun y hy => ?_
    have hev : ∀ e : Expr, (∀ y ∈ e.syms, U y) → eval I ρ' (renameE r e) = eval I ρ e := fun e he =>
      (eval_renameE I r ρ' e).trans (Expr.eval_congr I _ _ e fun y hy => h y (he y hy))
    cases s with
    | assign x e =>
      show (if r y = r x then _ else ρ' (r y)) = if y = x then _ else ρ y
      rw [hev e hread, h y hy]
      by_cases hyx : y = x
      · rw [if_pos hyx, if_pos (congrArg r hyx)]
      · rw [if_neg hyx, if_neg fun hr => hyx (hinj y x hy (hdef x (List.mem_singleton_self x)) hr)]
    | ode a es =>
      have hfix := hamt _ List.mem_cons_self a es rfl
      have hes : (es.map (renameE r)).map (eval I ρ') = es.map (eval I ρ) := by
        rw [List.map_map]
        exact List.map_congr_left fun e he => hev e fun z hz =>
          hread z (List.mem_flatMap.mpr ⟨e, he, hz⟩)
      show (if r y ∈ a then I.fn ("ode:" ++ r y) _ else ρ' (r y)) = if y ∈ a then _ else ρ y
      rw [hes, h y hy]
      by_cases hya : y ∈ a
      · rw [if_pos hya, hfix y hya, if_pos hya]
      · -- `r y` is no amount either: amounts are fixed by `r`, which is injective on `U`
        rw [if_neg hya, if_neg fun (hr : r y ∈ a) => hya (hinj (r y) y (hdef _ hr) hy (hfix _ hr) ▸ hr)]

/-- A clashing (non-injective) renaming is not preserving: `rename {A ↦ B}` on
    `A=1; B=2; Y=A+B` changes `Y` from 3 to 4 ("make sure that no name clash occur"). -/
theorem rename_clash_witness :
    let ss : List St := [.assign "A" (.lit 1), .assign "B" (.lit 2),
      .assign "Y" (.f2 "add" (.sym "A") (.sym "B"))]
    let t : List (Sym × Sym) := [("A", "B")]
    injectiveOn t ["A", "B", "Y"] = false ∧
    run IZ ss (fun _ => 0) "Y" = 3 ∧ run IZ (renameAll (tableFn t) ss) (fun _ => 0) "Y" = 4 := by
  decide +kernel

/-- `injectiveOn` (what the harness evaluates) implies the hypothesis of `rename_sound`. -/
theorem injectiveOn_spec (t : List (Sym × Sym)) (univ : List Sym) (h : injectiveOn t univ = true) :
    ∀ a b, a ∈ univ → b ∈ univ → tableFn t a = tableFn t b → a = b := by
  intro a b ha hb hab
  simp only [injectiveOn, List.all_eq_true, Bool.or_eq_true, beq_iff_eq, bne_iff_ne, ne_eq] at h
  rcases h a ha b hb with h | h
  · exact h
  · exact absurd hab h

/-- **A parameter / random variable no statement reads does not influence any
    other symbol**: its value (hence its removal from the model) is irrelevant. -/
theorem remove_unused_sound {α : Type} (I : Interp α) (ss : List St) (x : Sym)
    (hx : ∀ s ∈ ss, x ∉ s.reads) (ρ : Env α) (v : α) :
    ∀ y, y ≠ x → run I ss (ρ.set x v) y = run I ss ρ y :=
  run_agree_off I x ss _ _ hx fun _ hy => if_neg hy

/-- **Statement surgery of mu-referencing**: replacing `x = e` (statement `k`)
    by `mu = m; x = e'` preserves every symbol other than `mu`, given the
    defining equation of the `solve` step (`e'` with `mu := m` has the value
    of `e`) and that `mu` is read by no later statement. -/
theorem mu_reference_sound {α : Type} (I : Interp α) (ss : List St) (k : Nat) (x mu : Sym)
    (e m e' : Expr) (hk : ss[k]? = some (.assign x e))
    (hsolve : ∀ ρ : Env α, eval I (ρ.set mu (eval I ρ m)) e' = eval I ρ e)
    (hfresh : ∀ s ∈ ss.drop (k + 1), mu ∉ s.reads) (ρ : Env α) :
    ∀ y, y ≠ mu → run I (muInsert ss k mu m e') ρ y = run I ss ρ y := by
  rw [run_split I hk ρ, muInsert, hk]
  simp only [List.append_assoc, run_append, List.cons_append, List.nil_append, run_cons]
  -- after the two new statements the environments differ at `mu` only
  refine run_agree_off I mu _ _ _ hfresh fun z hz => ?_
  simp only [St.exec, hsolve, Env.set, hz, ↓reduceIte]

/-- **get_observation_expression is the observation** when the DV is defined
    once (`obsSafe`): the returned expression, evaluated in the initial
    environment, is the value of the DV after executing all statements. -/
theorem obs_expr_sound_partial {α : Type} (I : Interp α) (ss : List St) (dv : Sym) (r : Expr)
    (hsafe : obsSafe ss dv = true) (h : obsExpr ss dv = some r) (ρ : Env α) :
    eval I ρ r = run I ss ρ dv := by
  unfold obsExpr at h
  unfold obsSafe at hsafe
  cases hi : firstIndex dv ss with
  | none => rw [hi] at h; cases h
  | some i =>
    obtain ⟨t, hs⟩ := firstIndex_spec dv ss i hi
    simp only [hi, hs, Bool.and_eq_true, List.all_eq_true, not_contains_iff] at h hsafe
    -- the statements after `dv = t` leave `dv` alone, and `t` does not read `dv`
    rw [run_split I hs ρ, run_not_defined I dv _ _ hsafe.1, expandBack_sound I _ t r ρ h,
      run_take_succ I hs ρ]
    exact (eval_set_fresh I _ dv _ t hsafe.2).trans (if_pos rfl).symm

/-- **The extractor takes the *first* assignment of the DV**: on
    `Y=F; Y=Y+1` it returns `F` although the observation is `F+1`. -/
theorem obs_expr_first_assignment_witness :
    let ss : List St := [.assign "Y" (.sym "F"), .assign "Y" (.f2 "add" (.sym "Y") (.lit 1))]
    obsSafe ss "Y" = false ∧ obsExpr ss "Y" = some (.sym "F") ∧
    run IZ ss (fun y => if y = "F" then 5 else 0) "Y" = 6 ∧
    eval IZ (fun y => if y = "F" then 5 else 0) (.sym "F") = 5 := by
  decide +kernel

/-- **Individual / population prediction expressions**: setting the listed random
    variables to zero in the observation expression gives the observation at
    the environment where those variables are zero. -/
theorem pred_expr_sound_partial {α : Type} (I : Interp α) (ss : List St) (dv : Sym) (zero : List Sym)
    (r : Expr) (hsafe : obsSafe ss dv = true) (h : predExpr ss dv zero = some r) (ρ : Env α) :
    eval I ρ r = run I ss (fun y => if y ∈ zero then I.lit 0 else ρ y) dv := by
  obtain ⟨r0, ho, rfl⟩ := Option.map_eq_some_iff.mp h
  rw [← obs_expr_sound_partial I ss dv r0 hsafe ho]
  refine Inv.eval_substE (fun y => ?_) r0
  rw [zeroSub_get]
  split <;> rfl

/-- **An evaluator is `eval` under the environment its mapping denotes**: substituting the
    mapping and evaluating is evaluating with every parameter NAME the mapping mentions bound
    to the mapping's value at that name. -/
theorem evaluator_is_eval_under_mapping {α : Type} (I : Interp α) (ρ : Env α) (m : PMap) (e : Expr) :
    eval I ρ (evalWith m e) = eval I (overlay I ρ m) e := by
  refine Inv.eval_substE (fun y => ?_) e
  rw [PMap.toSub_get, overlay]
  cases m.value y <;> rfl

/-- **Key-form invariance** (the obligation K checks on the real evaluators): the result depends
    on the mapping only through its value at each parameter name — whether the keys are strings,
    sympy symbols or pharmpy `Expr` symbols, and in which order, is irrelevant. -/
theorem evaluator_key_form_invariant {α : Type} (I : Interp α) (ρ : Env α) (m₁ m₂ : PMap)
    (h : ∀ n, m₁.value n = m₂.value n) (e : Expr) :
    eval I ρ (evalWith m₁ e) = eval I ρ (evalWith m₂ e) := by
  rw [evaluator_is_eval_under_mapping, evaluator_is_eval_under_mapping]
  congr 1
  funext y
  simp [overlay, h y]

/-- **evaluate_population_prediction / evaluate_individual_prediction equal direct evaluation**
    (DV defined once): the DV after executing the statements where the mapped parameters have the
    mapped values and the listed random variables are 0. -/
theorem evaluate_prediction_sound_partial {α : Type} (I : Interp α) (ss : List St) (dv : Sym)
    (zero : List Sym) (m : PMap) (r : Expr) (hsafe : obsSafe ss dv = true)
    (h : evaluatePred ss dv zero m = some r) (ρ : Env α) :
    eval I ρ r = run I ss (fun y => if y ∈ zero then I.lit 0 else overlay I ρ m y) dv := by
  obtain ⟨r0, hp, rfl⟩ := Option.map_eq_some_iff.mp h
  rw [evaluator_is_eval_under_mapping]
  exact pred_expr_sound_partial I ss dv zero r0 hsafe hp _

/-- **evaluate_expression equals direct evaluation** of the expression after the statements,
    in the environment the mapping denotes. -/
theorem evaluate_expression_sound {α : Type} (I : Interp α) (ss : List St) (e r : Expr) (m : PMap)
    (h : evaluateExpression ss e m = some r) (ρ : Env α) :
    eval I ρ r = eval I (run I ss (overlay I ρ m)) e := by
  obtain ⟨r0, hp, rfl⟩ := Option.map_eq_some_iff.mp h
  rw [evaluator_is_eval_under_mapping]
  exact expandBack_sound I ss e r0 _ hp

/-- `{**inits, **given}` is "given over inits" by name when `given` is keyed by strings
    (what held of evaluate_expression before 20af928, and the core of the current code). -/
theorem merged_mapping_str_keys (inits : List (Sym × Expr)) (given : PMap)
    (hs : ∀ p ∈ given, p.1.isStr = true) (n : Sym) :
    (mergedMappingOld inits (some given)).value n =
      match given.value n with
      | some v => some v
      | none => (initsMap inits).value n := by
  simp only [mergedMappingOld, pyMerge]
  rw [PMap.value_append, merged_base_value, PMap.atKey_str given hs]
  cases hb : (initsMap inits).value n with
  | some v0 => cases given.value n <;> rfl
  | none =>
    rw [Option.map_none, Option.none_or, merged_rest_value _ given n hb]
    cases given.value n <;> rfl

/-- **evaluate_expression's mapping (since 20af928) is "given over inits" by NAME for every key
    form** (strings, sympy symbols, `Expr` symbols or any mixture), given one entry per parameter
    name: each name gets the caller's value if there is one and the initial estimate otherwise. -/
theorem merged_mapping_by_name (inits : List (Sym × Expr)) (given : PMap)
    (hnd : (given.map (fun p => p.1.name)).Nodup) (n : Sym) :
    (mergedMapping inits (some given)).value n =
      match given.value n with
      | some v => some v
      | none => (initsMap inits).value n := by
  have := merged_mapping_str_keys inits (initsMap given.toSub) (initsMap_isStr _) n
  rw [initsMap_value, PMap.toSub_get] at this
  rw [mergedMapping, normalise_of_nodup given hnd]
  exact this

/-- **evaluate_expression equals direct evaluation for every key form**: the result is the
    expression after the statements, in the environment where each parameter has the caller's
    value if given and its initial estimate otherwise. -/
theorem evaluate_expression_by_name {α : Type} (I : Interp α) (ss : List St) (e r : Expr)
    (inits : List (Sym × Expr)) (given : PMap) (hnd : (given.map (fun p => p.1.name)).Nodup)
    (h : evaluateExpression ss e (mergedMapping inits (some given)) = some r) (ρ : Env α) :
    eval I ρ r = eval I (run I ss (overlay I ρ (given ++ initsMap inits))) e := by
  rw [evaluate_expression_sound I ss e r _ h ρ]
  congr 2
  funext y
  simp only [overlay, merged_mapping_by_name inits given hnd y, PMap.value_append]
  cases given.value y <;> rfl

/-- **The pre-repair merge lost symbol-keyed entries** (evaluate_expression before 20af928;
    the change seeded as C07c put the same merge into every evaluator): the initial estimate
    stays in front of the caller's entry for the same name and `subs` lets the first entry win.
    The current mapping and the direct mapping give the caller's value. -/
theorem merged_mapping_symbol_keys_witness :
    let inits : List (Sym × Expr) := [("TH", .lit 1)]
    (mergedMappingOld inits (some [(Key.str "TH", .lit 5)])).value "TH" = some (.lit 5) ∧
    (mergedMappingOld inits (some [(Key.symbol "TH", .lit 5)])).value "TH" = some (.lit 1) ∧
    (mergedMappingOld inits (some [(Key.expr "TH", .lit 5)])).value "TH" = some (.lit 1) ∧
    (mergedMapping inits (some [(Key.symbol "TH", .lit 5)])).value "TH" = some (.lit 5) ∧
    (mergedMapping inits (some [(Key.expr "TH", .lit 5)])).value "TH" = some (.lit 5) ∧
    (directMapping inits (some [(Key.symbol "TH", .lit 5)])).value "TH" = some (.lit 5) ∧
    eval IZ (fun _ => 0) (evalWith (mergedMappingOld inits (some [(Key.symbol "TH", .lit 5)]))
      (.f2 "add" (.sym "TH") (.sym "W"))) = 1 ∧
    eval IZ (fun _ => 0) (evalWith (mergedMapping inits (some [(Key.symbol "TH", .lit 5)]))
      (.f2 "add" (.sym "TH") (.sym "W"))) = 5 := by
  decide +kernel

-- non-vacuity: str-, symbol- and Expr-keyed mappings in different orders denote the same values
example : ∀ n, PMap.value [(Key.str "A", Expr.lit 2), (Key.symbol "B", Expr.lit 3)] n
    = PMap.value [(Key.expr "B", Expr.lit 3), (Key.symbol "A", Expr.lit 2)] n := by
  intro n
  simp only [PMap.value, Key.name]
  by_cases ha : n = "A" <;> by_cases hb : n = "B" <;> simp_all

/-- **Binding by name**: with distinct symbols, a symbol paired with a value is bound to it. -/
theorem eval_expr_binds_by_name {α : Type} (pairs : List (Sym × α)) (dflt : Env α)
    (hnd : (pairs.map (fun p => p.1)).Nodup) (y : Sym) (v : α) (h : (y, v) ∈ pairs) :
    bindEnv pairs dflt y = v := by
  rw [bindEnv, (assocGet_some_iff pairs hnd y v).mpr h]

/-- **The order of the argument list is irrelevant**: permuting symbols and data arrays
    *consistently* (the same permutation of the pairs) denotes the same environment, hence the
    same value of every expression — for argument lists of every length. -/
theorem eval_expr_perm_invariant {α : Type} (I : Interp α) (e : Expr) (pairs pairs' : List (Sym × α))
    (dflt : Env α) (hp : pairs.Perm pairs') (hnd : (pairs.map (fun p => p.1)).Nodup) :
    e.eval I (bindEnv pairs dflt) = e.eval I (bindEnv pairs' dflt) :=
  congrArg (e.eval I) (funext fun y => by rw [bindEnv, bindEnv, assocGet_perm hp hnd y])

/-- `eval_expr_perm_invariant` for `evalRow`, the value at a record. -/
theorem eval_row_order_invariant {α : Type} (I : Interp α) (e : Expr) (syms syms' : List Sym)
    (data data' : List α) (dflt : Env α) (hp : (syms.zip data).Perm (syms'.zip data'))
    (hnd : ((syms.zip data).map (fun p => p.1)).Nodup) :
    evalRow I e syms data dflt = evalRow I e syms' data' dflt :=
  eval_expr_perm_invariant I e _ _ dflt hp hnd

/-- **An inconsistent order changes the value**: the symbols sorted one way, the data passed
    in another (the twelve-symbol shape `__tmp0 … __tmp11` sorted as strings puts `__tmp10`,
    `__tmp11` before `__tmp2`), on an expression that is not symmetric in its arguments. -/
theorem eval_row_inconsistent_order_witness :
    let syms := ["__tmp0", "__tmp1", "__tmp10", "__tmp11", "__tmp2", "__tmp3"]
    let idx  := ["__tmp0", "__tmp1", "__tmp2", "__tmp3", "__tmp10", "__tmp11"]
    let data : List Int := [1, 2, 3, 4, 5, 6]
    let e : Expr := .f2 "add" (.f2 "mul" (.sym "__tmp2") (.lit 10)) (.sym "__tmp10")
    evalRow IZ e idx data (fun _ => 0) = 35 ∧ evalRow IZ e syms data (fun _ => 0) = 53 := by
  decide +kernel

-- non-vacuity: a consistent reordering of three pairs
example : evalRow IZ (.f2 "add" (.f2 "mul" (.sym "A") (.lit 10)) (.sym "B")) ["A", "B", "C"] [1, 2, 3] (fun _ => 0)
    = evalRow IZ (.f2 "add" (.f2 "mul" (.sym "A") (.lit 10)) (.sym "B")) ["C", "A", "B"] [3, 1, 2] (fun _ => 0) := by decide +kernel

/-- C07's statements extend the shared core: on embedded core statements `run` agrees. -/
theorem run_ofCore {α : Type} (I : Interp α) :
    ∀ (ss : List Stmt) (ρ : Env α), run I (ss.map St.ofCore) ρ = Pharmpy.run I ss ρ := by
  intro ss
  induction ss with
  | nil => intro ρ; rfl
  | cons s ss ih =>
    intro ρ
    simp only [List.map_cons, run_cons, Pharmpy.run_cons, ih]
    congr 1
    cases s with
    | assign x e => rfl
    | ode a r =>
      simp only [St.ofCore, St.exec, Stmt.exec, List.map_map]
      rfl

end Pharmpy.C07
