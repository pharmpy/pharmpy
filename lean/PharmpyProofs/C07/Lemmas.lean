import PharmpyModel.C07.Model
import PharmpyProofs.C10.Lemmas
/-
  Lemmas about the C07 model.  The simulation invariant `Inv` of the rewriting loops is the central notion: `Inv.step`
  (a statement is emitted) and `Inv.defer` (an assignment is only recorded) are the two kinds of step such a loop takes.
-/
namespace Pharmpy.C07
open Pharmpy Expr

theorem run_nil {α : Type} (I : Interp α) (ρ : Env α) : run I [] ρ = ρ := rfl

theorem run_cons {α : Type} (I : Interp α) (s : St) (ss : List St) (ρ : Env α) :
    run I (s :: ss) ρ = run I ss (s.exec I ρ) := rfl

theorem run_append {α : Type} (I : Interp α) (ss ts : List St) (ρ : Env α) :
    run I (ss ++ ts) ρ = run I ts (run I ss ρ) :=
  List.foldl_append

theorem run_take_succ {α : Type} (I : Interp α) {ss : List St} {k : Nat} {s : St} (h : ss[k]? = some s)
    (ρ : Env α) : run I (ss.take (k + 1)) ρ = s.exec I (run I (ss.take k) ρ) := by
  rw [List.take_add_one, h, run_append]
  rfl

theorem run_split {α : Type} (I : Interp α) {ss : List St} {k : Nat} {s : St} (h : ss[k]? = some s)
    (ρ : Env α) : run I ss ρ = run I (ss.drop (k + 1)) (s.exec I (run I (ss.take k) ρ)) := by
  rw [← run_take_succ I h, ← run_append, List.take_append_drop]

theorem not_contains_iff {l : List Sym} {y : Sym} : (!l.contains y) = true ↔ y ∉ l := by
  simp

theorem not_contains_and {l l' : List Sym} {y : Sym} :
    (!l.contains y && !l'.contains y) = true ↔ y ∉ l ∧ y ∉ l' := by
  rw [Bool.and_eq_true, not_contains_iff, not_contains_iff]

theorem assocGet_none_iff {α : Type} (l : List (Sym × α)) (y : Sym) :
    assocGet l y = none ↔ y ∉ l.map (fun p => p.1) := by
  induction l with
  | nil => exact ⟨fun _ h => (nomatch h), fun _ => rfl⟩
  | cons p l ih =>
    obtain ⟨k, v⟩ := p
    rw [assocGet, List.map_cons, List.mem_cons, not_or, ← ih]
    split
    · next h => exact ⟨fun h' => (nomatch h'), fun h' => absurd h h'.1⟩
    · next h => exact ⟨fun h' => ⟨h, h'⟩, fun h' => h'.2⟩

theorem assocGet_mem {α : Type} {l : List (Sym × α)} {y : Sym} {v : α} (h : assocGet l y = some v) :
    (y, v) ∈ l := by
  induction l with
  | nil => cases h
  | cons p l ih => grind [assocGet]

theorem assocGet_some_iff {α : Type} (l : List (Sym × α)) (hnd : (l.map (fun p => p.1)).Nodup)
    (y : Sym) (v : α) : assocGet l y = some v ↔ (y, v) ∈ l := by
  refine ⟨assocGet_mem, fun hm => ?_⟩
  induction l with
  | nil => cases hm
  | cons p l ih =>
    obtain ⟨k, w⟩ := p
    rw [List.map_cons, List.nodup_cons] at hnd
    rw [assocGet]
    rcases List.mem_cons.mp hm with heq | hm
    · cases heq; rw [if_pos rfl]
    · have hne : y ≠ k := fun h => hnd.1 (h ▸ List.mem_map.mpr ⟨_, hm, rfl⟩)
      rw [if_neg hne]
      exact ih hnd.2 hm

theorem assocGet_perm {α : Type} {l l' : List (Sym × α)} (hp : l.Perm l')
    (hnd : (l.map (fun p => p.1)).Nodup) (y : Sym) : assocGet l y = assocGet l' y :=
  Option.ext fun v => by
    rw [assocGet_some_iff l hnd, assocGet_some_iff l' ((hp.map _).nodup_iff.mp hnd), hp.mem_iff]

namespace Sub

theorem get_eq_assocGet (σ : Sub) (y : Sym) : σ.get y = assocGet σ y := by
  induction σ with
  | nil => rfl
  | cons p σ ih => obtain ⟨k, v⟩ := p; rw [get, assocGet, ih]

theorem get_none_of_not_dom (σ : Sub) (y : Sym) (h : y ∉ σ.dom) : σ.get y = none := by
  rw [get_eq_assocGet]
  exact (assocGet_none_iff σ y).mpr h

theorem mem_of_get {σ : Sub} {y : Sym} {t : Expr} (h : σ.get y = some t) : (y, t) ∈ σ :=
  assocGet_mem (get_eq_assocGet σ y ▸ h)

theorem mem_dom_of_get (σ : Sub) (y : Sym) (t : Expr) (h : σ.get y = some t) : y ∈ σ.dom :=
  List.mem_map.mpr ⟨_, mem_of_get h, rfl⟩

theorem syms_of_get (σ : Sub) (y : Sym) (t : Expr) (h : σ.get y = some t) :
    ∀ z ∈ t.syms, z ∈ σ.rangeSyms :=
  fun _ hz => List.mem_flatMap.mpr ⟨_, mem_of_get h, hz⟩

theorem get_del (σ : Sub) (x y : Sym) :
    (σ.del x).get y = if y = x then none else σ.get y := by
  induction σ with
  | nil => simp [del, get]
  | cons p σ ih =>
    unfold del at ih ⊢
    grind [get]

theorem get_set (σ : Sub) (x : Sym) (e : Expr) (y : Sym) :
    (σ.set x e).get y = if y = x then some e else σ.get y := by
  rw [set, get, get_del]
  by_cases hy : y = x <;> simp [hy]

theorem mem_dom_del (σ : Sub) (x y : Sym) (h : y ∈ (σ.del x).dom) : y ∈ σ.dom ∧ y ≠ x := by
  obtain ⟨p, hp, rfl⟩ := List.mem_map.mp h
  obtain ⟨hp, hne⟩ := List.mem_filter.mp hp
  exact ⟨List.mem_map.mpr ⟨p, hp, rfl⟩, bne_iff_ne.mp hne⟩

theorem mem_dom_set (σ : Sub) (x : Sym) (e : Expr) (y : Sym) (h : y ∈ (σ.set x e).dom) :
    y = x ∨ (y ∈ σ.dom ∧ y ≠ x) :=
  (List.mem_cons.mp h).imp_right (mem_dom_del σ x y)

end Sub

theorem substE_fresh (σ : Sub) (e : Expr) (h : ∀ y ∈ e.syms, y ∉ σ.dom) : substE σ e = e := by
  unfold substE
  induction e with
  | lit n => rfl
  | sym s => rw [subst, Sub.get_none_of_not_dom σ s (h s (List.mem_singleton_self s))]
  | f1 f a ih => rw [subst, ih h]
  | f2 f a b iha ihb =>
    rw [subst, iha fun y hy => h y (List.mem_append_left _ hy),
      ihb fun y hy => h y (List.mem_append_right _ hy)]
  | f3 f a b c iha ihb ihc =>
    rw [subst, iha fun y hy => h y (List.mem_append_left _ (List.mem_append_left _ hy)),
      ihb fun y hy => h y (List.mem_append_left _ (List.mem_append_right _ hy)),
      ihc fun y hy => h y (List.mem_append_right _ hy)]

theorem constSub_get (d : List (Sym × Int)) (y : Sym) (t : Expr) (h : (constSub d).get y = some t) :
    ∃ c, t = .lit c ∧ (y, c) ∈ d := by
  obtain ⟨⟨_, c⟩, hm, heq⟩ := List.mem_map.mp (Sub.mem_of_get h)
  cases heq
  exact ⟨c, rfl, hm⟩

theorem zeroSub_get (zero : List Sym) (y : Sym) :
    (zeroSub zero).get y = if y ∈ zero then some (.lit 0) else none := by
  induction zero with
  | nil => rfl
  | cons z zero ih =>
    rw [zeroSub, List.map_cons, Sub.get, ← zeroSub, ih]
    by_cases hy : y = z <;> simp [hy]

theorem exec_of_not_mem_defs {α : Type} (I : Interp α) (s : St) (ρ : Env α) {y : Sym}
    (h : y ∉ s.defs) : s.exec I ρ y = ρ y := by
  cases s with
  | assign x e => exact if_neg fun (hy : y = x) => h (hy ▸ List.mem_singleton_self x)
  | ode a r => exact if_neg h

theorem defs_substRhs (σ : Sub) (s : St) : (s.substRhs σ).defs = s.defs := by
  cases s <;> rfl

theorem substAll_eq_substRhs (σ : Sub) (s : St) (h : ∀ y ∈ s.defs, σ.get y = none) :
    s.substAll σ = s.substRhs σ := by
  have hl : ∀ y ∈ s.defs, lhsSubst σ y = y := fun y hy => by rw [lhsSubst, h y hy]
  cases s with
  | assign x e => rw [St.substAll, hl x (List.mem_singleton_self x)]; rfl
  | ode a r =>
    have hl : ∀ y ∈ a, lhsSubst σ y = y := hl
    rw [St.substAll, List.map_congr_left hl, List.map_id']; rfl

theorem run_not_defined {α : Type} (I : Interp α) (x : Sym) :
    ∀ (ss : List St) (ρ : Env α), (∀ s ∈ ss, x ∉ s.defs) → run I ss ρ x = ρ x := by
  intro ss
  induction ss with
  | nil => intro ρ _; rfl
  | cons s ss ih =>
    intro ρ h
    rw [run_cons, ih _ fun t ht => h t (List.mem_cons_of_mem _ ht),
      exec_of_not_mem_defs I s ρ (h s List.mem_cons_self)]

theorem exec_congr {α : Type} (I : Interp α) (s : St) {ρ ρ' : Env α} (hr : ∀ w ∈ s.reads, ρ w = ρ' w)
    {y : Sym} (hy : ρ y = ρ' y) : s.exec I ρ y = s.exec I ρ' y := by
  cases s with
  | assign z e => simp only [St.exec, Env.set, Expr.eval_congr I ρ ρ' e hr, hy]
  | ode a r =>
    have : r.map (eval I ρ) = r.map (eval I ρ') := List.map_congr_left fun e he =>
      Expr.eval_congr I ρ ρ' e fun w hw => hr w (List.mem_flatMap.mpr ⟨e, he, hw⟩)
    simp only [St.exec, this, hy]

theorem run_agree_off {α : Type} (I : Interp α) (x : Sym) :
    ∀ (ss : List St) (ρ ρ' : Env α), (∀ s ∈ ss, x ∉ s.reads) → (∀ y, y ≠ x → ρ y = ρ' y) →
      ∀ y, y ≠ x → run I ss ρ y = run I ss ρ' y := by
  intro ss
  induction ss with
  | nil => intro ρ ρ' _ h; exact h
  | cons s ss ih =>
    intro ρ ρ' hs h
    exact ih _ _ (fun t ht => hs t (List.mem_cons_of_mem _ ht)) fun y hy =>
      exec_congr I s (fun w hw => h w fun hh => hs s List.mem_cons_self (hh ▸ hw)) (h y hy)

theorem eval_set_fresh {α : Type} (I : Interp α) (ρ : Env α) (x : Sym) (v : α) (t : Expr)
    (h : x ∉ t.syms) : eval I (ρ.set x v) t = eval I ρ t :=
  Expr.eval_congr I _ _ t fun y hy => if_neg fun (hyx : y = x) => h (hyx ▸ hy)

/-- `ρo` (original program so far) is `ρn` (rewritten program so far)
    overlaid with the values of the pending substitutions. -/
def Inv {α : Type} (I : Interp α) (σ : Sub) (ρo ρn : Env α) : Prop :=
  ∀ y, ρo y = match σ.get y with
    | some t => eval I ρn t
    | none => ρn y

namespace Inv
variable {α : Type} {I : Interp α} {σ : Sub} {ρo ρn : Env α}

theorem refl (I : Interp α) (ρ : Env α) : Inv I [] ρ ρ :=
  fun _ => rfl

theorem of_get_none (h : Inv I σ ρo ρn) {y : Sym} (hy : σ.get y = none) : ρo y = ρn y := by
  have := h y
  rwa [hy] at this

theorem of_get_some (h : Inv I σ ρo ρn) {y : Sym} {t : Expr} (hy : σ.get y = some t) :
    ρo y = eval I ρn t := by
  have := h y
  rwa [hy] at this

theorem eval_substE (h : Inv I σ ρo ρn) (e : Expr) : eval I ρn (substE σ e) = eval I ρo e := by
  rw [substE, Expr.eval_subst]
  exact congrArg (eval I · e) (funext fun y => (h y).symm)

theorem exec_substRhs (h : Inv I σ ρo ρn) (s : St) {y : Sym} (hy : y ∈ s.defs) :
    (s.substRhs σ).exec I ρn y = s.exec I ρo y := by
  cases s with
  | assign x e =>
    cases List.mem_singleton.mp hy
    exact (if_pos rfl).trans ((h.eval_substE e).trans (if_pos rfl).symm)
  | ode a r =>
    simp only [St.substRhs, St.exec, List.map_map, if_pos (show y ∈ a from hy)]
    exact congrArg _ (List.map_congr_left fun e _ => h.eval_substE e)

/-- Emit: both programs execute `s`, the rewritten one with the pending values substituted.
    `σ' = σ` when `s` defines no pending symbol, `σ' = σ.del x` at the last assignment of a pending `x`. -/
theorem step (h : Inv I σ ρo ρn) (s : St) (σ' : Sub)
    (hdef : ∀ y ∈ s.defs, σ'.get y = none) (hoff : ∀ y, y ∉ s.defs → σ'.get y = σ.get y)
    (hread : ∀ y ∈ s.defs, y ∉ σ'.rangeSyms) :
    Inv I σ' (s.exec I ρo) ((s.substRhs σ).exec I ρn) := by
  intro y
  by_cases hy : y ∈ s.defs
  · rw [hdef y hy, h.exec_substRhs s hy]
  · have hn : ∀ z, z ∉ s.defs → (s.substRhs σ).exec I ρn z = ρn z := fun z hz =>
      exec_of_not_mem_defs I _ ρn (defs_substRhs σ s ▸ hz)
    rw [exec_of_not_mem_defs I s ρo hy]
    cases hg : σ'.get y with
    | none => exact (h.of_get_none (hoff y hy ▸ hg)).trans (hn y hy).symm
    | some t =>
      rw [h.of_get_some (hoff y hy ▸ hg)]
      exact Expr.eval_congr I _ _ t fun z hz =>
        (hn z fun hzd => hread z hzd (Sub.syms_of_get σ' y t hg z hz)).symm

theorem assign (h : Inv I σ ρo ρn) (x : Sym) (e : Expr) (σ' : Sub) (hx : σ'.get x = none)
    (hoff : ∀ y, y ≠ x → σ'.get y = σ.get y) (hread : x ∉ σ'.rangeSyms) :
    Inv I σ' ((St.assign x e).exec I ρo) ((St.assign x (substE σ e)).exec I ρn) :=
  h.step (.assign x e) σ' (List.forall_mem_singleton.mpr hx)
    (fun y hy => hoff y fun hyx => hy (List.mem_singleton.mpr hyx)) (List.forall_mem_singleton.mpr hread)

/-- Defer: the original program assigns `x`, the rewritten one only records the value as pending. -/
theorem defer (h : Inv I σ ρo ρn) (x : Sym) (t : Expr) (v : α) (ht : eval I ρn t = v) :
    Inv I (σ.set x t) (ρo.set x v) ρn := by
  intro y
  rw [Sub.get_set, Env.set]
  by_cases hy : y = x
  · rw [if_pos hy, if_pos hy]; exact ht.symm
  · rw [if_neg hy, if_neg hy]
    exact h y

end Inv

theorem assignedIn_cons_assign (y x : Sym) (e : Expr) (rest : List St) :
    assignedIn y (.assign x e :: rest) = (x == y || assignedIn y rest) := rfl

theorem mem_lhs_iff (y : Sym) (ss : List St) : y ∈ lhs ss ↔ assignedIn y ss = true := by
  induction ss with
  | nil => simp [lhs, assignedIn]
  | cons s ss ih =>
    cases s with
    | assign x e =>
      rw [lhs, List.mem_cons, assignedIn_cons_assign, Bool.or_eq_true, beq_iff_eq, ih, eq_comm]
    | ode a r => exact ih

/-- Every symbol with a pending value has been assigned before and is assigned again later. -/
def Pending (seen : List Sym) (cur : Sub) (rest : List St) : Prop :=
  ∀ y ∈ cur.dom, y ∈ seen ∧ assignedIn y rest = true

namespace Pending
variable {seen : List Sym} {cur : Sub} {rest : List St} {x : Sym} {e : Expr}

theorem get_none_nil (h : Pending seen cur []) (y : Sym) : cur.get y = none :=
  Sub.get_none_of_not_dom cur y fun hy => Bool.false_ne_true (h y hy).2

theorem get_none_of_not_seen (h : Pending seen cur rest) (hx : x ∉ seen) : cur.get x = none :=
  Sub.get_none_of_not_dom cur x fun hy => hx (h x hy).1

theorem tail (h : Pending seen cur (.assign x e :: rest)) {y : Sym} (hy : y ∈ cur.dom) (hne : y ≠ x) :
    y ∈ seen ∧ assignedIn y rest = true := by
  obtain ⟨hs, hl⟩ := h y hy
  rw [assignedIn_cons_assign, Bool.or_eq_true, beq_iff_eq] at hl
  exact ⟨hs, hl.resolve_left fun hxy => hne hxy.symm⟩

theorem defer (h : Pending seen cur (.assign x e :: rest)) (hl : assignedIn x rest = true) (t : Expr) :
    Pending (x :: seen) (cur.set x t) rest := by
  intro y hy
  rcases Sub.mem_dom_set cur x t y hy with rfl | ⟨hy, hne⟩
  · exact ⟨List.mem_cons_self, hl⟩
  · exact (h.tail hy hne).imp_left (List.mem_cons_of_mem _)

theorem del (h : Pending seen cur (.assign x e :: rest)) : Pending seen (cur.del x) rest := by
  intro y hy
  obtain ⟨hy, hne⟩ := Sub.mem_dom_del cur x y hy
  exact h.tail hy hne

theorem once (h : Pending seen cur (.assign x e :: rest)) (hx : x ∉ seen) :
    Pending (x :: seen) cur rest :=
  fun y hy => (h.tail hy fun hyx => hx (hyx ▸ (h y hy).1)).imp_left (List.mem_cons_of_mem _)

end Pending

theorem eval_renameE {α : Type} (I : Interp α) (r : Sym → Sym) (ρ' : Env α) (e : Expr) :
    eval I ρ' (renameE r e) = eval I (fun y => ρ' (r y)) e := by
  induction e <;> simp only [renameE, eval, *]

theorem expandBack_none (pre : List St) : pre.foldr expandStep (none : Option Expr) = none := by
  induction pre with
  | nil => rfl
  | cons s pre ih => rw [List.foldr, ih]; cases s <;> rfl

theorem expandBack_sound {α : Type} (I : Interp α) (pre : List St) :
    ∀ (e r : Expr) (ρ : Env α), expandBack pre e = some r →
      eval I ρ r = eval I (run I pre ρ) e := by
  induction pre using snoc_induction with
  | nil => intro e r ρ h; cases h; rfl
  | append_singleton pre s ih =>
    intro e r ρ h
    rw [expandBack, List.foldr_append] at h
    cases s with
    | ode a es => rw [List.foldr, List.foldr, expandStep, expandBack_none] at h; cases h
    | assign x t => rw [ih _ _ ρ h, run_append, Expr.eval_subst1]; rfl

theorem firstIndex_spec (dv : Sym) (ss : List St) :
    ∀ i, firstIndex dv ss = some i → ∃ t, ss[i]? = some (.assign dv t) := by
  fun_induction firstIndex dv ss with
  | case1 => intro i h; cases h
  | case2 e rest => intro i h; cases h; exact ⟨e, rfl⟩
  | case3 _ _ _ _ ih | case4 _ _ _ ih =>
    intro i h
    obtain ⟨j, hj, rfl⟩ := Option.map_eq_some_iff.mp h
    exact ih j hj

namespace PMap

theorem toSub_get (m : PMap) (n : Sym) : m.toSub.get n = m.value n := by
  induction m with
  | nil => rfl
  | cons p m ih => obtain ⟨k, v⟩ := p; rw [value, ← ih]; rfl

theorem value_append (a b : PMap) (n : Sym) : (a ++ b).value n = (a.value n).or (b.value n) := by
  induction a with
  | nil => rfl
  | cons p a ih => grind [value]

theorem value_eq_none_iff (m : PMap) (n : Sym) : m.value n = none ↔ ∀ p ∈ m, p.1.name ≠ n := by
  rw [← toSub_get, Sub.get_eq_assocGet, assocGet_none_iff, toSub, List.map_map]
  exact ⟨fun h p hp hn => h (List.mem_map.mpr ⟨p, hp, hn⟩),
    fun h hm => by obtain ⟨p, hp, hn⟩ := List.mem_map.mp hm; exact h p hp hn⟩

theorem value_filter (f : Key × Expr → Bool) (m : PMap) (n : Sym)
    (h : ∀ p ∈ m, p.1.name = n → f p = true) : value (m.filter f) n = m.value n := by
  induction m with
  | nil => rfl
  | cons p m ih => grind [value]

theorem atKey_str (m : PMap) (hs : ∀ p ∈ m, p.1.isStr = true) (n : Sym) :
    m.atKey (.str n) = m.value n := by
  induction m with
  | nil => rfl
  | cons p m ih =>
    obtain ⟨k, v⟩ := p
    have ih := ih fun q hq => hs q (List.mem_cons_of_mem _ hq)
    cases k with
    | str n' => by_cases h : n = n' <;> simp [atKey, value, Key.name, h, ih]
    | symbol n' => cases hs _ List.mem_cons_self
    | expr n' => cases hs _ List.mem_cons_self

end PMap

theorem initsMap_isStr (inits : List (Sym × Expr)) : ∀ p ∈ initsMap inits, p.1.isStr = true := by
  intro p hp
  obtain ⟨q, _, rfl⟩ := List.mem_map.mp hp
  rfl

theorem initsMap_value (l : List (Sym × Expr)) (n : Sym) : (initsMap l).value n = Sub.get l n := by
  rw [← PMap.toSub_get, initsMap, PMap.toSub, List.map_map]
  exact congrArg (Sub.get · n) (List.map_id' l)

/-- The `base` part of `{**base, **given}`. -/
theorem merged_base_value (inits : List (Sym × Expr)) (given : PMap) (n : Sym) :
    PMap.value ((initsMap inits).map (fun q => (q.1, (given.atKey q.1).getD q.2))) n =
      ((initsMap inits).value n).map fun v0 => (given.atKey (.str n)).getD v0 := by
  induction inits with
  | nil => rfl
  | cons p inits ih =>
    obtain ⟨k, v⟩ := p
    simp only [initsMap, List.map_cons, PMap.value, Key.name] at ih ⊢
    by_cases h : n = k
    · subst h; simp
    · simp only [h, ↓reduceIte]; exact ih

/-- The appended part of `{**base, **given}`. -/
theorem merged_rest_value (base given : PMap) (n : Sym) (hn : base.value n = none) :
    PMap.value (given.filter (fun p => !(base.any (fun q => q.1 == p.1)))) n = given.value n := by
  apply PMap.value_filter
  intro p _ hp
  rw [Bool.not_eq_true', List.any_eq_false]
  intro q hq hqp
  exact (PMap.value_eq_none_iff base n).mp hn q hq (by rw [beq_iff_eq.mp hqp, hp])

/-- For a mapping with one entry per parameter name every insertion appends: normalising only
    turns each key into the string of its name. -/
theorem normalise_of_nodup (m : PMap) (hnd : (m.map (fun p => p.1.name)).Nodup) :
    normalise m = initsMap m.toSub := by
  have : ∀ (rest acc : PMap), (acc.map (fun p => p.1.name) ++ rest.map (fun p => p.1.name)).Nodup →
      rest.foldl (fun acc p => pyInsert acc (Key.str p.1.name) p.2) acc = acc ++ initsMap rest.toSub := by
    intro rest
    induction rest with
    | nil => intro acc _; exact (List.append_nil acc).symm
    | cons q rest ih =>
      intro acc h
      have hq : acc.any (fun p => p.1 == Key.str q.1.name) = false := by
        rw [List.any_eq_false]
        intro p hp hpq
        have hd := (List.nodup_append.mp h).2.2 _ (List.mem_map.mpr ⟨p, hp, rfl⟩) _ List.mem_cons_self
        exact hd (by rw [beq_iff_eq.mp hpq]; rfl)
      rw [List.foldl_cons, pyInsert, hq, if_neg Bool.false_ne_true, ih]
      · rw [List.append_assoc]; rfl
      · rw [List.map_append, List.append_assoc]; exact h
  exact (this m [] (by rwa [List.map_nil, List.nil_append])).trans (List.nil_append _)

end Pharmpy.C07
