import PharmpyModel.C11.Model
/- Helper lemmas about the model `PharmpyModel/C11/Model.lean` (core Lean only, no Mathlib). -/
set_option linter.unusedSectionVars false
namespace Pharmpy.C11
variable {α : Type} [Zero α] [DecidableEq α]

@[simp] theorem names_nil : names ([] : RVs α) = [] := rfl
@[simp] theorem names_cons (d : Dist α) (r : RVs α) : names (d :: r) = d.names ++ names r :=
  List.flatMap_cons
@[simp] theorem names_append (r s : RVs α) : names (r ++ s) = names r ++ names s :=
  List.flatMap_append

theorem mem_names {r : RVs α} {a : String} : a ∈ names r ↔ ∃ d ∈ r, a ∈ d.names :=
  List.mem_flatMap

theorem nodup_of_mem {r : RVs α} (hn : (names r).Nodup) {d : Dist α} (hd : d ∈ r) : d.names.Nodup :=
  (List.pairwise_flatMap.mp hn).1 d hd

theorem selIdx_map_fst (p : String → Bool) (ns : List String) :
    (selIdx p ns).map (·.1) = ns.filter p := by
  rw [selIdx, ← List.zipIdx_map_fst 0 ns, List.filter_map, List.zipIdx_map_fst]
  rfl

theorem mem_selIdx {p : String → Bool} {ns : List String} {x : String × Nat} :
    x ∈ selIdx p ns ↔ ns[x.2]? = some x.1 ∧ p x.1 = true := by
  rw [selIdx, List.mem_filter, List.mem_zipIdx_iff_getElem?]

theorem mem_names_of_mem_selIdx {p : String → Bool} {ns : List String} {x : String × Nat} (h : x ∈ selIdx p ns) :
    x.1 ∈ ns ∧ p x.1 = true :=
  ⟨List.mem_of_getElem? (mem_selIdx.mp h).1, (mem_selIdx.mp h).2⟩

theorem idxOf_of_getElem? {ns : List String} (hn : ns.Nodup) {a : String} {m : Nat}
    (h : ns[m]? = some a) : ns.idxOf a = m := by
  obtain ⟨hm, rfl⟩ := List.getElem?_eq_some_iff.mp h
  exact hn.idxOf_getElem m hm

theorem getElem?_idxOf {ns : List String} {a : String} (h : a ∈ ns) : ns[ns.idxOf a]? = some a := by
  rw [List.getElem?_eq_getElem (List.idxOf_lt_length_of_mem h), List.getElem_idxOf]

theorem idxOf?_eq_idxOf {ns : List String} {a : String} (h : a ∈ ns) : ns.idxOf? a = some (ns.idxOf a) :=
  List.findIdx?_eq_some_of_exists ⟨a, h, beq_self_eq_true a⟩

theorem lookupIdx_cons (d : Dist α) (r : RVs α) (a : String) :
    lookupIdx (d :: r) a = if d.names.contains a then some 0 else (lookupIdx r a).map (· + 1) :=
  List.findIdx?_cons

theorem lookupIdx_eq {r : RVs α} (hn : (names r).Nodup) {i : Nat} {d : Dist α} (hi : r[i]? = some d)
    {a : String} (ha : a ∈ d.names) : lookupIdx r a = some i := by
  induction r generalizing i with
  | nil => cases hi
  | cons d0 r ih =>
    rw [names_cons, List.nodup_append] at hn
    rw [lookupIdx_cons]
    cases i with
    | zero =>
      cases hi
      rw [if_pos (List.contains_iff_mem.mpr ha)]
    | succ i =>
      have ha' : a ∈ names r := mem_names.mpr ⟨d, List.mem_of_getElem? hi, ha⟩
      rw [if_neg (fun h => hn.2.2 a (List.contains_iff_mem.mp h) a ha' rfl), ih hn.2.1 hi]
      rfl

theorem getCov_of_nodup {r : RVs α} (hn : (names r).Nodup) {d e : Dist α} (hd : d ∈ r) (he : e ∈ r)
    {a b : String} (ha : a ∈ d.names) (hb : b ∈ e.names) :
    getCov r a b = if d = e then d.getCov a b else .ok 0 := by
  obtain ⟨i, hi⟩ := List.getElem?_of_mem hd
  obtain ⟨j, hj⟩ := List.getElem?_of_mem he
  rw [getCov, lookupIdx_eq hn hi ha, lookupIdx_eq hn hj hb]
  by_cases hde : d = e
  · subst hde
    cases Option.some.inj ((lookupIdx_eq hn hi hb).symm.trans (lookupIdx_eq hn hj hb))
    simp [hi]
  · have hij : i ≠ j := fun h => hde (Option.some.inj ((h ▸ hi).symm.trans hj))
    simp [hij, hde]

theorem getCov_of_mem {r : RVs α} (hn : (names r).Nodup) {d : Dist α} (hd : d ∈ r) {a b : String}
    (ha : a ∈ d.names) (hb : b ∈ d.names) : getCov r a b = d.getCov a b :=
  (getCov_of_nodup hn hd hd ha hb).trans (if_pos rfl)

theorem getCov_of_ne {r : RVs α} (hn : (names r).Nodup) {d e : Dist α} (hd : d ∈ r) (he : e ∈ r)
    {a b : String} (ha : a ∈ d.names) (hb : b ∈ e.names) (hne : d ≠ e) : getCov r a b = .ok 0 :=
  (getCov_of_nodup hn hd he ha hb).trans (if_neg hne)

theorem getCov_shared {L L' : RVs α} (hn : (names L).Nodup) (hn' : (names L').Nodup) {k k' : Dist α}
    (hk : k ∈ L) (hk2 : k ∈ L') (hk' : k' ∈ L) (hk2' : k' ∈ L') {a b : String}
    (ha : a ∈ k.names) (hb : b ∈ k'.names) : getCov L' a b = getCov L a b := by
  rw [getCov_of_nodup hn hk hk' ha hb, getCov_of_nodup hn' hk2 hk2' ha hb]

theorem getCov_joint {d : Dist α} (hj : d.joint = true) {a b : String} (ha : a ∈ d.names)
    (hb : b ∈ d.names) : d.getCov a b = .ok (ent d.var (d.names.idxOf a) (d.names.idxOf b)) := by
  simp only [Dist.getCov, hj, if_true, idxOf?_eq_idxOf ha, idxOf?_eq_idxOf hb]

theorem getCov_normal (n l : String) (m v : α) : (normal n l m v).getCov n n = .ok v := by
  simp [normal, Dist.getCov, ent]

theorem ent_subMat (M : List (List α)) (idx : List Nat) (i j : Nat) :
    ent (subMat M idx) i j = match idx[i]?, idx[j]? with
      | some a, some b => ent M a b
      | _, _ => 0 := by
  simp only [ent, subMat, List.getD_eq_getElem?_getD, List.getElem?_map]
  cases idx[i]? with
  | none => rfl
  | some a =>
    simp only [Option.map_some, Option.getD_some, List.getElem?_map]
    cases idx[j]? <;> rfl

/-- A block cut out at the positions stored in `L`: the covariance of two listed names is the entry
    at their stored positions. -/
theorem getCov_sel (V : List (List α)) (lvl : String) (mean : List α) {L : List (String × Nat)}
    (hn : (L.map (·.1)).Nodup) {a b : String} {ma mb : Nat} (ha : (a, ma) ∈ L) (hb : (b, mb) ∈ L) :
    (⟨L.map (·.1), lvl, true, mean, subMat V (L.map (·.2))⟩ : Dist α).getCov a b = .ok (ent V ma mb) := by
  have pos : ∀ {c m}, (c, m) ∈ L → c ∈ L.map (·.1) ∧ (L.map (·.2))[(L.map (·.1)).idxOf c]? = some m := by
    intro c m h
    obtain ⟨i, hi⟩ := List.getElem?_of_mem h
    rw [idxOf_of_getElem? hn (a := c) (m := i) (by rw [List.getElem?_map, hi]; rfl), List.getElem?_map, hi]
    exact ⟨List.mem_map.mpr ⟨_, h, rfl⟩, rfl⟩
  rw [getCov_joint rfl (pos ha).1 (pos hb).1, ent_subMat, (pos ha).2, (pos hb).2]

theorem pickDist_names (d : Dist α) (p : String → Bool) : (pickDist d p).names = d.names.filter p := by
  rw [← selIdx_map_fst, pickDist]
  split <;> simp_all [normal]

theorem pickDist_getCov {d : Dist α} (hj : d.joint = true) (hn : d.names.Nodup) (p : String → Bool)
    {a b : String} (ha : a ∈ d.names) (hb : b ∈ d.names) (hpa : p a = true) (hpb : p b = true) :
    (pickDist d p).getCov a b = d.getCov a b := by
  have hA : (a, d.names.idxOf a) ∈ selIdx p d.names := mem_selIdx.mpr ⟨getElem?_idxOf ha, hpa⟩
  have hB : (b, d.names.idxOf b) ∈ selIdx p d.names := mem_selIdx.mpr ⟨getElem?_idxOf hb, hpb⟩
  have hnd : ((selIdx p d.names).map (·.1)).Nodup := by
    rw [selIdx_map_fst]; exact hn.sublist List.filter_sublist
  rw [getCov_joint hj ha hb, pickDist]
  split
  · rename_i x hx
    rw [hx] at hA hB
    cases List.mem_singleton.mp hA
    cases List.mem_singleton.mp hB
    exact getCov_normal ..
  · exact getCov_sel _ _ _ hnd hA hB

/-- Shape invariant of a distribution: a joint distribution of `n` variables has an `n × n`
    matrix (as many rows as names, first row as long), a normal distribution has one name. -/
def Square (d : Dist α) : Prop :=
  if d.joint then matRows d.var = d.names.length ∧ matCols d.var = d.names.length else d.names.length = 1

instance (d : Dist α) : Decidable (Square d) := by unfold Square; infer_instance

theorem square_normal (n l : String) (m v : α) : Square (normal n l m v) := rfl

theorem subMat_shape (M : List (List α)) (idx : List Nat) :
    matRows (subMat M idx) = idx.length ∧ matCols (subMat M idx) = idx.length := by
  cases idx <;> simp [matRows, matCols, subMat]

theorem pickDist_square (d : Dist α) (p : String → Bool) : Square (pickDist d p) := by
  rw [pickDist]
  split
  · exact square_normal ..
  · simpa [Square] using subMat_shape d.var ((selIdx p d.names).map (·.2))

/-- Every block is a symmetric matrix. -/
def SymBlocks (r : RVs α) : Prop := ∀ d ∈ r, ∀ i j, ent d.var i j = ent d.var j i

theorem ent_single_sym (v : α) (i j : Nat) : ent [[v]] i j = ent [[v]] j i := by
  cases i <;> cases j <;> rfl

theorem ent_sym_of_bounded {V : List (List α)} (n : Nat)
    (h : V.length ≤ n ∧ (∀ row ∈ V, row.length ≤ n) ∧ ∀ i < n, ∀ j < n, ent V i j = ent V j i) :
    ∀ i j, ent V i j = ent V j i := by
  have out : ∀ i j, n ≤ i ∨ n ≤ j → ent V i j = 0 := by
    intro i j hij
    rw [ent, List.getD_eq_getElem?_getD, List.getD_eq_getElem?_getD]
    cases hV : V[i]? with
    | none => rfl
    | some row =>
      obtain ⟨hi, _⟩ := List.getElem?_eq_some_iff.mp hV
      have := h.1
      have := h.2.1 row (List.mem_of_getElem? hV)
      exact congrArg (·.getD 0) (List.getElem?_eq_none (l := row) (i := j) (by omega))
  intro i j
  by_cases hij : i < n ∧ j < n
  · exact h.2.2 i hij.1 j hij.2
  · rw [out i j (by omega), out j i (by omega)]

theorem subMat_sym (M : List (List α)) (idx : List Nat) (h : ∀ i j, ent M i j = ent M j i) (i j : Nat) :
    ent (subMat M idx) i j = ent (subMat M idx) j i := by
  rw [ent_subMat, ent_subMat]
  cases idx[i]? <;> cases idx[j]? <;> simp [h]

theorem pickDist_sym {d : Dist α} (hd : ∀ i j, ent d.var i j = ent d.var j i) (p : String → Bool) (i j : Nat) :
    ent (pickDist d p).var i j = ent (pickDist d p).var j i := by
  rw [pickDist]
  split
  · exact ent_single_sym ..
  · exact subMat_sym _ _ hd i j

/-- The condition under which `unjoin` touches a distribution. -/
def touched (inds : List String) (d : Dist α) : Bool := d.joint && d.names.any (inds.contains ·)

/-- Normal distributions have exactly one name. -/
def Singles (r : RVs α) : Prop := ∀ d ∈ r, d.joint = false → ∃ n, d.names = [n]

/-- The pieces of `unjoinDist inds d`: an untouched `d` itself; else a normal distribution per
    unjoined name, and the restriction of `d` to the other names. -/
theorem forall_mem_unjoinDist {P : Dist α → Prop} {inds : List String} {d : Dist α}
    (h0 : touched inds d = false → P d)
    (h1 : touched inds d = true → ∀ x ∈ selIdx (inds.contains ·) d.names,
      P (normal x.1 d.level (d.mean.getD x.2 0) (ent d.var x.2 x.2)))
    (h2 : touched inds d = true → P (pickDist d fun n => !inds.contains n)) :
    ∀ k ∈ unjoinDist inds d, P k := by
  intro k hk
  rw [unjoinDist, ← touched] at hk
  split at hk
  · rename_i ht
    rcases List.mem_append.mp hk with h | h
    · obtain ⟨x, hx, rfl⟩ := List.mem_map.mp h
      exact h1 ht x hx
    · have h2 := h2 ht
      rw [pickDist] at h2
      generalize selIdx (fun n => !inds.contains n) d.names = kept at h h2
      match kept with
      | [] => cases h
      | [x] | x :: y :: l =>
        cases List.mem_singleton.mp h
        exact h2
  · rename_i ht
    cases List.mem_singleton.mp hk
    exact h0 (by simpa using ht)

theorem unjoinDist_names (inds : List String) (d : Dist α) :
    names (unjoinDist inds d) =
      if touched inds d then d.names.filter (inds.contains ·) ++ d.names.filter (fun n => !inds.contains n)
      else d.names := by
  rw [unjoinDist, ← touched]
  split
  · rw [names_append, ← selIdx_map_fst, ← selIdx_map_fst]
    congr 1
    · rw [names, List.flatMap_map, List.map_eq_flatMap]
      rfl
    · generalize selIdx (fun n => !inds.contains n) d.names = kept
      match kept with
      | [] => rfl
      | [x] | x :: y :: l => exact List.append_nil _
  · exact List.append_nil _

theorem touched_joint {inds : List String} {d : Dist α} (h : touched inds d = true) : d.joint = true :=
  (Bool.and_eq_true_iff.mp h).1

theorem unjoinDist_names_perm (inds : List String) (d : Dist α) :
    (names (unjoinDist inds d)).Perm d.names := by
  rw [unjoinDist_names]
  split
  · exact List.filter_append_perm _ _
  · exact List.Perm.refl _

theorem piece_names_subset {inds : List String} {d k : Dist α} (hk : k ∈ unjoinDist inds d)
    {x : String} (hx : x ∈ k.names) : x ∈ d.names :=
  (unjoinDist_names_perm inds d).mem_iff.mp (mem_names.mpr ⟨k, hk, hx⟩)

theorem exists_piece (inds : List String) {d : Dist α} {a : String} (ha : a ∈ d.names) :
    ∃ k ∈ unjoinDist inds d, a ∈ k.names :=
  mem_names.mp ((unjoinDist_names_perm inds d).mem_iff.mpr ha)

theorem piece_names {inds : List String} {d : Dist α} (hs : d.joint = false → ∃ n, d.names = [n]) :
    ∀ k ∈ unjoinDist inds d,
      (∃ a ∈ inds, k.names = [a]) ∨ k.names = d.names.filter (fun n => !inds.contains n) := by
  apply forall_mem_unjoinDist
  · intro ht
    cases hj : d.joint with
    | false =>
      obtain ⟨n, hn⟩ := hs hj
      by_cases hni : n ∈ inds
      · exact .inl ⟨n, hni, hn⟩
      · simp [hn, hni]
    | true =>
      simp only [touched, hj, Bool.true_and, List.any_eq_false] at ht
      exact .inr (List.filter_eq_self.mpr fun x hx => by simpa using ht x hx).symm
  · intro _ x hx
    exact .inl ⟨x.1, by simpa using (mem_names_of_mem_selIdx hx).2, rfl⟩
  · intro _
    exact .inr (pickDist_names _ _)

theorem piece_getCov {inds : List String} {d : Dist α} (hn : d.names.Nodup) :
    ∀ k ∈ unjoinDist inds d, ∀ a ∈ k.names, ∀ b ∈ k.names, k.getCov a b = d.getCov a b := by
  apply forall_mem_unjoinDist
  · intros; rfl
  · intro ht x hx a ha b hb
    cases List.mem_singleton.mp ha
    cases List.mem_singleton.mp hb
    have hx' := mem_selIdx.mp hx
    rw [getCov_joint (touched_joint ht) (mem_names_of_mem_selIdx hx).1 (mem_names_of_mem_selIdx hx).1, idxOf_of_getElem? hn hx'.1]
    exact getCov_normal ..
  · intro ht a ha b hb
    rw [pickDist_names, List.mem_filter] at ha hb
    exact pickDist_getCov (touched_joint ht) hn _ ha.1 hb.1 ha.2 hb.2

theorem unjoinDist_square {inds : List String} {d : Dist α} (hd : Square d) :
    ∀ k ∈ unjoinDist inds d, Square k :=
  forall_mem_unjoinDist (fun _ => hd) (fun _ _ _ => square_normal ..) (fun _ => pickDist_square ..)

theorem unjoinDist_sym {inds : List String} {d : Dist α} (hd : ∀ i j, ent d.var i j = ent d.var j i) :
    ∀ k ∈ unjoinDist inds d, ∀ i j, ent k.var i j = ent k.var j i :=
  forall_mem_unjoinDist (fun _ => hd) (fun _ _ _ => ent_single_sym _) (fun _ => pickDist_sym hd _)

theorem unjoin_cons (d : Dist α) (r : RVs α) (inds : List String) :
    unjoin (d :: r) inds = unjoinDist inds d ++ unjoin r inds := List.flatMap_cons

theorem mem_unjoin {r : RVs α} {inds : List String} {k : Dist α} :
    k ∈ unjoin r inds ↔ ∃ d ∈ r, k ∈ unjoinDist inds d := List.mem_flatMap

theorem unjoin_names_perm (r : RVs α) (inds : List String) : (names (unjoin r inds)).Perm (names r) := by
  induction r with
  | nil => exact List.Perm.refl _
  | cons d r ih =>
    rw [unjoin_cons, names_append, names_cons]
    exact (unjoinDist_names_perm inds d).append ih

theorem unjoin_nodup {r : RVs α} (hn : (names r).Nodup) (inds : List String) :
    (names (unjoin r inds)).Nodup :=
  (unjoin_names_perm r inds).nodup_iff.mpr hn

/-- Covariance after `unjoin`, read through the pieces that have the two variables: unchanged inside
    one piece, 0 across pieces. -/
theorem unjoin_getCov {r : RVs α} (hn : (names r).Nodup) {inds : List String} {d e k k' : Dist α}
    (hd : d ∈ r) (he : e ∈ r) (hk : k ∈ unjoinDist inds d) (hk' : k' ∈ unjoinDist inds e)
    {a b : String} (ha : a ∈ k.names) (hb : b ∈ k'.names) :
    getCov (unjoin r inds) a b = if k = k' then getCov r a b else .ok 0 := by
  rw [getCov_of_nodup (unjoin_nodup hn inds) (mem_unjoin.mpr ⟨d, hd, hk⟩) (mem_unjoin.mpr ⟨e, he, hk'⟩) ha hb]
  split
  · subst k'
    rw [getCov_of_mem hn hd (piece_names_subset hk ha) (piece_names_subset hk hb),
      piece_getCov (nodup_of_mem hn hd) k hk a ha b hb]
  · rfl

theorem unjoin_getCov_kept {r : RVs α} (hn : (names r).Nodup) (hs : Singles r) (inds : List String)
    {a b : String} (ha : a ∈ names r) (hb : b ∈ names r) (hai : a ∉ inds) (hbi : b ∉ inds) :
    getCov (unjoin r inds) a b = getCov r a b := by
  obtain ⟨d, hd, had⟩ := mem_names.mp ha
  obtain ⟨e, he, hbe⟩ := mem_names.mp hb
  obtain ⟨k, hk, hak⟩ := exists_piece inds had
  by_cases hbd : b ∈ d.names
  · have hbk : b ∈ k.names := by
      rcases piece_names (hs d hd) k hk with ⟨a', ha', hk'⟩ | hk'
      · rw [hk', List.mem_singleton] at hak
        exact absurd (hak ▸ ha') hai
      · rw [hk']
        exact List.mem_filter.mpr ⟨hbd, by simpa using hbi⟩
    exact (unjoin_getCov hn hd hd hk hk hak hbk).trans (if_pos rfl)
  · obtain ⟨k', hk', hbk'⟩ := exists_piece inds hbe
    rw [unjoin_getCov hn hd he hk hk' hak hbk', getCov_of_ne hn hd he had hbe (fun h => hbd (h ▸ hbe)),
      if_neg (fun h : k = k' => hbd (piece_names_subset hk (h ▸ hbk')))]

theorem writeRow_apply (M : Mat α) (off : Nat) (V : List (List α)) (i cols r c : Nat) :
    writeRow M off V i cols r c =
      if r = off + i ∧ off ≤ c ∧ c < off + cols then ent V i (c - off) else M r c := by
  unfold writeRow
  induction cols with
  | zero => rw [List.range_zero, List.foldl_nil, if_neg (by omega)]
  | succ n ih =>
    rw [List.range_succ, List.foldl_append, List.foldl_cons, List.foldl_nil, setM, ih]
    grind

theorem writeBlock_apply (M : Mat α) (off : Nat) (V : List (List α)) (rows cols r c : Nat) :
    writeBlock M off V rows cols r c =
      if off ≤ r ∧ r < off + rows ∧ off ≤ c ∧ c < off + cols then ent V (r - off) (c - off) else M r c := by
  unfold writeBlock
  induction rows with
  | zero => rw [List.range_zero, List.foldl_nil, if_neg (by omega)]
  | succ n ih =>
    rw [List.range_succ, List.foldl_append, List.foldl_cons, List.foldl_nil, writeRow_apply, ih]
    grind

/-- Entry `(r, c)` of the block-diagonal composition of square blocks `(size, matrix)`;
    `z` is the value outside the blocks. -/
def blockDiagF : List (Nat × List (List α)) → Nat → Nat → α → α
  | [], _, _, z => z
  | (k, V) :: bs, r, c, z =>
    if r < k ∧ c < k then ent V r c
    else if r < k ∨ c < k then z
    else blockDiagF bs (r - k) (c - k) z

/-- The block of a distribution: its size and covariance matrix. -/
def blockOf (d : Dist α) : Nat × List (List α) := (d.names.length, d.var)

theorem calcGo_cons {d : Dist α} (hd : Square d) (ds : List (Dist α)) (off : Nat) (M : Mat α) :
    calcGo (d :: ds) off M = calcGo ds (off + d.names.length)
      (writeBlock M off d.var d.names.length d.names.length) := by
  rw [calcGo]
  unfold Square at hd
  split
  · rw [if_pos ‹_›] at hd
    rw [hd.1, hd.2]
  · rw [if_neg ‹_›] at hd
    rw [hd]
    rfl

theorem calcGo_apply (ds : List (Dist α)) (hs : ∀ d ∈ ds, Square d) (off : Nat) (M : Mat α) (r c : Nat) :
    calcGo ds off M r c =
      if off ≤ r ∧ off ≤ c then blockDiagF (ds.map blockOf) (r - off) (c - off) (M r c) else M r c := by
  induction ds generalizing off M with
  | nil => simp [calcGo, blockDiagF]
  | cons d ds ih =>
    rw [calcGo_cons (hs d List.mem_cons_self), ih (fun e he => hs e (List.mem_cons_of_mem _ he)),
      writeBlock_apply, List.map_cons, blockDiagF, blockOf]
    generalize d.names.length = k
    have e1 : r - (off + k) = r - off - k := by omega
    have e2 : c - (off + k) = c - off - k := by omega
    rw [e1, e2]
    grind

theorem calcMat_apply (rvs : RVs α) (hs : ∀ d ∈ rvs, Square d) (r c : Nat) :
    calcMat rvs r c = blockDiagF (rvs.map blockOf) r c 0 :=
  (calcGo_apply rvs hs 0 _ r c).trans (if_pos ⟨Nat.zero_le r, Nat.zero_le c⟩)

theorem getD_tabulate {β : Type} (n : Nat) (f : Nat → Nat → β) (z : β) (r c : Nat) (hr : r < n) (hc : c < n) :
    (((List.range n).map fun r => (List.range n).map fun c => f r c).getD r []).getD c z = f r c := by
  simp [List.getD_eq_getElem?_getD, hr, hc]

theorem ent_tabulate (n : Nat) (M : Mat α) (r c : Nat) (hr : r < n) (hc : c < n) :
    ent (tabulate n M) r c = M r c :=
  getD_tabulate n M 0 r c hr hc

theorem tabulate_shape (n : Nat) (M : Mat α) :
    (tabulate n M).length = n ∧ ∀ row ∈ tabulate n M, row.length = n := by
  simp [tabulate]

theorem nrvs_eq_length (r : RVs α) : nrvs r = (names r).length := by
  simp [nrvs, names, List.length_flatMap]

theorem lookupIdx_some {r : RVs α} {a : String} (h : a ∈ names r) : ∃ i, lookupIdx r a = some i := by
  obtain ⟨d, hd, ha⟩ := mem_names.mp h
  exact ⟨_, List.findIdx?_eq_some_of_exists ⟨d, hd, List.contains_iff_mem.mpr ha⟩⟩

theorem getCov_cons {d : Dist α} {r : RVs α} {a b : String} (ha : a ∈ names (d :: r))
    (hb : b ∈ names (d :: r)) :
    getCov (d :: r) a b =
      if a ∈ d.names then (if b ∈ d.names then d.getCov a b else .ok 0)
      else if b ∈ d.names then .ok 0 else getCov r a b := by
  rw [names_cons, List.mem_append] at ha hb
  rw [getCov, getCov, lookupIdx_cons, lookupIdx_cons]
  by_cases had : a ∈ d.names <;> by_cases hbd : b ∈ d.names
  · simp [had, hbd]
  · obtain ⟨j, hj⟩ := lookupIdx_some (hb.resolve_left hbd)
    simp [had, hbd, hj]
  · obtain ⟨i, hi⟩ := lookupIdx_some (ha.resolve_left had)
    simp [had, hbd, hi]
  · obtain ⟨i, hi⟩ := lookupIdx_some (ha.resolve_left had)
    obtain ⟨j, hj⟩ := lookupIdx_some (hb.resolve_left hbd)
    simp [had, hbd, hi, hj]

theorem dist_getCov_idx {d : Dist α} (hs : Square d) {a b : String} (ha : a ∈ d.names) (hb : b ∈ d.names) :
    d.getCov a b = .ok (ent d.var (d.names.idxOf a) (d.names.idxOf b)) := by
  by_cases hj : d.joint = true
  · exact getCov_joint hj ha hb
  · rw [Square, if_neg hj] at hs
    obtain ⟨n, hn⟩ := List.length_eq_one_iff.mp hs
    rw [hn] at ha hb
    cases List.mem_singleton.mp ha
    cases List.mem_singleton.mp hb
    simp [Dist.getCov, hj, hn]

theorem blockDiag_getCov (rvs : RVs α) (hs : ∀ d ∈ rvs, Square d) {a b : String}
    (ha : a ∈ names rvs) (hb : b ∈ names rvs) :
    getCov rvs a b = .ok (blockDiagF (rvs.map blockOf) ((names rvs).idxOf a) ((names rvs).idxOf b) 0) := by
  induction rvs with
  | nil => cases ha
  | cons d r ih =>
    rw [getCov_cons ha hb, names_cons, List.idxOf_append, List.idxOf_append, List.map_cons, blockDiagF, blockOf]
    rw [names_cons, List.mem_append] at ha hb
    by_cases had : a ∈ d.names <;> by_cases hbd : b ∈ d.names <;> simp only [had, hbd, if_true, if_false]
    · rw [if_pos ⟨List.idxOf_lt_length_of_mem had, List.idxOf_lt_length_of_mem hbd⟩]
      exact dist_getCov_idx (hs d List.mem_cons_self) had hbd
    · rw [if_neg (by omega), if_pos (.inl (List.idxOf_lt_length_of_mem had))]
    · rw [if_neg (by omega), if_pos (.inr (List.idxOf_lt_length_of_mem hbd))]
    · rw [if_neg (by omega), if_neg (by omega), Nat.add_sub_cancel, Nat.add_sub_cancel]
      exact ih (fun e he => hs e (List.mem_cons_of_mem _ he)) (ha.resolve_left had) (hb.resolve_left hbd)

/-- Filtering the blocks by a property that each block shares with all of its names filters the
    names. -/
theorem names_filter_of_uniform {p : String → Bool} {q : Dist α → Bool} {L : RVs α}
    (h : ∀ k ∈ L, ∀ x ∈ k.names, p x = q k) : names (L.filter q) = (names L).filter p := by
  induction L with
  | nil => rfl
  | cons d L ih =>
    have hd := h d List.mem_cons_self
    rw [List.filter_cons, names_cons, List.filter_append, ← ih fun k hk => h k (List.mem_cons_of_mem _ hk)]
    cases hq : q d
    · have : d.names.filter p = [] :=
        List.filter_eq_nil_iff.mpr fun x hx => by rw [hd x hx, hq]; exact Bool.false_ne_true
      rw [if_neg Bool.false_ne_true, this]
      rfl
    · have : d.names.filter p = d.names := List.filter_eq_self.mpr fun x hx => by rw [hd x hx, hq]
      rw [if_pos rfl, names_cons, this]

theorem names_filter_sublist (p : Dist α → Bool) (L : RVs α) : (names (L.filter p)).Sublist (names L) := by
  induction L with
  | nil => exact List.Sublist.refl _
  | cons d L ih =>
    rw [List.filter_cons]
    split
    · rw [names_cons, names_cons]; exact List.Sublist.append (List.Sublist.refl _) ih
    · rw [names_cons]; exact List.Sublist.trans ih (List.sublist_append_right _ _)

def hasInd (inds : List String) (k : Dist α) : Bool := k.names.any (inds.contains ·)

theorem unjoin_uniform {r : RVs α} (hs : Singles r) (inds : List String) :
    ∀ k ∈ unjoin r inds, ∀ x ∈ k.names, ∀ y ∈ k.names, inds.contains x = inds.contains y := by
  intro k hk x hx y hy
  obtain ⟨d, hd, hkd⟩ := mem_unjoin.mp hk
  rcases piece_names (hs d hd) k hkd with ⟨a, _, h⟩ | h
  · rw [h] at hx hy
    rw [List.mem_singleton.mp hx, List.mem_singleton.mp hy]
  · rw [h] at hx hy
    have hx := (List.mem_filter.mp hx).2
    have hy := (List.mem_filter.mp hy).2
    simp_all

theorem hasInd_eq {inds : List String} {k : Dist α}
    (hu : ∀ x ∈ k.names, ∀ y ∈ k.names, inds.contains x = inds.contains y) :
    ∀ x ∈ k.names, inds.contains x = hasInd inds k := by
  intro x hx
  rw [hasInd, Bool.eq_iff_iff, List.any_eq_true]
  exact ⟨fun h => ⟨x, hx, h⟩, fun ⟨y, hy, h⟩ => (hu x hx y hy).trans h⟩

theorem firstNameIn_eq {ind : List String} {k : Dist α}
    (hu : ∀ x ∈ k.names, ∀ y ∈ k.names, ind.contains x = ind.contains y) :
    ∀ x ∈ k.names, ind.contains x = firstNameIn ind k := by
  intro x hx
  unfold firstNameIn
  split
  · rename_i n l hn
    exact hu x hx n (hn ▸ List.mem_cons_self)
  · rename_i hn
    rw [hn] at hx
    cases hx

/-- Unjoining does not reorder the names that are not unjoined. -/
theorem filter_names_unjoin (p : String → Bool) (r : RVs α) (rem : List String)
    (h : ∀ x ∈ names r, rem.contains x = !p x) :
    (names (unjoin r rem)).filter p = (names r).filter p := by
  induction r with
  | nil => rfl
  | cons d r ih =>
    rw [names_cons] at h
    rw [unjoin_cons, names_append, names_cons, List.filter_append, List.filter_append,
      ih fun x hx => h x (List.mem_append_right _ hx), unjoinDist_names]
    congr 1
    split
    · rw [List.filter_append, List.filter_filter, List.filter_filter,
        List.filter_eq_nil_iff.mpr fun x hx => by
          rw [h x (List.mem_append_left _ hx), Bool.and_not_self]; exact Bool.false_ne_true,
        List.nil_append]
      exact List.filter_congr fun x hx => by rw [h x (List.mem_append_left _ hx), Bool.not_not, Bool.and_self]
    · rfl

theorem getitem_names_of_singles (r : RVs α) (hs : Singles r) (ind : List String) :
    names (getitem r ind) = (names r).filter (ind.contains ·) := by
  have hrem : ∀ x ∈ names r, ((names r).filter fun n => !ind.contains n).contains x = !ind.contains x := by
    intro x hx
    by_cases h : x ∈ ind <;> simp [h, hx]
  rw [getitem, names_filter_of_uniform (p := (ind.contains ·)), filter_names_unjoin _ _ _ hrem]
  intro k hk
  apply firstNameIn_eq
  intro x hx y hy
  obtain ⟨d, hd, hkd⟩ := mem_unjoin.mp hk
  have hx' := hrem x (mem_names.mpr ⟨d, hd, piece_names_subset hkd hx⟩)
  have hy' := hrem y (mem_names.mpr ⟨d, hd, piece_names_subset hkd hy⟩)
  rw [unjoin_uniform hs _ k hk x hx y hy, hy'] at hx'
  simpa using hx'.symm

theorem getitem_getCov_of_singles {r : RVs α} (hn : (names r).Nodup) (hs : Singles r) (ind : List String) {a b : String}
    (ha : a ∈ names r) (hb : b ∈ names r) (hai : a ∈ ind) (hbi : b ∈ ind) :
    getCov (getitem r ind) a b = getCov r a b := by
  have hnames := getitem_names_of_singles r hs ind
  have hn' : (names (getitem r ind)).Nodup := hnames ▸ hn.sublist List.filter_sublist
  obtain ⟨k, hk, hak⟩ := mem_names.mp (hnames ▸ List.mem_filter.mpr ⟨ha, List.contains_iff_mem.mpr hai⟩)
  obtain ⟨k', hk', hbk'⟩ := mem_names.mp (hnames ▸ List.mem_filter.mpr ⟨hb, List.contains_iff_mem.mpr hbi⟩)
  rw [getCov_shared (unjoin_nodup hn _) hn' (List.mem_filter.mp hk).1 hk (List.mem_filter.mp hk').1 hk' hak hbk']
  apply unjoin_getCov_kept hn hs _ ha hb <;> simp [*]

theorem getitem_square {r : RVs α} (hq : ∀ d ∈ r, Square d) (ind : List String) :
    ∀ k ∈ getitem r ind, Square k := by
  intro k hk
  obtain ⟨d, hd, hkd⟩ := mem_unjoin.mp (List.mem_filter.mp hk).1
  exact unjoinDist_square (hq d hd) k hkd

theorem getitem_sym {r : RVs α} (hq : SymBlocks r) (ind : List String) : SymBlocks (getitem r ind) := by
  intro k hk
  obtain ⟨d, hd, hkd⟩ := mem_unjoin.mp (List.mem_filter.mp hk).1
  exact unjoinDist_sym (hq d hd) k hkd

theorem singles_of_square {r : RVs α} (hq : ∀ d ∈ r, Square d) : Singles r := by
  intro d hd hj
  have := hq d hd
  rw [Square, hj, if_neg Bool.false_ne_true] at this
  exact List.length_eq_one_iff.mp this

/-- The placement loop keeps the distributions without a joined name and puts the joined block once,
    if some distribution has a joined name. -/
theorem placeJoined_perm (inds : List String) (jd : Dist α) (U : RVs α) (first : Bool) :
    (placeJoined inds jd U first).Perm
      ((if first && U.any (hasInd inds) then [jd] else []) ++ U.filter (fun k => !hasInd inds k)) := by
  induction U generalizing first with
  | nil => simp [placeJoined]
  | cons d U ih =>
    rw [placeJoined, ← hasInd, List.any_cons, List.filter_cons]
    cases hd : hasInd inds d
    · simpa using ((ih first).cons d).trans List.perm_middle.symm
    · cases first
      · simpa using ih false
      · simpa using (ih false).cons jd

theorem join_ok {r : RVs α} {inds : List String} {f : Fill α} {res : JoinResult α}
    (h : join r inds f = .ok res) (hne : inds ≠ []) :
    (∀ a ∈ inds, a ∈ names r) ∧
    ∃ jd : Dist α, jd.names = names (getitem r inds) ∧ jd.joint = true ∧
      jd.var = (joinMatrix (getitem r inds) f).1 ∧
      res.rvs = placeJoined inds jd (unjoin r inds) true := by
  unfold join at h
  by_cases hk : (inds.any fun a => !(names r).contains a) = true
  · rw [if_pos hk] at h
    cases h
  · rw [if_neg hk, if_neg fun e => hne (List.length_eq_zero_iff.mp e)] at h
    by_cases hm : (!(joinMatrix (getitem r inds) f).2.2) = true
    · simp only [hm, if_true] at h
      cases h
    · simp only [hm] at h
      cases hg : getitem r inds with
      | nil => simp [hg] at h
      | cons j0 rest =>
        simp only [hg, Bool.false_eq_true, if_false] at h
        cases h
        exact ⟨by simpa using hk, _, rfl, rfl, rfl, rfl⟩

/-- Structure of a successful `join` of at least one variable (one name per normal distribution,
    `Singles r`): the joined block has the joined names in their original order, it is in the result
    together with every distribution of the unjoined collection that has no joined name, and the
    names are permuted. -/
theorem join_spec {r : RVs α} (hs : Singles r) {inds : List String} {f : Fill α} {res : JoinResult α}
    (h : join r inds f = .ok res) (hne : inds ≠ []) :
    ∃ jd : Dist α, jd.names = (names r).filter (inds.contains ·) ∧ jd.joint = true ∧
      jd.var = (joinMatrix (getitem r inds) f).1 ∧ jd ∈ res.rvs ∧
      (∀ k ∈ unjoin r inds, hasInd inds k = false → k ∈ res.rvs) ∧
      (names res.rvs).Perm (names r) := by
  obtain ⟨hall, jd, hnames, hj, hvar, hres⟩ := join_ok h hne
  rw [getitem_names_of_singles r hs] at hnames
  have hperm := hres ▸ placeJoined_perm inds jd (unjoin r inds) true
  have hany : (unjoin r inds).any (hasInd inds) = true := by
    obtain ⟨a, hai⟩ := List.exists_mem_of_ne_nil _ hne
    obtain ⟨k, hk, hak⟩ := mem_names.mp ((unjoin_names_perm r inds).mem_iff.mpr (hall a hai))
    exact List.any_eq_true.mpr ⟨k, hk, List.any_eq_true.mpr ⟨a, hak, List.contains_iff_mem.mpr hai⟩⟩
  rw [hany] at hperm
  refine ⟨jd, hnames, hj, hvar, hperm.mem_iff.mpr (by simp), fun k hk ho => hperm.mem_iff.mpr (by simp [hk, ho]), ?_⟩
  refine (hperm.flatMap_right (·.names)).trans ?_
  have hu : ∀ k ∈ unjoin r inds, ∀ x ∈ k.names, (!inds.contains x) = !hasInd inds k :=
    fun k hk x hx => congrArg _ (hasInd_eq (unjoin_uniform hs inds k hk) x hx)
  rw [Bool.and_self, if_pos rfl, List.flatMap_append, List.flatMap_singleton]
  change (jd.names ++ names ((unjoin r inds).filter _)).Perm _
  rw [names_filter_of_uniform hu, hnames]
  exact ((List.Perm.refl _).append ((unjoin_names_perm r inds).filter _)).trans
    (by simpa using List.filter_append_perm (inds.contains ·) (names r))

theorem piece_out {r : RVs α} (hs : Singles r) (inds : List String) {a : String} (ha : a ∈ names r)
    (hai : a ∉ inds) : ∃ k ∈ unjoin r inds, a ∈ k.names ∧ hasInd inds k = false := by
  obtain ⟨k, hk, hak⟩ := mem_names.mp ((unjoin_names_perm r inds).mem_iff.mpr ha)
  exact ⟨k, hk, hak, by simpa [hai] using (hasInd_eq (unjoin_uniform hs inds k hk) a hak).symm⟩

/-- `get_covariance` of two joined variables before and after `join`: entry `(i, j)` of the
    block-diagonal matrix of the selected collection, and entry `(i, j)` of the joined matrix. -/
theorem join_getCov_inside {r : RVs α} (hn : (names r).Nodup) (hq : ∀ d ∈ r, Square d)
    {inds : List String} {f : Fill α} {res : JoinResult α} (h : join r inds f = .ok res)
    {a b : String} (ha : a ∈ names r) (hb : b ∈ names r) (hai : a ∈ inds) (hbi : b ∈ inds) :
    ∃ i j, i < nrvs (getitem r inds) ∧ j < nrvs (getitem r inds) ∧ (i = j ↔ a = b) ∧
      getCov r a b = .ok (calcMat (getitem r inds) i j) ∧
      getCov res.rvs a b = .ok (ent (joinMatrix (getitem r inds) f).1 i j) := by
  have hs := singles_of_square hq
  obtain ⟨jd, hnames, hj, hvar, hjd, _, hp⟩ := join_spec hs h (List.ne_nil_of_mem hai)
  have hJ := getitem_names_of_singles r hs inds
  have haJ : a ∈ names (getitem r inds) := hJ ▸ List.mem_filter.mpr ⟨ha, List.contains_iff_mem.mpr hai⟩
  have hbJ : b ∈ names (getitem r inds) := hJ ▸ List.mem_filter.mpr ⟨hb, List.contains_iff_mem.mpr hbi⟩
  have hqJ := getitem_square hq inds
  refine ⟨(names (getitem r inds)).idxOf a, (names (getitem r inds)).idxOf b,
    nrvs_eq_length (getitem r inds) ▸ List.idxOf_lt_length_of_mem haJ,
    nrvs_eq_length (getitem r inds) ▸ List.idxOf_lt_length_of_mem hbJ, ⟨fun e => ?_, fun e => e ▸ rfl⟩, ?_, ?_⟩
  · have := getElem?_idxOf hbJ
    rw [← e, getElem?_idxOf haJ] at this
    exact Option.some.inj this
  · rw [← getitem_getCov_of_singles hn hs inds ha hb hai hbi, calcMat_apply _ hqJ]
    exact blockDiag_getCov _ hqJ haJ hbJ
  · rw [← hJ] at hnames
    rw [getCov_of_mem (hp.nodup_iff.mpr hn) hjd (hnames ▸ haJ) (hnames ▸ hbJ),
      getCov_joint hj (hnames ▸ haJ) (hnames ▸ hbJ), hnames, hvar]

theorem ent_fillMat_tabulate (fill : α) (n : Nat) (F : Mat α) (i j : Nat) (hi : i < n) (hj : j < n) :
    ent (fillMat fill (tabulate n F)) i j = if i ≠ j ∧ F i j = 0 then fill else F i j := by
  simp [ent, fillMat, tabulate, List.getD_eq_getElem?_getD, hi, hj]

def SymM (M : Mat α) : Prop := ∀ r c, M r c = M c r

/-- One step of the `name_template` loop. -/
def nameStep (nm : Nat → Nat → Option α) (acc : Mat α × List (Nat × Nat)) (rc : Nat × Nat) :
    Mat α × List (Nat × Nat) :=
  if acc.1 rc.1 rc.2 = 0 ∧ rc.1 > rc.2 then
    let s := (nm rc.2 rc.1).getD 0
    (setM (setM acc.1 rc.1 rc.2 s) rc.2 rc.1 s, acc.2 ++ [rc])
  else acc

theorem nameMat_eq (nm : Nat → Nat → Option α) (n : Nat) (M : Mat α) :
    nameMat nm n M = (pairs n).foldl (nameStep nm) (M, []) := rfl

theorem setM_pair (A : Mat α) (i j : Nat) (s : α) (r c : Nat) :
    setM (setM A i j s) j i s r c = if (r = i ∧ c = j) ∨ (r = j ∧ c = i) then s else A r c := by
  simp only [setM]
  grind

theorem nameStep_inv (nm : Nat → Nat → Option α) (M : Mat α) (acc : Mat α × List (Nat × Nat)) (rc : Nat × Nat)
    (h1 : SymM acc.1) (h2 : ∀ r c, M r c ≠ 0 → acc.1 r c = M r c) :
    SymM (nameStep nm acc rc).1 ∧ ∀ r c, M r c ≠ 0 → (nameStep nm acc rc).1 r c = M r c := by
  unfold nameStep
  split
  · rename_i hc
    dsimp only
    refine ⟨fun r c => ?_, fun r c hne => ?_⟩
    · rw [setM_pair, setM_pair, h1 r c]
      grind
    · -- a non-zero entry of `M` is non-zero in `acc`: it is neither the zero being named nor its mirror image
      rw [setM_pair, if_neg, h2 r c hne]
      rw [← h2 r c hne] at hne
      rintro (⟨rfl, rfl⟩ | ⟨rfl, rfl⟩)
      · exact hne hc.1
      · exact hne ((h1 _ _).trans hc.1)
  · exact ⟨h1, h2⟩

theorem blockDiagF_sym (bs : List (Nat × List (List α))) (h : ∀ b ∈ bs, ∀ i j, ent b.2 i j = ent b.2 j i)
    (r c : Nat) (z : α) : blockDiagF bs r c z = blockDiagF bs c r z := by
  induction bs generalizing r c with
  | nil => rfl
  | cons b bs ih =>
    have hV := h b List.mem_cons_self
    have ih' := ih fun b hb => h b (List.mem_cons_of_mem _ hb)
    grind [blockDiagF]

theorem calcMat_sym (r : RVs α) (hq : ∀ d ∈ r, Square d) (hs : SymBlocks r) : SymM (calcMat r) := by
  intro i j
  rw [calcMat_apply r hq, calcMat_apply r hq]
  apply blockDiagF_sym
  intro b hb
  obtain ⟨d, hd, rfl⟩ := List.mem_map.mp hb
  exact hs d hd

theorem firstDup_none_iff (seen ns : List String) :
    firstDup seen ns = none ↔ ns.Nodup ∧ ∀ x ∈ ns, x ∉ seen := by
  induction ns generalizing seen with
  | nil => simp [firstDup]
  | cons x l ih =>
    rw [firstDup]
    grind

theorem create_eq (dists : RVs α) :
    create dists = if (names dists).Nodup then .ok dists else .error .valueError := by
  have := firstDup_none_iff [] (names dists)
  unfold create
  cases h : firstDup [] (names dists) with
  | none => rw [if_pos (this.mp h).1]
  | some x => rw [if_neg fun hn => by simp [this.mpr ⟨hn, by simp⟩] at h]

theorem create_ok_eq (dists r : RVs α) (h : create dists = .ok r) : r = dists ∧ (names dists).Nodup := by
  rw [create_eq] at h
  split at h
  · cases h
    exact ⟨rfl, ‹_›⟩
  · cases h

theorem names_map_subs (fe : α → α) (fn : String → String) (r : RVs α) :
    names (r.map (subsDist fe fn)) = (names r).map fn := by
  induction r with
  | nil => rfl
  | cons d r ih => rw [List.map_cons, names_cons, names_cons, List.map_append, ih]; rfl

theorem subs_ok {fe : α → α} {fn : String → String} {r res : RVs α} (h : subs fe fn r = .ok res) :
    res = r.map (subsDist fe fn) ∧ (names res).Nodup := by
  obtain ⟨h1, h2⟩ := create_ok_eq _ _ h
  exact ⟨h1, h1 ▸ h2⟩

theorem idxOf_map_inj (fn : String → String) (ns : List String) (a : String)
    (hinj : ∀ x ∈ ns, fn x = fn a → x = a) : (ns.map fn).idxOf (fn a) = ns.idxOf a := by
  induction ns with
  | nil => rfl
  | cons x l ih =>
    rw [List.map_cons, List.idxOf_cons, List.idxOf_cons, ih fun y hy => hinj y (List.mem_cons_of_mem _ hy)]
    by_cases hx : x = a
    · subst hx
      simp
    · rw [beq_false_of_ne hx, beq_false_of_ne fun h => hx (hinj x List.mem_cons_self h)]

theorem ent_map (fe : α → α) (M : List (List α)) (i j : Nat) (hi : i < M.length)
    (hj : j < (M.getD i []).length) : ent (M.map (·.map fe)) i j = fe (ent M i j) := by
  simp only [ent, List.getD_eq_getElem?_getD] at hj ⊢
  simp [hi] at hj ⊢
  simp [hj]

theorem subsDist_square (fe : α → α) (fn : String → String) {d : Dist α} (h : Square d) :
    Square (subsDist fe fn d) := by
  have : matCols (d.var.map (·.map fe)) = matCols d.var := by cases d.var <;> simp [matCols]
  simpa [Square, subsDist, matRows, this] using h

theorem distGetitem_ok {d : Dist α} {index : List String} {res : Dist α} (h : distGetitem d index = .ok res) :
    res = d ∨ res = pickDist d (index.eraseDups.contains ·) := by
  unfold distGetitem at h
  split at h
  · cases h
  split at h
  · cases h
  split at h <;> cases h
  · exact .inl rfl
  · exact .inr rfl

theorem two_mul_tri (n : Nat) : 2 * (n * (n + 1) / 2) = n * (n + 1) := by
  have h : n * (n + 1) % 2 = 0 := by
    rcases Nat.mod_two_eq_zero_or_one n with h | h <;> simp [Nat.mul_mod, Nat.add_mod, h]
  omega

theorem sqrt_mul_succ (n : Nat) : Nat.sqrt (n * (n + 1)) = n := by
  have h1 := Nat.sqrt_le (n * (n + 1))
  have h2 := Nat.lt_succ_sqrt (n * (n + 1))
  generalize Nat.sqrt (n * (n + 1)) = s at *
  rcases Nat.lt_trichotomy s n with h | h | h
  · exfalso
    have : (s + 1) * (s + 1) ≤ n * n := Nat.mul_le_mul h h
    have : n * n ≤ n * (n + 1) := Nat.mul_le_mul_left n (Nat.le_succ n)
    simp only [Nat.succ_eq_add_one] at h2
    omega
  · exact h
  · exfalso
    have : (n + 1) * (n + 1) ≤ s * s := Nat.mul_le_mul h h
    have : n * (n + 1) < (n + 1) * (n + 1) := by
      exact Nat.mul_lt_mul_of_lt_of_le (Nat.lt_succ_self n) (Nat.le_refl (n + 1)) (Nat.succ_pos n)
    omega

theorem map_zip_map_zip {A B C : Type} (f : A × B → C) (g : C × B → A) (l : List A) (w : List B)
    (hlen : l.length ≤ w.length) (h : ∀ x ∈ l, ∀ y ∈ w, g (f (x, y), y) = x) :
    (((l.zip w).map f).zip w).map g = l := by
  induction l generalizing w with
  | nil => rfl
  | cons x l ih =>
    cases w with
    | nil => cases hlen
    | cons y w =>
      rw [List.zip_cons_cons, List.map_cons, List.zip_cons_cons, List.map_cons,
        h x List.mem_cons_self y List.mem_cons_self,
        ih w (Nat.le_of_succ_le_succ hlen) fun x' hx y' hy =>
          h x' (List.mem_cons_of_mem _ hx) y' (List.mem_cons_of_mem _ hy)]

theorem scale_cancel (x si vj : Rat) (hsi : si ≠ 0) (hvj : vj ≠ 0) :
    si * (if x = 0 then 0 else x / (si * vj)) * vj = x := by
  split
  · simp [*]
  · grind

theorem nearLoop_spec {β : Type} (ops : NearOps β) (A : β) (fuel : Nat) (A3 : β) (k : Nat) (R : β) (p : NearPath)
    (h : nearLoop ops A fuel A3 k = some (R, p)) : ops.isPsd R = true ∧ ∃ k', p = .bumped k' := by
  fun_induction nearLoop ops A fuel A3 k with
  | case1 => cases h
  | case2 fuel A3 k hp => cases h; exact ⟨hp, k, rfl⟩
  | case3 _ _ _ _ ih => exact ih h

theorem nearLoop_path {β : Type} (ops : NearOps β) (A : β) (fuel : Nat) (A3 : β) (k : Nat) (R : β) (p : NearPath)
    (h : nearLoop ops A fuel A3 k = some (R, p)) : ∃ k', p = .bumped k' :=
  (nearLoop_spec ops A fuel A3 k R p h).2

section assignments
variable {κ V : Type} [DecidableEq κ]

theorem foldl_assign_init (a : κ) (l : List (κ × V)) : ∀ acc : Option V,
    l.foldl (fun acc p => if p.1 = a then some p.2 else acc) acc = (lastAssigned l a).or acc := by
  unfold lastAssigned
  induction l with
  | nil => intro acc; simp
  | cons p t ih =>
    intro acc
    rw [List.foldl_cons, List.foldl_cons, ih, ih (if p.1 = a then some p.2 else none)]
    by_cases h : p.1 = a <;> simp only [h, if_true, if_false] <;>
      cases (List.foldl (fun acc p => if p.1 = a then some p.2 else acc) none t) <;> rfl

theorem lastAssigned_cons (p : κ × V) (t : List (κ × V)) (a : κ) :
    lastAssigned (p :: t) a = (lastAssigned t a).or (if p.1 = a then some p.2 else none) :=
  foldl_assign_init a t _

/-- Either no assignment writes under `a`, or what is left under `a` is the value of one that does. -/
theorem lastAssigned_cases (asg : List (κ × V)) (a : κ) :
    (lastAssigned asg a = none ∧ ∀ p ∈ asg, p.1 ≠ a) ∨ ∃ v, lastAssigned asg a = some v ∧ (a, v) ∈ asg := by
  induction asg with
  | nil => exact .inl ⟨rfl, fun _ h => nomatch h⟩
  | cons p t ih =>
    rw [lastAssigned_cons]
    rcases ih with ⟨h0, hno⟩ | ⟨v, hv, hm⟩
    · rw [h0]
      by_cases hp : p.1 = a
      · exact .inr ⟨p.2, if_pos hp, hp ▸ List.mem_cons_self⟩
      · exact .inl ⟨if_neg hp, fun q hq => (List.mem_cons.mp hq).elim (· ▸ hp) (hno q)⟩
    · exact .inr ⟨v, by rw [hv]; rfl, List.mem_cons_of_mem _ hm⟩

theorem lastAssigned_of_consistent (asg : List (κ × V)) (a : κ) (x : V)
    (hc : ∀ p ∈ asg, p.1 = a → p.2 = x) (hex : ∃ p ∈ asg, p.1 = a) :
    lastAssigned asg a = some x := by
  rcases lastAssigned_cases asg a with ⟨_, hno⟩ | ⟨v, hv, hm⟩
  · obtain ⟨p, hp, hpa⟩ := hex
    exact absurd hpa (hno p hp)
  · exact hv.trans (congrArg some (hc _ hm rfl))

theorem lastAssigned_none (asg : List (κ × V)) (a : κ) (h : ∀ p ∈ asg, p.1 ≠ a) :
    lastAssigned asg a = none := by
  rcases lastAssigned_cases asg a with ⟨h0, _⟩ | ⟨v, _, hm⟩
  · exact h0
  · exact absurd rfl (h _ hm)

theorem lookup_filter_append {V : Type} (vals : List (String × V)) (t s : String) (v : V) :
    ((vals.filter (·.1 ≠ t)) ++ [(t, v)]).lookup s = if t = s then some v else vals.lookup s := by
  induction vals with
  | nil => grind
  | cons p rest ih =>
    rw [List.filter_cons, List.lookup_cons]
    by_cases hk : p.1 = t
    · rw [if_neg (by simpa using hk), ih]
      split
      · rfl
      · rename_i hts
        rw [beq_false_of_ne fun e => hts (e.trans hk).symm]
    · rw [if_pos (by simpa using hk), List.cons_append, List.lookup_cons, ih]
      cases hs : s == p.1
      · rfl
      · exact (if_neg fun e => hk ((eq_of_beq hs).symm.trans e.symm)).symm

end assignments

section sdcorr
variable {sqrt : Rat → Rat} {vals : Dict} {rvs : RVs Entry} {F : Dict} {d : Dist Entry}

theorem applyF_eq (f : Dict) (A : List (String × Rat)) (s : String) :
    applyF f A s = (lastAssigned A s).or (f s) := by
  induction A generalizing f with
  | nil => rfl
  | cons p A ih =>
    rw [applyF, List.foldl_cons, ← applyF, ih, lastAssigned_cons, fupd]
    have : p.1 = s ↔ s = p.1 := eq_comm
    cases lastAssigned A s <;> by_cases h : s = p.1 <;> simp [h, this]

theorem agree_spec {A : List (String × Rat)} (h : agree A = true) :
    ∀ p ∈ A, ∀ q ∈ A, p.1 = q.1 → p.2 = q.2 := by
  intro p hp q hq hpq
  simp only [agree, List.all_eq_true] at h
  simpa [hpq] using h p hp q hq

theorem mem_positions {i j : Nat} : (i, j) ∈ positions d ↔ i < matRows d.var ∧ j < matCols d.var := by
  simp [positions, List.mem_flatMap]

theorem symAt_ent {i j : Nat} {s : String} : symAt d i j = some s ↔ ent d.var i j = .sym s := by
  unfold symAt
  cases ent d.var i j <;> simp

theorem valAt_sym {D : Dict} {i j : Nat} {s : String} (h : symAt d i j = some s) :
    valAt D d i j = (D s).getD 0 := by
  simp [valAt, symAt_ent.mp h]

theorem mem_filterMap_pair {ι A B : Type} (l : List ι) (g : ι → Option A) (f : ι → B) (p : A × B) :
    p ∈ l.filterMap (fun x => (g x).map fun s => (s, f x)) ↔ ∃ x ∈ l, g x = some p.1 ∧ f x = p.2 := by
  obtain ⟨a, b⟩ := p
  simp only [List.mem_filterMap, Option.map_eq_some_iff, Prod.mk.injEq]
  exact ⟨fun ⟨x, hx, _, hg, e, hf⟩ => ⟨x, hx, e ▸ hg, hf⟩, fun ⟨x, hx, hg, hf⟩ => ⟨x, hx, a, hg, rfl, hf⟩⟩

theorem mem_normal_asg (e : Entry) (X : Dict) (g : Rat → Rat) (p : String × Rat) :
    p ∈ (match e with
      | .sym s => if (X s).isSome then [(s, g ((X s).getD 0))] else []
      | .num _ => []) ↔ ∃ a, e = .sym p.1 ∧ X p.1 = some a ∧ g a = p.2 := by
  cases e with
  | num q => simp
  | sym t => cases h : X t <;> simp [h, Prod.ext_iff] <;> grind

theorem mem_sdcorrAsg {p : String × Rat} : p ∈ sdcorrAsg sqrt vals d ↔
    if d.joint then ∃ x ∈ positions d, symAt d x.1 x.2 = some p.1 ∧ fwdVal sqrt vals d x.1 x.2 = p.2
    else ∃ a, ent d.var 0 0 = .sym p.1 ∧ vals p.1 = some a ∧ sqrt a = p.2 := by
  unfold sdcorrAsg
  split
  · exact mem_filterMap_pair ..
  · exact mem_normal_asg ..

theorem mem_sdcorrInvAsg {D : Dict} {p : String × Rat} : p ∈ sdcorrInvAsg D d ↔
    if d.joint then ∃ x ∈ positions d, symAt d x.1 x.2 = some p.1 ∧ invVal D d x.1 x.2 = p.2
    else ∃ a, ent d.var 0 0 = .sym p.1 ∧ D p.1 = some a ∧ a * a = p.2 := by
  unfold sdcorrInvAsg
  split
  · exact mem_filterMap_pair ..
  · exact mem_normal_asg _ D (fun a => a * a) p

theorem sdcorr_ok (h : sdcorr sqrt vals rvs = .ok F) :
    F = applyF vals (rvs.flatMap (sdcorrAsg sqrt vals)) ∧ ∀ d ∈ rvs, sdcorrErr vals d = none := by
  unfold sdcorr at h
  cases hf : rvs.findSome? (sdcorrErr vals) with
  | some e => rw [hf] at h; cases h
  | none =>
    rw [hf] at h
    cases h
    exact ⟨rfl, List.findSome?_eq_none_iff.mp hf⟩

theorem sdcorr_assigned (h : sdcorr sqrt vals rvs = .ok F)
    (hag : agree (rvs.flatMap (sdcorrAsg sqrt vals)) = true) {p : String × Rat}
    (hp : p ∈ rvs.flatMap (sdcorrAsg sqrt vals)) : F p.1 = some p.2 := by
  rw [(sdcorr_ok h).1, applyF_eq,
    lastAssigned_of_consistent _ _ p.2 (fun q hq e => agree_spec hag q hq p hp e) ⟨p, hp, rfl⟩]
  rfl

theorem sdcorr_value_joint (h : sdcorr sqrt vals rvs = .ok F)
    (hag : agree (rvs.flatMap (sdcorrAsg sqrt vals)) = true) (hd : d ∈ rvs) (hj : d.joint = true)
    {i j : Nat} (hp : (i, j) ∈ positions d) {s : String} (hs : symAt d i j = some s) :
    F s = some (fwdVal sqrt vals d i j) :=
  sdcorr_assigned h hag (p := (s, _)) (List.mem_flatMap.mpr ⟨d, hd, mem_sdcorrAsg.mpr (by
    rw [if_pos hj]; exact ⟨(i, j), hp, hs, rfl⟩)⟩)

/-- Shape and square-root hypotheses of the inverse theorem. -/
structure SdOk (sqrt : Rat → Rat) (vals : Dict) (rvs : RVs Entry) : Prop where
  square : ∀ d ∈ rvs, d.joint = true → matRows d.var = matCols d.var
  sq_joint : ∀ d ∈ rvs, d.joint = true → ∀ i, i < matRows d.var →
    sqrt (valAt vals d i i) * sqrt (valAt vals d i i) = valAt vals d i i ∧ sqrt (valAt vals d i i) ≠ 0
  sq_normal : ∀ d ∈ rvs, d.joint = false → ∀ s a, ent d.var 0 0 = .sym s → vals s = some a → sqrt a * sqrt a = a

/-- Without an exception, every position of a joint block holds a parameter that has a value. -/
theorem err_none_joint (hj : d.joint = true) (h : sdcorrErr vals d = none) {i j : Nat}
    (hp : (i, j) ∈ positions d) : ∃ s, symAt d i j = some s ∧ vals s = some (valAt vals d i j) := by
  simp only [sdcorrErr, hj, if_true] at h
  by_cases h1 : ((positions d).any fun p => !hasVal vals d p.1 p.2) = true
  · rw [if_pos h1] at h
    cases h
  · rw [if_neg h1] at h
    by_cases h2 : ((positions d).any fun p => (symAt d p.1 p.2).isNone) = true
    · rw [if_pos h2] at h
      cases h
    · simp only [List.any_eq_true, not_exists, not_and] at h1 h2
      have a1 := h1 (i, j) hp
      have a2 := h2 (i, j) hp
      cases hs : symAt d i j with
      | none => simp [hs] at a2
      | some s =>
        have he := symAt_ent.mp hs
        simp only [hasVal, he] at a1
        simp only [valAt, he]
        cases hv : vals s with
        | none => simp [hv] at a1
        | some a => exact ⟨s, rfl, by simp [hv]⟩

theorem asg_name_has_val (herr : sdcorrErr vals d = none) {p : String × Rat}
    (hp : p ∈ sdcorrAsg sqrt vals d) : (vals p.1).isSome = true := by
  rw [mem_sdcorrAsg] at hp
  split at hp
  · obtain ⟨⟨i, j⟩, hpos, hs, _⟩ := hp
    obtain ⟨s, hs', hv⟩ := err_none_joint ‹_› herr hpos
    cases hs.symm.trans hs'
    rw [hv]
    rfl
  · obtain ⟨a, _, hv, _⟩ := hp
    rw [hv]
    rfl

theorem inv_asg_restores (h : sdcorr sqrt vals rvs = .ok F)
    (hag : agree (rvs.flatMap (sdcorrAsg sqrt vals)) = true) (hok : SdOk sqrt vals rvs) (hd : d ∈ rvs) :
    ∀ p ∈ sdcorrInvAsg F d, vals p.1 = some p.2 := by
  obtain ⟨hF, herr⟩ := sdcorr_ok h
  intro p hp
  rw [mem_sdcorrInvAsg] at hp
  split at hp
  · rename_i hj
    obtain ⟨⟨i, j⟩, hpos, hs, hv⟩ := hp
    dsimp only at hs hv
    obtain ⟨hi, hjj⟩ := mem_positions.mp hpos
    have hsq := hok.square d hd hj
    have hpi : (i, i) ∈ positions d := mem_positions.mpr ⟨hi, by omega⟩
    have hpj : (j, j) ∈ positions d := mem_positions.mpr ⟨by omega, hjj⟩
    obtain ⟨s, hs', hvs⟩ := err_none_joint hj (herr d hd) hpos
    cases hs.symm.trans hs'
    obtain ⟨si, hsi, _⟩ := err_none_joint hj (herr d hd) hpi
    obtain ⟨sj, hsj, _⟩ := err_none_joint hj (herr d hd) hpj
    obtain ⟨qi, ni⟩ := hok.sq_joint d hd hj i hi
    obtain ⟨qj, nj⟩ := hok.sq_joint d hd hj j (by omega)
    rw [hvs, ← hv, invVal, valAt_sym (D := F) hs, valAt_sym (D := F) hsi, valAt_sym (D := F) hsj, sdcorr_value_joint h hag hd hj hpos hs,
      sdcorr_value_joint h hag hd hj hpi hsi, sdcorr_value_joint h hag hd hj hpj hsj]
    congr 1
    simp only [Option.getD_some]
    by_cases hij : i = j
    · subst hij
      simp only [fwdVal, ne_eq, not_true_eq_false, if_false]
      exact qi.symm
    · simp only [fwdVal, ne_eq, hij, not_false_eq_true, if_true, not_true_eq_false, if_false]
      rw [Rat.mul_comm _ (sqrt (valAt vals d i i))]
      exact (scale_cancel _ _ _ ni nj).symm
  · rename_i hj
    obtain ⟨a, he, hFs, hv⟩ := hp
    cases hvs : vals p.1 with
    | none =>
      -- a parameter without a value is assigned by no distribution, so `F` has none for it either
      rw [hF, applyF_eq, lastAssigned_none _ _ fun q hq e => by
        obtain ⟨e', he', hqe⟩ := List.mem_flatMap.mp hq
        simpa [e, hvs] using asg_name_has_val (herr e' he') hqe, hvs] at hFs
      cases hFs
    | some b =>
      have := sdcorr_assigned h hag (p := (p.1, sqrt b)) (List.mem_flatMap.mpr ⟨d, hd, mem_sdcorrAsg.mpr (by
        rw [if_neg hj]; exact ⟨b, he, hvs, rfl⟩)⟩)
      cases hFs.symm.trans this
      rw [← hv, hok.sq_normal d hd (by simpa using hj) p.1 b he hvs]

theorem inv_names_of_fwd (h : sdcorr sqrt vals rvs = .ok F)
    (hag : agree (rvs.flatMap (sdcorrAsg sqrt vals)) = true) {p : String × Rat}
    (hp : p ∈ rvs.flatMap (sdcorrAsg sqrt vals)) : ∃ q ∈ rvs.flatMap (sdcorrInvAsg F), q.1 = p.1 := by
  obtain ⟨d, hd, hpd⟩ := List.mem_flatMap.mp hp
  rw [mem_sdcorrAsg] at hpd
  by_cases hj : d.joint = true
  · rw [if_pos hj] at hpd
    obtain ⟨x, hpos, hs, _⟩ := hpd
    exact ⟨(p.1, invVal F d x.1 x.2), List.mem_flatMap.mpr ⟨d, hd, mem_sdcorrInvAsg.mpr (by
      rw [if_pos hj]; exact ⟨x, hpos, hs, rfl⟩)⟩, rfl⟩
  · rw [if_neg hj] at hpd
    obtain ⟨_, he, _, _⟩ := hpd
    exact ⟨(p.1, p.2 * p.2), List.mem_flatMap.mpr ⟨d, hd, mem_sdcorrInvAsg.mpr (by
      rw [if_neg hj]; exact ⟨p.2, he, sdcorr_assigned h hag hp, rfl⟩)⟩, rfl⟩

end sdcorr

theorem nodup_eraseDups (l : List String) : l.eraseDups.Nodup := by
  suffices h : ∀ n (l : List String), l.length ≤ n → l.eraseDups.Nodup from h l.length l (Nat.le_refl _)
  intro n
  induction n with
  | zero =>
    intro l hl
    have : l = [] := List.length_eq_zero_iff.mp (Nat.le_zero.mp hl)
    subst this; simp
  | succ n ih =>
    intro l hl
    cases l with
    | nil => simp
    | cons a as =>
      rw [List.eraseDups_cons, List.nodup_cons]
      refine ⟨?_, ih _ ?_⟩
      · rw [List.mem_eraseDups]
        simp
      · have := List.length_filter_le (fun b => !b == a) as
        simp at hl
        omega

theorem eraseDups_length_of_same_mem {l l' : List String} (h : ∀ x, x ∈ l ↔ x ∈ l') :
    l.eraseDups.length = l'.eraseDups.length := by
  apply Nat.le_antisymm
  · apply List.Nodup.length_le_of_subset (nodup_eraseDups l)
    intro x hx
    exact List.mem_eraseDups.mpr ((h x).mp (List.mem_eraseDups.mp hx))
  · apply List.Nodup.length_le_of_subset (nodup_eraseDups l')
    intro x hx
    exact List.mem_eraseDups.mpr ((h x).mpr (List.mem_eraseDups.mp hx))

theorem contains_congr {l l' : List String} (h : ∀ x, x ∈ l ↔ x ∈ l') (x : String) : l.contains x = l'.contains x := by
  rw [Bool.eq_iff_iff]
  simp only [List.contains_iff_mem, h]

theorem unjoinDist_congr {inds inds' : List String} (h : ∀ x, inds.contains x = inds'.contains x) (d : Dist α) :
    unjoinDist inds d = unjoinDist inds' d := by
  unfold unjoinDist
  simp only [h]

theorem unjoin_congr {inds inds' : List String} (h : ∀ x, inds.contains x = inds'.contains x) (r : RVs α) :
    unjoin r inds = unjoin r inds' := by
  unfold unjoin
  congr 1
  funext d
  exact unjoinDist_congr h d

theorem getitem_congr {ind ind' : List String} (h : ∀ x, ind.contains x = ind'.contains x) (r : RVs α) :
    getitem r ind = getitem r ind' := by
  unfold getitem
  have h1 : (names r).filter (fun n => !ind.contains n) = (names r).filter (fun n => !ind'.contains n) := by
    simp only [h]
  have h2 : firstNameIn (α := α) ind = firstNameIn ind' := by
    funext d
    unfold firstNameIn
    cases d.names with
    | nil => rfl
    | cons n _ => exact h n
  simp only [h1, h2]

theorem placeJoined_congr {inds inds' : List String} (h : ∀ x, inds.contains x = inds'.contains x) (jd : Dist α)
    (U : RVs α) (first : Bool) : placeJoined inds jd U first = placeJoined inds' jd U first := by
  induction U generalizing first with
  | nil => rfl
  | cons d U ih =>
    unfold placeJoined
    simp only [h, ih]

end Pharmpy.C11
