import PharmpyProofs.C11.Lemmas
/-
  C11 — property theorems about the executable model `PharmpyModel/C11/Model.lean`, for every entry type `α` with a zero
  and decidable equality, every collection and every index list.  `WF r` (unique names, every distribution `Square`) is
  the class invariant `RandomVariables.create` and the distribution constructors maintain.
-/
set_option linter.unusedSectionVars false
namespace Pharmpy.C11
variable {α : Type} [Zero α] [DecidableEq α]

structure WF (r : RVs α) : Prop where
  nodup : (names r).Nodup
  square : ∀ d ∈ r, Square d

/-- `unjoin` preserves the multiset of names. -/
theorem unjoin_names (r : RVs α) (inds : List String) : (names (unjoin r inds)).Perm (names r) :=
  unjoin_names_perm r inds

/-- … and the exact order: inside a touched block the unjoined names come first (in block order),
    then the rest of the block; untouched distributions keep their place. -/
theorem unjoin_names_exact (r : RVs α) (inds : List String) :
    names (unjoin r inds) = r.flatMap fun d =>
      if touched inds d then d.names.filter (inds.contains ·) ++ d.names.filter (fun n => !inds.contains n)
      else d.names := by
  induction r with
  | nil => rfl
  | cons d r ih => rw [unjoin_cons, names_append, unjoinDist_names, ih, List.flatMap_cons]

/-- Order is unchanged when, in every touched block, the unjoined variables already precede the
    others (decidable side-condition). -/
theorem unjoin_order_partial (r : RVs α) (inds : List String)
    (h : ∀ d ∈ r, touched inds d = true →
      d.names.filter (inds.contains ·) ++ d.names.filter (fun n => !inds.contains n) = d.names) :
    names (unjoin r inds) = names r := by
  induction r with
  | nil => rfl
  | cons d r ih =>
    rw [unjoin_cons, names_append, names_cons, unjoinDist_names,
      ih (fun e he => h e (List.mem_cons_of_mem _ he))]
    congr 1
    by_cases ht : touched inds d = true
    · rw [if_pos ht, h d List.mem_cons_self ht]
    · rw [if_neg ht]

/-- The full statement "the order changes only as far as needed" is false of the code: taking the
    last variable out of a block moves it in front of the block. -/
theorem unjoin_order_witness :
    let r : RVs Entry := [⟨["a", "b", "c"], "IIV", true, [.num 0, .num 0, .num 0],
      [[.sym "A", .sym "AB", .sym "AC"], [.sym "AB", .sym "B", .sym "BC"], [.sym "AC", .sym "BC", .sym "C"]]⟩]
    names (unjoin r ["c"]) = ["c", "a", "b"] ∧ names r = ["a", "b", "c"] := by
  decide +kernel

/-- `rvs[ind]` restricts the names to `ind`, keeping their order. -/
theorem getitem_names (r : RVs α) (h : WF r) (ind : List String) :
    names (getitem r ind) = (names r).filter (ind.contains ·) :=
  getitem_names_of_singles r (singles_of_square h.square) ind

/-- A successful `join` preserves the multiset of names. -/
theorem join_names (r : RVs α) (h : WF r) (inds : List String) (f : Fill α) (res : JoinResult α)
    (hj : join r inds f = .ok res) : (names res.rvs).Perm (names r) := by
  by_cases hne : inds = []
  · subst hne
    cases hj
    exact List.Perm.refl _
  · obtain ⟨_, _, _, _, _, _, hp⟩ := join_spec (singles_of_square h.square) hj hne
    exact hp

/-- Joining no variables returns the collection unchanged (and no new parameters), in every mode. -/
theorem join_empty (r : RVs α) (f : Fill α) : join r [] f = .ok ⟨r, []⟩ :=
  rfl

/-- A successful `join` of at least one variable puts exactly the joined names (in their original
    order) into one block of the result. -/
theorem join_block (r : RVs α) (h : WF r) (inds : List String) (f : Fill α) (res : JoinResult α)
    (hj : join r inds f = .ok res) (hne : inds ≠ []) :
    ∃ jd ∈ res.rvs, jd.joint = true ∧ jd.names = (names r).filter (inds.contains ·) := by
  obtain ⟨jd, hnames, hjoint, _, hmem, _⟩ := join_spec (singles_of_square h.square) hj hne
  exact ⟨jd, hmem, hjoint, hnames⟩

/-- Every block is a contiguous run of the name list. -/
theorem blocks_contiguous (r : RVs α) : ∀ d ∈ r, d.names <:+: names r := by
  intro d hd
  induction r with
  | nil => cases hd
  | cons d0 r ih =>
    rw [names_cons]
    cases hd with
    | head => exact ⟨[], names r, by simp⟩
    | tail _ h =>
      obtain ⟨s, t, hst⟩ := ih h
      exact ⟨d0.names ++ s, t, by rw [← hst]; simp⟩

/-- `RandomVariables.create` accepts exactly the collections with unique names. -/
theorem create_ok_iff (dists : RVs α) : create dists = .ok dists ↔ (names dists).Nodup := by
  rw [create_eq]
  split <;> simp [*]

/-- unjoin / index / join / subs keep names unique. -/
theorem names_unique_preserved (r : RVs α) (h : WF r) (inds : List String) :
    (names (unjoin r inds)).Nodup ∧ (names (getitem r inds)).Nodup ∧
    (∀ f res, join r inds f = .ok res → (names res.rvs).Nodup) ∧
    (∀ fe fn res, subs fe fn r = .ok res → (names res).Nodup) := by
  refine ⟨unjoin_nodup h.nodup inds, ?_, ?_, ?_⟩
  · rw [getitem_names r h]; exact List.Nodup.sublist List.filter_sublist h.nodup
  · intro f res hj
    exact (join_names r h inds f res hj).nodup_iff.mpr h.nodup
  · intro fe fn res hs
    exact (subs_ok hs).2

/-- `+` concatenates the names … -/
theorem add_names (levels : List String) (r : RVs α) (d : Dist α) (res : RVs α)
    (h : addDist levels r d = .ok res) : names res = names r ++ d.names ∧ levels.contains d.level = true := by
  unfold addDist at h
  by_cases hl : levels.contains d.level = true
  · rw [if_pos hl] at h
    injection h with h
    rw [← h]; exact ⟨by simp, hl⟩
  · rw [if_neg hl] at h; cases h

/-- … and, unlike `create`, does not check uniqueness: the class invariant can be broken by `+`. -/
theorem add_duplicate_witness :
    let d : Dist Entry := normal "a" "IIV" (.num 0) (.sym "A")
    ∃ res, addDist ["IIV", "IOV", "RUV"] [d] d = .ok res ∧ ¬ (names res).Nodup := by
  refine ⟨_, rfl, ?_⟩
  decide +kernel

/-- `unjoin` preserves every variance. -/
theorem unjoin_variances (r : RVs α) (h : WF r) (inds : List String) (a : String) (ha : a ∈ names r) :
    getCov (unjoin r inds) a a = getCov r a a := by
  obtain ⟨d, hd, had⟩ := mem_names.mp ha
  obtain ⟨k, hk, hak⟩ := exists_piece inds had
  exact (unjoin_getCov h.nodup hd hd hk hk hak hak).trans (if_pos rfl)

/-- `unjoin` preserves every covariance between variables that stay (whatever rows/columns of
    their block are deleted before, between or after them). -/
theorem unjoin_covariances_kept (r : RVs α) (h : WF r) (inds : List String) (a b : String)
    (ha : a ∈ names r) (hb : b ∈ names r) (hai : a ∉ inds) (hbi : b ∉ inds) :
    getCov (unjoin r inds) a b = getCov r a b :=
  unjoin_getCov_kept h.nodup (singles_of_square h.square) inds ha hb hai hbi

/-- An unjoined variable has covariance 0 with every other variable. -/
theorem unjoin_covariances_removed (r : RVs α) (h : WF r) (inds : List String) (a b : String)
    (ha : a ∈ names r) (hb : b ∈ names r) (hai : a ∈ inds) (hab : a ≠ b) :
    getCov (unjoin r inds) a b = .ok 0 ∧ getCov (unjoin r inds) b a = .ok 0 := by
  obtain ⟨d, hd, had⟩ := mem_names.mp ha
  obtain ⟨e, he, hbe⟩ := mem_names.mp hb
  obtain ⟨k, hk, hak⟩ := exists_piece inds had
  obtain ⟨k', hk', hbk'⟩ := exists_piece inds hbe
  -- the piece that has `a` has nothing else, so `b` is in another piece
  have hka : k.names = [a] := by
    rcases piece_names (singles_of_square h.square d hd) k hk with ⟨a', _, e⟩ | e
    · rw [e] at hak ⊢
      rw [List.mem_singleton.mp hak]
    · rw [e] at hak
      exact absurd (List.contains_iff_mem.mpr hai) (by simpa using (List.mem_filter.mp hak).2)
  have hne : k ≠ k' := fun e => hab (List.mem_singleton.mp (hka ▸ e ▸ hbk')).symm
  exact ⟨(unjoin_getCov h.nodup hd he hk hk' hak hbk').trans (if_neg hne),
    (unjoin_getCov h.nodup he hd hk' hk hbk' hak).trans (if_neg hne.symm)⟩

/-- `rvs[ind]` keeps every variance and covariance of the selected variables. -/
theorem getitem_covariances (r : RVs α) (h : WF r) (ind : List String) (a b : String)
    (ha : a ∈ names r) (hb : b ∈ names r) (hai : a ∈ ind) (hbi : b ∈ ind) :
    getCov (getitem r ind) a b = getCov r a b :=
  getitem_getCov_of_singles h.nodup (singles_of_square h.square) ind ha hb hai hbi

/-- `join(inds, fill)`: for joined variables every variance is kept, and a covariance `v` (0 when
    the variables were in different blocks) becomes `if fill ≠ 0 ∧ v = 0 then fill else v` — the exact
    value of every entry of the joined block. -/
theorem join_keeps_existing_cov (r : RVs α) (h : WF r) (inds : List String) (fill : α)
    (res : JoinResult α) (hj : join r inds (.value fill) = .ok res) (a b : String)
    (ha : a ∈ names r) (hb : b ∈ names r) (hai : a ∈ inds) (hbi : b ∈ inds) :
    ∃ v, getCov r a b = .ok v ∧
      getCov res.rvs a b = .ok (if a ≠ b ∧ fill ≠ 0 ∧ v = 0 then fill else v) := by
  obtain ⟨i, j, hi, hj, hij, h1, h2⟩ := join_getCov_inside h.nodup h.square hj ha hb hai hbi
  refine ⟨_, h1, h2.trans (congrArg _ ?_)⟩
  simp only [joinMatrix, calcCov]
  by_cases hf : fill = 0
  · rw [if_neg (fun h => h hf), ent_tabulate _ _ _ _ hi hj, if_neg fun h => h.2.1 hf]
  · rw [if_pos hf, ent_fillMat_tabulate _ _ _ _ _ hi hj]
    simp only [ne_eq, hij, hf, not_false_eq_true, true_and]

/-- The matrix written by the `name_template` loop is symmetric and keeps every non-zero entry,
    for every size. -/
theorem name_template_symmetric (nm : Nat → Nat → Option α) (n : Nat) (M : Mat α) (hs : SymM M) :
    SymM (nameMat nm n M).1 ∧ ∀ r c, M r c ≠ 0 → (nameMat nm n M).1 r c = M r c := by
  rw [nameMat_eq]
  exact List.foldlRecOn (pairs n) (nameStep nm) (b := (M, []))
    (motive := fun acc => SymM acc.1 ∧ ∀ r c, M r c ≠ 0 → acc.1 r c = M r c)
    ⟨hs, fun _ _ _ => rfl⟩ fun acc h rc _ => nameStep_inv nm M acc rc h.1 h.2

/-- `join(inds, name_template=…)`: an existing non-zero (co)variance between joined variables is
    kept (blocks symmetric); zero entries below the diagonal get a new symbol in both triangles. -/
theorem join_keeps_existing_cov_template (r : RVs α) (h : WF r) (hsym : SymBlocks r) (inds : List String)
    (nm : Nat → Nat → Option α) (res : JoinResult α) (hj : join r inds (.template nm) = .ok res)
    (a b : String) (ha : a ∈ names r) (hb : b ∈ names r) (hai : a ∈ inds) (hbi : b ∈ inds)
    (v : α) (hv : getCov r a b = .ok v) (hv0 : v ≠ 0) : getCov res.rvs a b = .ok v := by
  obtain ⟨i, j, hi, hj, _, h1, h2⟩ := join_getCov_inside h.nodup h.square hj ha hb hai hbi
  cases hv.symm.trans h1
  rw [h2]
  simp only [joinMatrix]
  rw [ent_tabulate _ _ _ _ hi hj, (name_template_symmetric nm _ _
    (calcMat_sym _ (getitem_square h.square inds) (getitem_sym hsym inds))).2 i j hv0]

/-- `join` (any mode) does not change (co)variances of variables that are not joined. -/
theorem join_covariances_outside (r : RVs α) (h : WF r) (inds : List String) (f : Fill α)
    (res : JoinResult α) (hj : join r inds f = .ok res) (a b : String)
    (ha : a ∈ names r) (hb : b ∈ names r) (hai : a ∉ inds) (hbi : b ∉ inds) :
    getCov res.rvs a b = getCov r a b := by
  have hn := h.nodup
  have hs := singles_of_square h.square
  by_cases hne : inds = []
  · subst hne
    cases hj
    rfl
  obtain ⟨_, _, _, _, _, hout, hp⟩ := join_spec hs hj hne
  obtain ⟨k, hk, hak, hko⟩ := piece_out hs inds ha hai
  obtain ⟨k', hk', hbk', hko'⟩ := piece_out hs inds hb hbi
  rw [← unjoin_getCov_kept hn hs inds ha hb hai hbi]
  exact getCov_shared (unjoin_nodup hn inds) (hp.nodup_iff.mpr hn) hk (hout k hk hko) hk' (hout k' hk' hko') hak hbk'

/-- `join(inds, fill)` preserves every variance — also a zero variance, whatever `fill` is. -/
theorem join_variances (r : RVs α) (h : WF r) (inds : List String) (fill : α)
    (res : JoinResult α) (hj : join r inds (.value fill) = .ok res) (a : String) (ha : a ∈ names r) :
    getCov res.rvs a a = getCov r a a := by
  by_cases hai : a ∈ inds
  · obtain ⟨v, h1, h2⟩ := join_keeps_existing_cov r h inds fill res hj a a ha ha hai hai
    rw [h1, h2]; simp
  · exact join_covariances_outside r h inds (.value fill) res hj a a ha ha hai hai

/-- After `join` (any mode) a joined and a not-joined variable have covariance 0. -/
theorem join_covariances_cross (r : RVs α) (h : WF r) (inds : List String) (f : Fill α)
    (res : JoinResult α) (hj : join r inds f = .ok res) (a b : String)
    (ha : a ∈ names r) (hb : b ∈ names r) (hai : a ∈ inds) (hbi : b ∉ inds) :
    getCov res.rvs a b = .ok 0 ∧ getCov res.rvs b a = .ok 0 := by
  have hn := h.nodup
  have hs := singles_of_square h.square
  obtain ⟨jd, hnames, _, _, hjd, hout, hp⟩ := join_spec hs hj (List.ne_nil_of_mem hai)
  obtain ⟨k', hk', hbk', hko'⟩ := piece_out hs inds hb hbi
  have haJ : a ∈ jd.names := hnames ▸ List.mem_filter.mpr ⟨ha, List.contains_iff_mem.mpr hai⟩
  have hne : jd ≠ k' := fun e => hbi (List.contains_iff_mem.mp (List.mem_filter.mp (hnames ▸ e ▸ hbk')).2)
  have hnR := hp.nodup_iff.mpr hn
  exact ⟨getCov_of_ne hnR hjd (hout k' hk' hko') haJ hbk' hne,
    getCov_of_ne hnR (hout k' hk' hko') hjd hbk' haJ hne.symm⟩

/-- The repaired behaviour on the input that showed the defect: a zero variance survives
    `join(fill)` while the new covariance is `fill`. -/
theorem join_fill_keeps_zero_variance_example :
    ((join [normal "a" "IIV" (.num 0) (.sym "A"), normal "b" "IIV" (.num 0) (.num 0)] ["a", "b"]
        (.value (Entry.sym "F"))).toOption.bind (fun res => (getCov res.rvs "b" "b").toOption))
      = some (Entry.num 0) ∧
    ((join [normal "a" "IIV" (.num 0) (.sym "A"), normal "b" "IIV" (.num 0) (.num 0)] ["a", "b"]
        (.value (Entry.sym "F"))).toOption.bind (fun res => (getCov res.rvs "a" "b").toOption))
      = some (Entry.sym "F") := by
  decide +kernel

/-- The position of the joined block is that of the first unjoined variable in `unjoin`'s output —
    so `join` inherits `unjoin`'s reordering: the full statement "moved to the position of the first
    of them" is false of the code. -/
theorem join_order_witness :
    (join ([⟨["a", "b", "c"], "IIV", true, [.num 0, .num 0, .num 0],
        [[.sym "A", .sym "AB", .sym "AC"], [.sym "AB", .sym "B", .sym "BC"], [.sym "AC", .sym "BC", .sym "C"]]⟩,
        normal "d" "IIV" (.num 0) (.sym "D")] : RVs Entry) ["c", "d"] (.value (.num 0))).toOption.map
      (fun res => names res.rvs) = some ["c", "d", "a", "b"] := by
  decide +kernel

/-- `subs` renames the variables by `_subs_name` (and refuses a renaming that merges names). -/
theorem subs_names (fe : α → α) (fn : String → String) (r res : RVs α) (h : subs fe fn r = .ok res) :
    names res = (names r).map fn ∧ (names res).Nodup := by
  obtain ⟨h1, h2⟩ := subs_ok h
  exact ⟨by rw [h1, names_map_subs], h2⟩

/-- `subs`: the (co)variance of two variables of one block is the substituted old one. -/
theorem subs_covariances (fe : α → α) (fn : String → String) (r res : RVs α) (h : subs fe fn r = .ok res)
    (hinj : ∀ x ∈ names r, ∀ y ∈ names r, fn x = fn y → x = y) (d : Dist α) (hd : d ∈ r)
    (hsq : Square d) (hrows : d.var.length = d.names.length) (hrect : ∀ row ∈ d.var, row.length = d.names.length)
    (a b : String) (ha : a ∈ d.names) (hb : b ∈ d.names) :
    ∃ v, d.getCov a b = .ok v ∧ getCov res (fn a) (fn b) = .ok (fe v) := by
  obtain ⟨hres, hnd⟩ := subs_ok h
  have hsub : ∀ x ∈ d.names, x ∈ names r := fun x hx => mem_names.mpr ⟨d, hd, hx⟩
  have hidx : ∀ c ∈ d.names, (d.names.map fn).idxOf (fn c) = d.names.idxOf c := fun c hc =>
    idxOf_map_inj fn d.names c fun x hx e => hinj x (hsub x hx) c (hsub c hc) e
  have hi := List.idxOf_lt_length_of_mem ha
  have hrow : (d.var.getD (d.names.idxOf a) []).length = d.names.length := by
    apply hrect
    rw [List.getD_eq_getElem?_getD, List.getElem?_eq_getElem (hrows ▸ hi)]
    exact List.getElem_mem _
  refine ⟨_, dist_getCov_idx hsq ha hb, ?_⟩
  rw [getCov_of_mem hnd (hres ▸ List.mem_map.mpr ⟨d, hd, rfl⟩) (List.mem_map.mpr ⟨a, ha, rfl⟩)
      (List.mem_map.mpr ⟨b, hb, rfl⟩),
    dist_getCov_idx (subsDist_square fe fn hsq) (List.mem_map.mpr ⟨a, ha, rfl⟩) (List.mem_map.mpr ⟨b, hb, rfl⟩)]
  change Except.ok (ent (d.var.map (·.map fe)) ((d.names.map fn).idxOf (fn a)) ((d.names.map fn).idxOf (fn b))) = _
  rw [hidx a ha, hidx b hb, ent_map fe d.var _ _ (hrows ▸ hi) (hrow ▸ List.idxOf_lt_length_of_mem hb)]

/-- `JointNormalDistribution.__getitem__(collection)`: the distribution itself, or the selected
    names in block order with … -/
theorem dist_getitem_names (d : Dist α) (index : List String) (res : Dist α)
    (h : distGetitem d index = .ok res) :
    res = d ∨ res.names = d.names.filter (index.eraseDups.contains ·) := by
  rcases distGetitem_ok h with h | h
  · exact Or.inl h
  · right; rw [h, pickDist_names]

/-- … every variance and covariance of the selected variables unchanged. -/
theorem dist_getitem_covariances (d : Dist α) (hj : d.joint = true) (hn : d.names.Nodup)
    (index : List String) (res : Dist α) (h : distGetitem d index = .ok res) (a b : String)
    (ha : a ∈ d.names) (hb : b ∈ d.names) (hai : a ∈ index) (hbi : b ∈ index) :
    res.getCov a b = d.getCov a b := by
  rcases distGetitem_ok h with h | h
  · rw [h]
  · rw [h]
    exact pickDist_getCov hj hn _ ha hb (by simpa [List.mem_eraseDups] using hai)
      (by simpa [List.mem_eraseDups] using hbi)

/-- `rvs[ind]`, `rvs.unjoin(inds)` and `rvs.join(inds, …)` depend on the listed names only as a set:
    any order, any repetition. -/
theorem selection_order_invariant (r : RVs α) (inds inds' : List String) (hm : ∀ x, x ∈ inds ↔ x ∈ inds')
    (f : Fill α) :
    getitem r inds = getitem r inds' ∧ unjoin r inds = unjoin r inds' ∧ join r inds f = join r inds' f := by
  have hc := contains_congr hm
  refine ⟨getitem_congr hc r, unjoin_congr hc r, ?_⟩
  have hany : inds.any (fun a => !(names r).contains a) = inds'.any (fun a => !(names r).contains a) := by
    rw [Bool.eq_iff_iff]
    simp only [List.any_eq_true, hm]
  have hlen : (inds.length = 0) ↔ (inds'.length = 0) := by
    simp only [List.length_eq_zero_iff, List.eq_nil_iff_forall_not_mem, hm]
  unfold join
  rw [hany, getitem_congr hc, unjoin_congr hc]
  by_cases h0 : inds.length = 0
  · simp only [h0, hlen.mp h0, if_true]
  · have h0' : ¬ inds'.length = 0 := fun e => h0 (hlen.mpr e)
    simp only [h0, h0', if_false]
    cases getitem r inds' with
    | nil => rfl
    | cons j0 rest => simp only [placeJoined_congr hc]

/-- `JointNormalDistribution.__getitem__(collection)` gives the same distribution (or the same
    refusal) for every order in which the names are listed … -/
theorem dist_getitem_order_invariant (d : Dist α) (index index' : List String) (hp : index'.Perm index) :
    distGetitem d index' = distGetitem d index := by
  have hm : ∀ x, x ∈ index'.eraseDups ↔ x ∈ index.eraseDups := by
    intro x; rw [List.mem_eraseDups, List.mem_eraseDups]; exact hp.mem_iff
  have hc := contains_congr hm
  have hl : index'.eraseDups.length = index.eraseDups.length :=
    eraseDups_length_of_same_mem (fun x => hp.mem_iff)
  have hany : index'.eraseDups.any (fun a => !d.names.contains a) = index.eraseDups.any (fun a => !d.names.contains a) := by
    rw [Bool.eq_iff_iff]
    simp only [List.any_eq_true, hm]
  unfold distGetitem
  rw [hp.length_eq, hany, hl]
  have : pickDist d (fun x => index'.eraseDups.contains x) = pickDist d (fun x => index.eraseDups.contains x) := by
    simp only [hc]
  rw [this]

/-- … namely the restriction of the labelled covariance to the listed set: names in block order and,
    for any two listed names, the (co)variance they have in the block — whatever the listing order. -/
theorem dist_getitem_is_restriction (d : Dist α) (hj : d.joint = true) (hn : d.names.Nodup)
    (index index' : List String) (hp : index'.Perm index) (res : Dist α) (h : distGetitem d index' = .ok res)
    (a b : String) (ha : a ∈ d.names) (hb : b ∈ d.names) (hai : a ∈ index) (hbi : b ∈ index) :
    (res = d ∨ res.names = d.names.filter (index.eraseDups.contains ·)) ∧ res.getCov a b = d.getCov a b := by
  rw [dist_getitem_order_invariant d index index' hp] at h
  exact ⟨dist_getitem_names d index res h, dist_getitem_covariances d hj hn index res h a b ha hb hai hbi⟩

/-- `_calc_covariance_matrix` is the block-diagonal composition of the distributions, for any
    number and size of blocks: the result is `n × n` (`n` = number of variables) and entry `(r, c)`
    is the entry of the block containing both positions, else 0. -/
theorem cov_matrix_block_diagonal (r : RVs α) (hq : ∀ d ∈ r, Square d) :
    (covarianceMatrix r).length = (names r).length ∧
    (∀ row ∈ covarianceMatrix r, row.length = (names r).length) ∧
    ∀ i j, i < (names r).length → j < (names r).length →
      ent (covarianceMatrix r) i j = blockDiagF (r.map blockOf) i j 0 := by
  have hs := tabulate_shape (nrvs r) (calcMat r)
  simp only [covarianceMatrix, calcCov]
  rw [nrvs_eq_length] at hs ⊢
  refine ⟨hs.1, hs.2, ?_⟩
  intro i j hi hj
  rw [ent_tabulate _ _ _ _ hi hj, calcMat_apply r hq]

/-- … and, read at the positions of two names, it is `get_covariance`. -/
theorem cov_matrix_get_covariance (r : RVs α) (hq : ∀ d ∈ r, Square d) (a b : String)
    (ha : a ∈ names r) (hb : b ∈ names r) :
    getCov r a b = .ok (ent (covarianceMatrix r) ((names r).idxOf a) ((names r).idxOf b)) := by
  rw [(cov_matrix_block_diagonal r hq).2.2 _ _ (List.idxOf_lt_length_of_mem ha) (List.idxOf_lt_length_of_mem hb)]
  exact blockDiag_getCov r hq ha hb

/-- A PSD input is returned unchanged (the same object). -/
theorem nearest_identity_on_valid {β : Type} (ops : NearOps β) (fuel : Nat) (A : β)
    (h : ops.isPsd A = true) : nearest ops fuel A = some (A, .same) := by
  simp [nearest, h]

/-- Partial correctness: whatever is returned satisfies `is_positive_semidefinite`. -/
theorem nearest_result_valid {β : Type} (ops : NearOps β) (fuel : Nat) (A R : β) (p : NearPath)
    (h : nearest ops fuel A = some (R, p)) : ops.isPsd R = true := by
  unfold nearest at h
  by_cases h1 : ops.isPsd A = true
  · simp [h1] at h; rw [← h.1]; exact h1
  · simp only [h1] at h
    by_cases h2 : ops.isPsd (ops.higham A) = true
    · simp [h2] at h; rw [← h.1]; exact h2
    · simp [h2] at h
      exact (nearLoop_spec ops A fuel _ _ R p h).1

/-- The input is replaced only when it is not PSD. -/
theorem nearest_changed_only_if_invalid {β : Type} (ops : NearOps β) (fuel : Nat) (A R : β) (p : NearPath)
    (h : nearest ops fuel A = some (R, p)) (hp : p ≠ .same) : ops.isPsd A = false := by
  cases h1 : ops.isPsd A with
  | false => rfl
  | true =>
    rw [nearest_identity_on_valid ops fuel A h1] at h
    injection h with h
    exact absurd (congrArg Prod.snd h).symm hp

/-- `validate_parameters` is true iff every joint block is PSD. -/
theorem validate_iff {β : Type} (subst : List (List α) → β) (isPsd : β → Bool) (r : RVs α) :
    validate subst isPsd r = true ↔ ∀ d ∈ r, d.joint = true → isPsd (subst d.var) = true := by
  rw [validate, List.all_eq_true]
  refine forall_congr' fun d => forall_congr' fun _ => ?_
  cases d.joint <;> simp

/-- The `near` argument of `nearestAssignments` built from `nearest`: `none` when the very same
    matrix comes back. -/
def nearOf {β V : Type} (ops : NearOps β) (fuel : Nat) (view : β → Nat → Nat → V) (A : β) :
    Option (Nat → Nat → V) :=
  match nearest ops fuel A with
  | some (_, .same) => none
  | some (B, _) => some (view B)
  | none => none

/-- Only distributions whose matrix is not PSD contribute assignments (frame). -/
theorem nearest_valid_frame {β V : Type} (ops : NearOps β) (fuel : Nat) (view : β → Nat → Nat → V)
    (subst : List (List α) → β) (d : Dist α)
    (h : d.joint = false ∨ ops.isPsd (subst d.var) = true) :
    nearestStep subst (nearOf ops fuel view) d = [] := by
  rcases h with h | h
  · rw [nearestStep, h]
    rfl
  · rw [nearestStep, nearOf, nearest_identity_on_valid ops fuel _ h]
    exact ite_self _

/-- Valid values are never altered: if `validate_parameters` holds, `nearest_valid_parameters`
    performs no assignment at all (it returns a copy of its argument). -/
theorem nearest_valid_untouched {β V : Type} (ops : NearOps β) (fuel : Nat) (view : β → Nat → Nat → V)
    (subst : List (List α) → β) (r : RVs α) (h : validate subst ops.isPsd r = true) :
    nearestAssignments subst (nearOf ops fuel view) r = [] := by
  rw [validate_iff] at h
  refine List.flatMap_eq_nil_iff.mpr fun d hd => nearest_valid_frame ops fuel view subst d ?_
  cases hj : d.joint
  · exact .inl rfl
  · exact .inr (h d hd hj)

/-! The write-back loop of `nearest_valid_parameters`:
  `for row in range(len(A)): for col in range(row + 1): nearest[symb_sigma[row, col].name] = B[row, col]` -/

theorem mem_lowerTri (n row col : Nat) : (row, col) ∈ lowerTri n ↔ col ≤ row ∧ row < n := by
  unfold lowerTri
  simp only [List.mem_flatMap, List.mem_map, List.mem_range, Prod.mk.injEq]
  constructor
  · rintro ⟨r, hr, c, hc, rfl, rfl⟩; omega
  · rintro ⟨h1, h2⟩; exact ⟨row, h2, col, by omega, rfl, rfl⟩

/-- The assignments of one invalid block are exactly `(parameter at (row, col), B[row, col])` for the
    lower-triangle positions. -/
theorem mem_nearestStep {β V : Type} (subst : List (List α) → β) (near : β → Option (Nat → Nat → V))
    (d : Dist α) (hj : d.joint = true) (B : Nat → Nat → V) (hB : near (subst d.var) = some B) (p : α × V) :
    p ∈ nearestStep subst near d ↔
      ∃ row col, col ≤ row ∧ row < matRows d.var ∧ p = (ent d.var row col, B row col) := by
  unfold nearestStep
  rw [if_pos hj, hB]
  simp only [List.mem_map]
  constructor
  · rintro ⟨⟨row, col⟩, hm, rfl⟩
    exact ⟨row, col, ((mem_lowerTri _ _ _).mp hm).1, ((mem_lowerTri _ _ _).mp hm).2, rfl⟩
  · rintro ⟨row, col, h1, h2, rfl⟩
    exact ⟨(row, col), (mem_lowerTri _ _ _).mpr ⟨h1, h2⟩, rfl⟩

/-- **Invalid values are replaced by the nearest valid matrix** (collection level, any number and size
    of blocks): if the block of `d` is repaired to `B` and every assignment of the whole call that
    writes a parameter of `d`'s lower triangle writes the entry of `B` at that position (`hcons`:
    holds when the parameters of the block are distinct and belong to no other repaired block, see
    `nearest_valid_writes_nearest_of_distinct`), then after `nearest_valid_parameters` the parameter at
    `(row, col)` holds `B[row, col]`. -/
theorem nearest_valid_writes_nearest {β V : Type} (subst : List (List α) → β)
    (near : β → Option (Nat → Nat → V)) (r : RVs α) (d : Dist α) (hd : d ∈ r) (hj : d.joint = true)
    (B : Nat → Nat → V) (hB : near (subst d.var) = some B)
    (hcons : ∀ p ∈ nearestAssignments subst near r, ∀ row col, col ≤ row → row < matRows d.var →
      p.1 = ent d.var row col → p.2 = B row col)
    (row col : Nat) (hc : col ≤ row) (hr : row < matRows d.var) :
    lastAssigned (nearestAssignments subst near r) (ent d.var row col) = some (B row col) := by
  apply lastAssigned_of_consistent
  · intro p hp hpe; exact hcons p hp row col hc hr hpe
  · refine ⟨(ent d.var row col, B row col), ?_, rfl⟩
    unfold nearestAssignments
    rw [List.mem_flatMap]
    exact ⟨d, hd, (mem_nearestStep subst near d hj B hB _).mpr ⟨row, col, hc, hr, rfl⟩⟩

/-- The lower-triangle parameters of the block are pairwise distinct. -/
def TriDistinct (d : Dist α) : Prop :=
  ∀ r c r' c', c ≤ r → r < matRows d.var → c' ≤ r' → r' < matRows d.var →
    ent d.var r c = ent d.var r' c' → r = r' ∧ c = c'

/-- … in particular for a block with distinct lower-triangle parameters that no other distribution's
    repair writes (`d` itself may occur several times, as IOV blocks do). -/
theorem nearest_valid_writes_nearest_of_distinct {β V : Type} (subst : List (List α) → β)
    (near : β → Option (Nat → Nat → V)) (r : RVs α) (d : Dist α) (hd : d ∈ r) (hj : d.joint = true)
    (B : Nat → Nat → V) (hB : near (subst d.var) = some B) (hinj : TriDistinct d)
    (hother : ∀ d' ∈ r, d' ≠ d → ∀ p ∈ nearestStep subst near d', ∀ row col, col ≤ row →
      row < matRows d.var → p.1 ≠ ent d.var row col)
    (row col : Nat) (hc : col ≤ row) (hr : row < matRows d.var) :
    lastAssigned (nearestAssignments subst near r) (ent d.var row col) = some (B row col) := by
  apply nearest_valid_writes_nearest subst near r d hd hj B hB _ row col hc hr
  intro p hp row' col' hc' hr' hpe
  unfold nearestAssignments at hp
  rw [List.mem_flatMap] at hp
  obtain ⟨d', hd', hp⟩ := hp
  by_cases hdd : d' = d
  · subst hdd
    obtain ⟨r2, c2, h1, h2, rfl⟩ := (mem_nearestStep subst near d' hj B hB p).mp hp
    obtain ⟨e1, e2⟩ := hinj r2 c2 row' col' h1 h2 hc' hr' hpe
    subst e1; subst e2; rfl
  · exact absurd hpe (hother d' hd' hdd p hp row' col' hc' hr')

/-- Read back as a full matrix: for a symmetric symbolic block and a symmetric repaired matrix, **every**
    position `(i, j)` of the block — upper triangle included — holds `B[i, j]` after the call: the block
    of the result is the nearest matrix itself (no variance is exchanged with a covariance). -/
theorem nearest_valid_block_is_nearest {β V : Type} (subst : List (List α) → β)
    (near : β → Option (Nat → Nat → V)) (r : RVs α) (d : Dist α) (hd : d ∈ r) (hj : d.joint = true)
    (B : Nat → Nat → V) (hB : near (subst d.var) = some B) (hinj : TriDistinct d)
    (hother : ∀ d' ∈ r, d' ≠ d → ∀ p ∈ nearestStep subst near d', ∀ row col, col ≤ row →
      row < matRows d.var → p.1 ≠ ent d.var row col)
    (hsym : ∀ i j, ent d.var i j = ent d.var j i) (hBsym : ∀ i j, B i j = B j i)
    (i j : Nat) (hi : i < matRows d.var) (hjn : j < matRows d.var) :
    lastAssigned (nearestAssignments subst near r) (ent d.var i j) = some (B i j) := by
  rcases Nat.le_total j i with h | h
  · exact nearest_valid_writes_nearest_of_distinct subst near r d hd hj B hB hinj hother i j h hi
  · rw [hsym i j, hBsym i j]
    exact nearest_valid_writes_nearest_of_distinct subst near r d hd hj B hB hinj hother j i h hjn

/-- A parameter that no repaired block contains is not written at all. -/
theorem nearest_valid_writes_frame {β V : Type} (subst : List (List α) → β)
    (near : β → Option (Nat → Nat → V)) (r : RVs α) (a : α)
    (h : ∀ d ∈ r, ∀ p ∈ nearestStep subst near d, p.1 ≠ a) :
    lastAssigned (nearestAssignments subst near r) a = none := by
  apply lastAssigned_none
  intro p hp
  unfold nearestAssignments at hp
  rw [List.mem_flatMap] at hp
  obtain ⟨d, hd, hp⟩ := hp
  exact h d hd p hp

/-- **The returned dictionary** (`Entry` instance, parameter names as keys): the value of parameter `s`
    after `nearest_valid_parameters` is the one written last under the symbol `s` — by
    `nearest_valid_block_is_nearest` the entry of the nearest matrix at the position of `s` — and the
    given value if no repaired block contains `s`. -/
theorem nearest_valid_result_lookup {V : Type} (asg : List (Entry × V)) (values res : List (String × V))
    (h : applyAssignments values asg = .ok res) (s : String) :
    res.lookup s = (lastAssigned asg (Entry.sym s)).or (values.lookup s) := by
  induction asg generalizing values with
  | nil =>
    cases h
    rfl
  | cons p rest ih =>
    obtain ⟨e, v⟩ := p
    cases e with
    | num q => cases h
    | sym t =>
      rw [ih _ h, lookup_filter_append, lastAssigned_cons]
      cases lastAssigned rest (Entry.sym s) <;> by_cases hts : t = s <;> simp [hts]

/-- the positions of the upper triangle of an `n×n` matrix, row-major -/
def upperTri (n : Nat) : List (Nat × Nat) :=
  (List.range n).flatMap fun r => ((List.range n).filter (r ≤ ·)).map fun c => (r, c)

/-- The enumeration matters from dimension 3 on: pairing the lower-triangle parameters (row-major) with
    the UPPER triangle of `B` in row-major order (= the lower triangle in column-major order) agrees
    with the loop for 1×1 and 2×2 blocks and exchanges var(2) with cov(3,1) in a 3×3 block. -/
theorem write_back_order_witness :
    ((lowerTri 2).zip (upperTri 2)).all (fun p => p.1 = p.2 ∨ p.1 = (p.2.2, p.2.1)) = true ∧
    ((lowerTri 3).zip (upperTri 3)).all (fun p => p.1 = p.2 ∨ p.1 = (p.2.2, p.2.1)) = false := by
  decide +kernel

/-! `agree A` (decidable, evaluated by the driver on every generated case) = no parameter is assigned two different
  values, i.e. a shared parameter has the same role wherever it occurs. -/

/-- Every converted value is computed from the **original** dictionary: the symbol at position
    `(i, j)` of any joint block ends up as `corr(i, j)` / `sd(i)` of the original values, whatever
    other distributions share its parameters and wherever the block stands in the collection. -/
theorem sdcorr_reads_original (sqrt : Rat → Rat) (vals : Dict) (rvs : RVs Entry) (F : Dict)
    (h : sdcorr sqrt vals rvs = .ok F) (hag : agree (rvs.flatMap (sdcorrAsg sqrt vals)) = true)
    (d : Dist Entry) (hd : d ∈ rvs) (hj : d.joint = true) (i j : Nat) (hi : i < matRows d.var)
    (hjc : j < matCols d.var) (s : String) (hs : symAt d i j = some s) :
    F s = some (fwdVal sqrt vals d i j) :=
  sdcorr_value_joint h hag hd hj (mem_positions.mpr ⟨hi, hjc⟩) hs

/-- The converted value of every parameter does not depend on the order of the distributions. -/
theorem sdcorr_order_independent (sqrt : Rat → Rat) (vals : Dict) (rvs rvs' : RVs Entry) (F F' : Dict)
    (hperm : rvs'.Perm rvs) (h : sdcorr sqrt vals rvs = .ok F) (h' : sdcorr sqrt vals rvs' = .ok F')
    (hag : agree (rvs.flatMap (sdcorrAsg sqrt vals)) = true) (s : String) : F' s = F s := by
  have hmem := fun p => (hperm.flatMap_right (sdcorrAsg sqrt vals)).mem_iff (a := p)
  rw [(sdcorr_ok h).1, (sdcorr_ok h').1, applyF_eq, applyF_eq]
  rcases lastAssigned_cases (rvs.flatMap (sdcorrAsg sqrt vals)) s with ⟨h0, hno⟩ | ⟨v, hv, hm⟩
  · rw [h0, lastAssigned_none _ _ fun p hp => hno p ((hmem p).mp hp)]
  · rw [hv, lastAssigned_of_consistent _ _ v (fun q hq e => agree_spec hag q ((hmem q).mp hq) _ hm e)
      ⟨_, (hmem _).mpr hm, rfl⟩]

/-- Parameters that no distribution uses keep their value. -/
theorem sdcorr_frame (sqrt : Rat → Rat) (vals : Dict) (rvs : RVs Entry) (F : Dict)
    (h : sdcorr sqrt vals rvs = .ok F) (s : String)
    (hno : ∀ p ∈ rvs.flatMap (sdcorrAsg sqrt vals), p.1 ≠ s) : F s = vals s := by
  rw [(sdcorr_ok h).1, applyF_eq, lastAssigned_none _ _ hno]
  rfl

/-- `sdcorr⁻¹ ∘ sdcorr = id` on every parameter — also when variance/covariance parameters are
    shared between distributions (same symbol in several normal distributions, the same symbolic
    block repeated per occasion), for any `sqrt` with `sqrt a · sqrt a = a ≠ 0` on the variances. -/
theorem sdcorr_inverse (sqrt : Rat → Rat) (vals : Dict) (rvs : RVs Entry) (F : Dict)
    (h : sdcorr sqrt vals rvs = .ok F) (hag : agree (rvs.flatMap (sdcorrAsg sqrt vals)) = true)
    (hok : SdOk sqrt vals rvs) (s : String) : sdcorrInv F rvs s = vals s := by
  rw [sdcorrInv, applyF_eq]
  rcases lastAssigned_cases (rvs.flatMap (sdcorrInvAsg F)) s with ⟨h0, hno⟩ | ⟨v, hv, hm⟩
  · -- nothing is converted back under `s`, so nothing was converted under `s` either
    rw [h0, (sdcorr_ok h).1, applyF_eq]
    rcases lastAssigned_cases (rvs.flatMap (sdcorrAsg sqrt vals)) s with ⟨h1, _⟩ | ⟨w, _, hw⟩
    · rw [h1]
      rfl
    · obtain ⟨q, hq, hqs⟩ := inv_names_of_fwd h hag hw
      exact absurd hqs (hno q hq)
  · obtain ⟨d, hd, hmd⟩ := List.mem_flatMap.mp hm
    rw [hv]
    exact (inv_asg_restores h hag hok hd _ hmd).symm

/-- Reading from the dictionary being written (instead of the original values) converts a shared
    variance twice: two normal distributions with the same variance 16 give sd 2 instead of 4. -/
theorem sdcorr_accumulating_witness :
    let sqrt : Rat → Rat := fun q => if q = 16 then 4 else if q = 4 then 2 else q
    let vals : Dict := fun s => if s = "OM" then some 16 else none
    let rvs : RVs Entry := [normal "e1" "IOV" (.num 0) (.sym "OM"), normal "e2" "IOV" (.num 0) (.sym "OM")]
    (sdcorr sqrt vals rvs).toOption.bind (fun F => F "OM") = some 4 ∧ sdcorrAcc sqrt vals rvs "OM" = some 2 := by
  decide +kernel

/-- Valid estimates are returned as they are (the same object). -/
theorem canonicalize_valid_untouched {P R : Type} (valid : P → R → Bool) (repair : P → R → P) (p : P) (r : R)
    (h : valid p r = true) : canonicalizeEstimates valid repair p r = p := by
  simp [canonicalizeEstimates, h]

/-- Invalid estimates are replaced by the repaired ones (`nearest_valid_parameters`). -/
theorem canonicalize_invalid_repaired {P R : Type} (valid : P → R → Bool) (repair : P → R → P) (p : P) (r : R)
    (h : valid p r = false) : canonicalizeEstimates valid repair p r = repair p r := by
  simp [canonicalizeEstimates, h]

/-- If the repair produces valid estimates (numerics, abstract), so does canonicalisation. -/
theorem canonicalize_result_valid {P R : Type} (valid : P → R → Bool) (repair : P → R → P)
    (hrep : ∀ p r, valid (repair p r) r = true) (p : P) (r : R) :
    valid (canonicalizeEstimates valid repair p r) r = true := by
  unfold canonicalizeEstimates
  by_cases h : valid p r = true
  · rw [if_pos h]; exact h
  · rw [if_neg h]; exact hrep p r

/-- `replace` with valid resulting estimates does not touch them, whichever arguments are passed. -/
theorem replace_valid_untouched {P R : Type} (valid : P → R → Bool) (repair : P → R → P) (m : MState P R)
    (newP : Option P) (newR : Option R) (h : valid (newP.getD m.params) (newR.getD m.rvs) = true) :
    (modelReplace valid repair m newP newR).params = newP.getD m.params ∧
    (modelReplace valid repair m newP newR).rvs = newR.getD m.rvs :=
  ⟨canonicalize_valid_untouched valid repair _ _ h, rfl⟩

/-- `replace` repairs invalid resulting estimates — also when only `random_variables` is passed. -/
theorem replace_invalid_repaired {P R : Type} (valid : P → R → Bool) (repair : P → R → P) (m : MState P R)
    (newP : Option P) (newR : Option R) (h : valid (newP.getD m.params) (newR.getD m.rvs) = false) :
    (modelReplace valid repair m newP newR).params = repair (newP.getD m.params) (newR.getD m.rvs) :=
  canonicalize_invalid_repaired valid repair _ _ h

/-- Every model has valid initial estimates: after `create` and any history of `replace` calls
    (parameters, random variables, both or neither passed), the estimates are valid for the
    random variables of the model. -/
theorem model_estimates_always_valid {P R : Type} (valid : P → R → Bool) (repair : P → R → P)
    (hrep : ∀ p r, valid (repair p r) r = true) (p : P) (r : R) (ops : List (Option P × Option R)) :
    let m := modelHistory valid repair (modelCreate valid repair p r) ops
    valid m.params m.rvs = true := by
  exact List.foldlRecOn ops _ (motive := fun m : MState P R => valid m.params m.rvs = true)
    (canonicalize_result_valid valid repair hrep p r)
    fun m _ op _ => canonicalize_result_valid valid repair hrep _ _

/-- The decision matters: if `replace` canonicalised only when `parameters` is passed, replacing
    the random variables alone would leave a model with invalid estimates. -/
theorem replace_only_if_params_witness :
    let valid : Bool → Bool → Bool := fun p r => p == r
    let repair : Bool → Bool → Bool := fun _ r => r
    (∀ p r, valid (repair p r) r = true) ∧
    (let m := modelReplaceOnlyIfParams valid repair (modelCreate valid repair true true) none (some false)
     valid m.params m.rvs = false) ∧
    (let m := modelReplace valid repair (modelCreate valid repair true true) none (some false)
     valid m.params m.rvs = true) := by
  decide +kernel

/-- `triangular_root(T_n) = n` for every n (exact integer square root). -/
theorem triangular_root_of_triangular (n : Nat) : triangularRoot (n * (n + 1) / 2) = n := by
  unfold triangularRoot
  rw [two_mul_tri, sqrt_mul_succ]

/-- `corr2cov(cov2corr(C), sd) = C` for every matrix with at most `|sd|` rows and columns and every
    non-zero vector `sd` (the abstract square roots of the diagonal). -/
theorem corr2cov_cov2corr (v : List Rat) (hv : ∀ x ∈ v, x ≠ 0) (C : List (List Rat))
    (hrows : C.length ≤ v.length) (hcols : ∀ row ∈ C, row.length ≤ v.length) :
    corr2cov (cov2corrWith v C) v = C :=
  map_zip_map_zip _ _ C v hrows fun row hrow vi hvi =>
    map_zip_map_zip _ _ row v (hcols row hrow) fun x _ vj hvj => scale_cancel x vi vj (hv vi hvi) (hv vj hvj)

/-- Entry `(r, c)` of `flattened_to_symmetric(x)`. -/
theorem flattened_entry (x : List Rat) (r c : Nat) (hr : r < triangularRoot x.length) (hc : c < triangularRoot x.length) :
    ((flattenedToSymmetric x).getD r []).getD c 0 =
      if c ≤ r then x.getD (triPos r c) 0 else x.getD (triPos c r) 0 :=
  getD_tabulate _ (fun r c => if c ≤ r then x.getD (triPos r c) 0 else x.getD (triPos c r) 0) 0 r c hr hc

/-- `flattened_to_symmetric` is symmetric and its lower triangle is `x` in row-major order. -/
theorem flattened_symmetric (x : List Rat) (r c : Nat) (hr : r < triangularRoot x.length) (hc : c < triangularRoot x.length) :
    ((flattenedToSymmetric x).getD r []).getD c 0 = ((flattenedToSymmetric x).getD c []).getD r 0 := by
  rw [flattened_entry x r c hr hc, flattened_entry x c r hc hr]
  grind

/-! ## Non-vacuity: the hypotheses are satisfiable on non-trivial inputs -/

def exampleRvs : RVs Entry :=
  [⟨["a", "b", "c"], "IIV", true, [.num 0, .num 0, .num 0],
      [[.sym "A", .sym "AB", .num 0], [.sym "AB", .sym "B", .sym "BC"], [.num 0, .sym "BC", .sym "C"]]⟩,
   normal "d" "IIV" (.num 0) (.sym "D"),
   ⟨["e", "f"], "RUV", true, [.num 0, .num 0], [[.num 2, .num 1], [.num 1, .num 3]]⟩]

example : (names exampleRvs).Nodup := by decide +kernel
example : ∀ d ∈ exampleRvs, Square d := by decide +kernel
example : names (unjoin exampleRvs ["b"]) = ["b", "a", "c", "d", "e", "f"] := by decide +kernel
example : names (getitem exampleRvs ["f", "a", "c"]) = ["a", "c", "f"] := by decide +kernel
example : (join exampleRvs ["c", "d"] (.value (.sym "F"))).toOption.map (fun r => names r.rvs)
    = some ["c", "d", "a", "b", "e", "f"] := by decide +kernel
example : (getCov exampleRvs "a" "c").toOption = some (.num 0) ∧
    (getCov exampleRvs "b" "c").toOption = some (.sym "BC") := by decide +kernel
example : (join exampleRvs ["a", "c", "d"] (.value (.sym "F"))).toOption.map
    (fun r => ((getCov r.rvs "a" "c").toOption, (getCov r.rvs "c" "d").toOption, (getCov r.rvs "a" "b").toOption))
    = some (some (.sym "F"), some (.sym "F"), some (.num 0)) := by decide +kernel
example : validate (fun m => m) (fun _ => true) exampleRvs = true := by decide +kernel
example : SymBlocks exampleRvs := by
  have : ∀ d ∈ exampleRvs, d.var.length ≤ 3 ∧ (∀ row ∈ d.var, row.length ≤ 3) ∧
      ∀ i < 3, ∀ j < 3, ent d.var i j = ent d.var j i := by decide +kernel
  exact fun d hd => ent_sym_of_bounded 3 (this d hd)
example : (join exampleRvs ["a", "c"] (.template fun i j => some (.sym s!"N{i}{j}"))).toOption.map
    (fun r => ((getCov r.rvs "a" "c").toOption, (getCov r.rvs "c" "a").toOption, (getCov r.rvs "a" "a").toOption))
    = some (some (.sym "N01"), some (.sym "N01"), some (.sym "A")) := by decide +kernel

/-- A 3×3 block with six distinct parameters, repaired to the symmetric `B[i,j] = 10·max(i,j) + min(i,j)`:
    the block read back after the write-back is `B` itself (hypotheses of `nearest_valid_block_is_nearest`
    are satisfiable; the conclusion is checked by evaluation). -/
def exampleBlock3 : Dist Entry :=
  ⟨["a", "b", "c"], "IIV", true, [.num 0, .num 0, .num 0],
    [[.sym "A", .sym "AB", .sym "AC"], [.sym "AB", .sym "B", .sym "BC"], [.sym "AC", .sym "BC", .sym "C"]]⟩

example : blockAfter (nearestAssignments (fun m => m) (fun _ => some fun i j => 10 * max i j + min i j)
      [normal "d" "IIV" (.num 0) (.sym "D"), exampleBlock3]) exampleBlock3
    = [[some 0, some 10, some 20], [some 10, some 11, some 21], [some 20, some 21, some 22]] := by decide +kernel

end Pharmpy.C11
