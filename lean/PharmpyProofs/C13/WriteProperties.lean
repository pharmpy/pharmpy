import PharmpyModel.C13.WriteCode
import PharmpyProofs.C13.Lemmas
/-
  C13 — the clause "a dataset written by pharmpy and read back through the generated code is the model's dataset":
  the IGNORE character of the generated `$DATA` record removes the header line `write_csv` writes, whatever the
  first column label is.
-/
namespace Pharmpy.C13

theorem joinWith_prefix (l : Str) (rest : List Str) : ∃ t, joinWith ',' (l :: rest) = l ++ t := by
  cases rest with
  | nil => exact ⟨[], by simp [joinWith]⟩
  | cons y ys => exact ⟨',' :: joinWith ',' (y :: ys), by simp [joinWith]⟩

/-- **ignore_char_skips_header.** For every first column label the character `set_ignore_character_from_header`
    chooses makes every line starting with that label a comment line of the reader. -/
theorem ignore_char_skips_header (l : Str) (ic : Char) (h : ignoreCharFromHeader l = some ic) :
    ∀ t, isComment ic (l ++ t) = true := by
  intro t
  cases l with
  | nil => simp [ignoreCharFromHeader] at h
  | cons c cs =>
    simp only [ignoreCharFromHeader, Option.some.injEq] at h
    by_cases hα : isAlpha c = true
    · have h1 : c ≠ ' ' := by rintro rfl; revert hα; decide
      have h2 : c ≠ '\t' := by rintro rfl; revert hα; decide
      simp only [hα, if_true] at h
      subst h
      simp [isComment, dropBlank, h1, h2, hα]
    · simp only [hα] at h
      subst h
      by_cases hat : c = '@'
      · subst hat
        simp [isComment, dropBlank]
      · simp [isComment, hat]

/-- the empty label is the only refusal (IndexError) -/
theorem ignore_char_defined (l : Str) : (ignoreCharFromHeader l).isSome = !l.isEmpty := by
  cases l <;> simp [ignoreCharFromHeader]

/-- **generated_ignore_skips_header.** For every frame the IGNORE character of the generated `$DATA` record makes
    the header line `write_csv` writes a comment. -/
theorem generated_ignore_skips_header (f : Frame) (ic : Char) (h : generatedIgnore f = some ic) :
    isComment ic (headerLine f) = true := by
  unfold generatedIgnore at h
  unfold headerLine
  cases hc : f.cols with
  | nil => simp [hc] at h
  | cons l rest =>
    simp only [hc] at h
    obtain ⟨t, ht⟩ := joinWith_prefix l rest
    rw [ht]
    exact ignore_char_skips_header l ic h t

/-- a frame with a non-empty first label always gets an IGNORE character -/
theorem generated_ignore_defined (f : Frame) (l : Str) (rest : List Str) (hc : f.cols = l :: rest)
    (hl : l ≠ []) : ∃ ic, generatedIgnore f = some ic := by
  cases l with
  | nil => exact absurd rfl hl
  | cons c cs => exact ⟨if isAlpha c then '@' else c, by simp [generatedIgnore, hc, ignoreCharFromHeader]⟩

theorem renderCsv_eq (f : Frame) : renderCsv f = headerLine f ++ '\n' :: dataLines f := by
  simp [renderCsv, headerLine, dataLines]

/-- **written_header_removed.** For every frame whose labels hold no newline: the prefilter of the
    reader, run with the generated IGNORE character on the file `write_csv` wrote, sees exactly what it
    sees on the data lines alone — the header line is gone, nothing else is touched. -/
theorem written_header_removed (f : Frame) (ic : Char) (h : generatedIgnore f = some ic)
    (hnl : '\n' ∉ headerLine f) :
    prefilter ic (renderCsv f) = prefilter ic (dataLines f) := by
  have hcom := generated_ignore_skips_header f ic h
  have hs := splitNl_line (headerLine f) (dataLines f) hnl
  have hne := splitNl_ne_nil (dataLines f)
  apply prefilter_congr
  · unfold keptTerm
    rw [renderCsv_eq, hs, List.dropLast_cons_of_ne_nil hne]
    simp [hcom]
  · unfold keptLast
    rw [renderCsv_eq, hs, List.getLast?_cons_of_ne_nil hne]

/-- **written_file_read_back.** Reading the written file through the generated code is reading its data lines:
    the header never becomes a row and never raises. -/
theorem written_file_read_back (f : Frame) (ic : Char) (h : generatedIgnore f = some ic)
    (hnl : '\n' ∉ headerLine f) (names : List Str) (drop : List Bool) (null missing : Str) :
    readDataset (renderCsv f) ic names drop null missing 0 [] =
      readDataset (dataLines f) ic names drop null missing 0 [] := by
  unfold readDataset
  rw [written_header_removed f ic h hnl]

/-- the first anonymous DROP / SKIP column of `$INPUT` is called `_DROPn`; its header needs `IGNORE=_` -/
theorem anon_first_column_ignore (n : Nat) : ignoreCharFromHeader (anonName n) = some '_' := by
  simp [anonName, ignoreCharFromHeader, isAlpha]

/-- `$INPUT DROP ID …`: the label of the first column is `_DROP1` and the generated character is `_` -/
theorem anon_first_input_ignore (rest : List InOpt) (ci : ColInfo)
    (h : parseColumnInfo (⟨"DROP".toList, none⟩ :: rest) 1 = some ci) :
    ∃ names, ci.names = anonName 1 :: names ∧ generatedIgnore ⟨ci.names, []⟩ = some '_' := by
  have hd : isDropWord "DROP".toList = true := by simp [isDropWord]
  rw [parseColumnInfo_anon _ _ _ hd, Option.map_eq_some_iff] at h
  obtain ⟨c, _, rfl⟩ := h
  exact ⟨c.names, rfl, anon_first_column_ignore 1⟩

/-- the `@` rule does not remove a header that starts with `_`: choosing `@` for every label that is
    an identifier would keep the header line of `$INPUT DROP ID TIME DV` in the data -/
theorem underscore_header_witness :
    isComment '@' "_DROP1,ID,TIME,DV".toList = false ∧
    ignoreCharFromHeader "_DROP1".toList = some '_' ∧
    isComment '_' "_DROP1,ID,TIME,DV".toList = true := by
  repeat rw [String.toList_ofList]
  decide +kernel

/-- non-vacuity: a three-column frame with an anonymous first column -/
example : generatedIgnore ⟨["_DROP1".toList, "ID".toList, "DV".toList], [["1".toList, "1".toList, "2.5".toList]]⟩ = some '_' ∧
    '\n' ∉ headerLine ⟨["_DROP1".toList, "ID".toList, "DV".toList], [["1".toList, "1".toList, "2.5".toList]]⟩ := by
  repeat rw [String.toList_ofList]
  decide +kernel

example : generatedIgnore ⟨["ID".toList, "DV".toList], []⟩ = some '@' := by
  repeat rw [String.toList_ofList]
  decide +kernel

end Pharmpy.C13
