import PharmpyModel.Core.Expr
import PharmpyModel.C13.Reader
import PharmpyModel.C13.ModelLevel
import PharmpyModel.C13.History
/-
  C13 — lemmas: `re.split` against the documented tokenizer; one IGNORE/ACCEPT query; `float()` and the documented
  number grammar as one reader (`numTail`); rendered rows; the prefilter.
-/
namespace Pharmpy.C13

theorem dropSp_space (r : Str) : dropSp (' ' :: r) = dropSp r := by
  simp [dropSp]

theorem dropSp_cons {c : Char} (h : c ≠ ' ') (r : Str) : dropSp (c :: r) = c :: r := by
  simp [dropSp, h]

theorem drop_spLen (s : Str) : s.drop (spLen s) = dropSp s := by
  induction s with
  | nil => rfl
  | cons c r ih =>
    by_cases h : c = ' '
    · simp [spLen, dropSp, h, ih]
    · simp [spLen, dropSp, h]

theorem dropSp_head (s : Str) : (dropSp s).head? ≠ some ' ' := by
  induction s with
  | nil => simp [dropSp]
  | cons c t ih =>
    by_cases hc : c = ' '
    · rw [hc, dropSp_space]; exact ih
    · rw [dropSp_cons hc]; simpa using hc

theorem isDelim_ne_space {c : Char} (h : isDelim c = true) : c ≠ ' ' := by
  intro e; rw [e] at h; simp [isDelim] at h

theorem sepLen_space (s : Str) : sepLen (' ' :: s) = sepLen s + 1 := by
  rw [sepLen, sepLen, dropSp_space, spLen, if_pos rfl]
  cases dropSp s with
  | nil => rfl
  | cons c r =>
    dsimp only
    by_cases h : isDelim c = true
    · rw [if_pos h, if_pos h]; omega
    · rw [if_neg h, if_neg h]

theorem sepLen_delim {c : Char} (h : isDelim c = true) (s : Str) : sepLen (c :: s) = spLen s + 1 := by
  simp [sepLen, dropSp, spLen, isDelim_ne_space h, h, Nat.add_comm]

theorem sepLen_other {c : Char} (h1 : c ≠ ' ') (h2 : isDelim c = false) (s : Str) :
    sepLen (c :: s) = 0 := by
  simp [sepLen, dropSp, spLen, h1, h2]

theorem splitGo_skip (k : Nat) (s : Str) : splitGo k s = splitGo 0 (s.drop k) := by
  induction k generalizing s with
  | zero => rfl
  | succ k ih =>
    cases s with
    | nil => simp [splitGo]
    | cons c cs => simp [splitGo, ih cs]

theorem splitGo_sep {s : Str} {n : Nat} (h : sepLen s = n + 1) :
    splitGo 0 s = [] :: splitGo 0 (s.drop (n + 1)) := by
  cases s with
  | nil => simp [sepLen, dropSp, spLen] at h
  | cons c cs => rw [splitGo, h, List.drop_succ_cons, ← splitGo_skip]

theorem splitGo_char {c : Char} {cs : Str} (h : sepLen (c :: cs) = 0) :
    splitGo 0 (c :: cs) = consHead c (splitGo 0 cs) := by
  rw [splitGo, h]

theorem tok_dropSp {st : St} (h : st ≠ .item) (s : Str) : tok st (dropSp s) = tok st s := by
  induction s with
  | nil => rfl
  | cons c r ih =>
    by_cases hc : c = ' '
    · rw [hc, dropSp_space, ih]
      cases st <;> simp_all [tok]
    · rw [dropSp_cons hc]

theorem tok_cons_eq_item {st : St} (h : st ≠ .gap) {c : Char} (hc : c ≠ ' ') (r : Str) :
    tok st (c :: r) = tok .item (c :: r) := by
  cases st <;> simp_all [tok]

theorem tok_lead_eq_delim (s : Str) : tok .lead s = tok .delim s := by
  induction s with
  | nil => rfl
  | cons c r ih => simp [tok, ih]

theorem getLast?_tail_ne_space {c : Char} {r : Str} (h : (c :: r).getLast? ≠ some ' ') : r.getLast? ≠ some ' ' := by
  cases r with
  | nil => simp
  | cons d t => rwa [List.getLast?_cons_cons] at h

/-- Each state of the documented tokenizer is a position of `re.split`: inside an item it stands where
    `re.split` stands; after a delimiter `re.split` has also consumed the following spaces; in a gap (an item and
    spaces read) `re.split` is still inside the separator match that started at the first space. A row ending
    in a space is different: `re.split` reports a last empty item, the rules do not. -/
theorem split_eq_tok (s : Str) :
    (s.getLast? ≠ some ' ' → splitGo 0 s = tok .item s ∧ splitGo 0 (dropSp s) = tok .delim s) ∧
    ((' ' :: s).getLast? ≠ some ' ' → splitGo 0 (s.drop (sepLen s)) = tok .gap s) := by
  induction s with
  | nil => exact ⟨fun _ => ⟨rfl, rfl⟩, fun h => absurd rfl h⟩
  | cons c cs ih =>
    have item : (c :: cs).getLast? ≠ some ' ' → splitGo 0 (c :: cs) = tok .item (c :: cs) := by
      intro h
      by_cases hc : c = ' '
      · subst hc
        rw [splitGo_sep (sepLen_space cs), List.drop_succ_cons, ih.2 h, tok, if_pos rfl]
      · by_cases hd : isDelim c = true
        · rw [splitGo_sep (sepLen_delim hd cs), List.drop_succ_cons, drop_spLen, (ih.1 (getLast?_tail_ne_space h)).2,
            tok, if_neg hc, if_pos hd]
        · rw [splitGo_char (sepLen_other hc (by simpa using hd) cs), (ih.1 (getLast?_tail_ne_space h)).1,
            tok, if_neg hc, if_neg hd]
    refine ⟨fun h => ⟨item h, ?_⟩, fun h => ?_⟩
    · by_cases hc : c = ' '
      · subst hc
        rw [dropSp_space, (ih.1 (getLast?_tail_ne_space h)).2, tok, if_pos rfl]
      · rw [dropSp_cons hc, item h]
        exact (tok_cons_eq_item (by simp) hc cs).symm
    · have h' := getLast?_tail_ne_space h
      by_cases hc : c = ' '
      · subst hc
        rw [sepLen_space, List.drop_succ_cons, ih.2 h', tok, if_pos rfl]
      · by_cases hd : isDelim c = true
        · rw [sepLen_delim hd, List.drop_succ_cons, drop_spLen, (ih.1 (getLast?_tail_ne_space h')).2,
            tok, if_neg hc, if_pos hd]
        · rw [sepLen_other hc (by simpa using hd), List.drop_zero, item h', tok, tok, if_neg hc, if_neg hc,
            if_neg hd, if_neg hd]

theorem spLen_dropSp_eq (s : Str) : s = List.replicate (spLen s) ' ' ++ dropSp s := by
  induction s with
  | nil => rfl
  | cons c r ih =>
    by_cases hc : c = ' '
    · subst hc
      rw [spLen, dropSp_space, if_pos rfl, List.replicate_succ, List.cons_append, ← ih]
    · simp [spLen, dropSp, hc]

theorem dropSp_eq_spStrip_append (l : Str) :
    ∃ k, dropSp l = spStrip l ++ List.replicate k ' ' := by
  refine ⟨spLen (dropSp l).reverse, ?_⟩
  have h := congrArg List.reverse (spLen_dropSp_eq (dropSp l).reverse)
  rwa [List.reverse_reverse, List.reverse_append, List.reverse_replicate] at h

theorem spStrip_head (l : Str) : (spStrip l).head? ≠ some ' ' := by
  obtain ⟨k, hk⟩ := dropSp_eq_spStrip_append l
  have := dropSp_head l
  rw [hk] at this
  cases hs : spStrip l with
  | nil => simp
  | cons c r => rwa [hs] at this

theorem spStrip_last (l : Str) : (spStrip l).getLast? ≠ some ' ' := by
  rw [spStrip, List.getLast?_reverse]
  exact dropSp_head _

theorem dropSp_of_head {s : Str} (h : s.head? ≠ some ' ') : dropSp s = s := by
  cases s with
  | nil => rfl
  | cons c r => exact dropSp_cons (by simpa using h) r

theorem tok_append_space (st : St) (t : Str) : tok st (t ++ [' ']) = tok st t := by
  induction t generalizing st with
  | nil => cases st <;> rfl
  | cons c r ih => cases st <;> simp only [List.cons_append, tok, ih]

theorem tok_append_spaces (st : St) (t : Str) (k : Nat) :
    tok st (t ++ List.replicate k ' ') = tok st t := by
  induction k with
  | zero => simp
  | succ k ih =>
    rw [List.replicate_succ', ← List.append_assoc, tok_append_space, ih]

theorem tok_lead_spStrip (l : Str) : tok .lead l = tok .lead (spStrip l) := by
  obtain ⟨k, hk⟩ := dropSp_eq_spStrip_append l
  rw [← tok_dropSp (by simp) l, hk, tok_append_spaces]

theorem dropWs_dropSp (s : Str) : dropWs (dropSp s) = dropWs s := by
  induction s with
  | nil => rfl
  | cons c r ih =>
    by_cases hc : c = ' '
    · subst hc; rw [dropSp_space, ih, dropWs, if_pos (by decide)]
    · rw [dropSp_cons hc]

theorem dropWs_eq_dropSp (z : Str)
    (h : (match dropSp z with | c :: _ => !isPyWs c | [] => true) = true) : dropWs z = dropSp z := by
  rw [← dropWs_dropSp]
  cases hd : dropSp z with
  | nil => rfl
  | cons c r =>
    rw [hd] at h
    rw [dropWs, if_neg (by simpa using h)]

theorem pyStrip_eq_spStrip {l : Str} (h : edgeOk l = true) : pyStrip l = spStrip l := by
  simp only [edgeOk, Bool.and_eq_true] at h
  obtain ⟨h1, h2⟩ := h
  have hlead : dropWs l = dropSp l := by
    apply dropWs_eq_dropSp
    obtain ⟨k, hk⟩ := dropSp_eq_spStrip_append l
    cases hs : spStrip l with
    | nil =>
      -- only spaces would be left, and `dropSp l` does not start with one
      cases k with
      | zero => rw [hk, hs]; rfl
      | succ k => exact absurd (by rw [hk, hs]; rfl) (dropSp_head l)
    | cons c r => rw [hk, hs]; rwa [hs] at h1
  have htrail : dropWs (dropSp l).reverse = dropSp (dropSp l).reverse := by
    apply dropWs_eq_dropSp
    rwa [spStrip, List.reverse_reverse] at h2
  rw [pyStrip, spStrip, hlead, htrail]

/-- the reader splits a row as the documented rules say, whenever `strip()` removes only spaces -/
theorem split_eq_spec {l : Str} (h : edgeOk l = true) : lineItems l = specItems l := by
  rw [lineItems, reSplit, specItems, pyStrip_eq_spStrip h, tok_lead_spStrip, tok_lead_eq_delim,
    ← ((split_eq_tok _).1 (spStrip_last l)).2, dropSp_of_head (spStrip_head l)]

/-- the row passes filter `f` (its condition can be evaluated and says "keep") -/
def keeps (names : List Str) (null missing : Str) (ig : Bool) (f : Filt) (r : List (Option Str)) : Bool :=
  match condHolds names null missing f r with
  | .ok b => b != ig
  | .error _ => false

/-- one `df.query`: either every row can be evaluated and the rows that pass are kept in order, or the error
    is that of some row -/
theorem applyFilter_spec (names : List Str) (null missing : Str) (ig : Bool) (f : Filt)
    (rows : List (List (Option Str))) :
    match applyFilter names null missing ig f rows with
    | .ok out => out = rows.filter (keeps names null missing ig f)
    | .error e => ∃ r, r ∈ rows ∧ condHolds names null missing f r = .error e := by
  induction rows with
  | nil => rfl
  | cons r rs ih =>
    rw [applyFilter]
    cases hc : condHolds names null missing f r with
    | error e => exact ⟨r, by simp, hc⟩
    | ok b =>
      dsimp only
      cases hr : applyFilter names null missing ig f rs with
      | error e =>
        rw [hr] at ih
        obtain ⟨r', hm, hc'⟩ := ih
        exact ⟨r', by simp [hm], hc'⟩
      | ok rest =>
        rw [hr] at ih
        dsimp only at ih ⊢
        rw [List.filter_cons, keeps, hc, ← ih]

theorem applyFilter_ok {names : List Str} {null missing : Str} {ig : Bool} {f : Filt}
    {rows out : List (List (Option Str))} (h : applyFilter names null missing ig f rows = .ok out) :
    out = rows.filter (keeps names null missing ig f) := by
  have := applyFilter_spec names null missing ig f rows
  rwa [h] at this

theorem applyFilter_error {names : List Str} {null missing : Str} {ig : Bool} {f : Filt}
    {rows : List (List (Option Str))} {e : RErr} (h : applyFilter names null missing ig f rows = .error e) :
    ∃ r, r ∈ rows ∧ condHolds names null missing f r = .error e := by
  have := applyFilter_spec names null missing ig f rows
  rwa [h] at this

theorem padTo_length (w : Nat) (r : List (Option Str)) : (padTo w r).length = w := by
  simp only [padTo, List.length_take, List.length_append, List.length_replicate]; omega

theorem shapeRow_length (n w : Nat) (null : Str) (r : List (Option Str)) (h : r.length = w) :
    (shapeRow n w null r).length = n := by
  simp only [shapeRow, List.length_take, List.length_append, List.length_replicate, h]; omega

theorem isSign_iff {c : Char} : isSign c = true ↔ c = '+' ∨ c = '-' := by
  simp [isSign]

theorem isDig_ne {c x : Char} (h : isDig c = true) (hx : isDig x = false) : c ≠ x :=
  fun e => by rw [e, hx] at h; cases h

theorem notSD_of_isDig {c : Char} (h : isDig c = true) : notSD c = true := by
  simp only [notSD, Bool.not_eq_true', Bool.or_eq_false_iff, decide_eq_false_iff_not]
  exact ⟨⟨⟨isDig_ne h (by decide), isDig_ne h (by decide)⟩, isDig_ne h (by decide)⟩, isDig_ne h (by decide)⟩

theorem isSign_of_notSD {c : Char} (h : notSD c = true) : isSign c = false := by
  simp [notSD] at h
  simp [isSign, h.1.1.1, h.1.1.2]

theorem notSD_of_isSign {c : Char} (hc : isSign c = true) : notSD c = false := by
  rcases isSign_iff.mp hc with rfl | rfl <;> rfl

theorem takeSign_sign {c : Char} (hc : isSign c = true) (r : Str) : takeSign (c :: r) = (decide (c = '-'), r) := by
  rcases isSign_iff.mp hc with rfl | rfl <;> rfl

theorem takeSign_not_sign {c : Char} (h : isSign c = false) (r : Str) : takeSign (c :: r) = (false, c :: r) := by
  have : c ≠ '+' ∧ c ≠ '-' := by simpa [isSign] using h
  simp [takeSign, this.1, this.2]

theorem takeWhile_stop {p : Char → Bool} (a : Str) {x : Char} (y : Str) (hx : p x = false) :
    (a ++ x :: y).takeWhile p = a.takeWhile p := by
  induction a with
  | nil => simp [hx]
  | cons c t ih => by_cases hc : p c = true <;> simp [List.takeWhile, hc, ih]

theorem dropWhile_stop {p : Char → Bool} (a : Str) {x : Char} (y : Str) (hx : p x = false) :
    (a ++ x :: y).dropWhile p = a.dropWhile p ++ x :: y := by
  induction a with
  | nil => simp [hx]
  | cons c t ih => by_cases hc : p c = true <;> simp [List.dropWhile, hc, ih]

theorem mem_takeWhile {p : Char → Bool} {l : Str} {x : Char} (h : x ∈ l.takeWhile p) : p x = true :=
  List.all_eq_true.mp List.all_takeWhile x h

/-- the optional fraction behind the integer digits: (fraction digits, rest) -/
def fracOf (s : Str) : Str × Str :=
  match s with
  | c :: r => if c = '.' then (r.takeWhile isDig, r.dropWhile isDig) else ([], s)
  | [] => ([], s)

theorem scanMant_eq (s : Str) :
    scanMant s =
      if (s.takeWhile isDig).isEmpty && (fracOf (s.dropWhile isDig)).1.isEmpty then none
      else some (s.takeWhile isDig, (fracOf (s.dropWhile isDig)).1, (fracOf (s.dropWhile isDig)).2) := by
  rfl

theorem fracOf_append (a : Str) {x : Char} (y : Str) (hx1 : isDig x = false) (hx2 : x ≠ '.') :
    fracOf (a ++ x :: y) = ((fracOf a).1, (fracOf a).2 ++ x :: y) := by
  cases a with
  | nil => simp [fracOf, hx2]
  | cons c r =>
    simp only [fracOf, List.cons_append]
    split
    · rw [takeWhile_stop r y hx1, dropWhile_stop r y hx1]
    · rfl

theorem scanMant_append (a : Str) {x : Char} (y : Str) (hx1 : isDig x = false) (hx2 : x ≠ '.') :
    scanMant (a ++ x :: y) = (scanMant a).map (fun t => (t.1, t.2.1, t.2.2 ++ x :: y)) := by
  rw [scanMant_eq, scanMant_eq, takeWhile_stop a y hx1, dropWhile_stop a y hx1, fracOf_append _ y hx1 hx2]
  split <;> rfl

theorem scanMant_split (s1 ip fp rest : Str) (h : scanMant s1 = some (ip, fp, rest)) :
    ∃ M, s1 = M ++ rest ∧ (∀ c ∈ M, notSD c = true) := by
  rw [scanMant_eq] at h
  split at h
  · cases h
  · simp only [Option.some.injEq, Prod.mk.injEq] at h
    obtain ⟨-, -, rfl⟩ := h
    have hdig : ∀ c ∈ s1.takeWhile isDig, notSD c = true := fun c hc => notSD_of_isDig (mem_takeWhile hc)
    have hs := (List.takeWhile_append_dropWhile (p := isDig) (l := s1)).symm
    generalize s1.dropWhile isDig = s2 at hs ⊢
    unfold fracOf
    split
    · next c r =>
      split
      · next hc =>
        refine ⟨s1.takeWhile isDig ++ '.' :: r.takeWhile isDig, ?_, ?_⟩
        · rw [List.append_assoc, List.cons_append, List.takeWhile_append_dropWhile, ← hc]
          exact hs
        · intro x hx
          rcases List.mem_append.mp hx with h1 | h1
          · exact hdig x h1
          · rcases List.mem_cons.mp h1 with rfl | h2
            · decide
            · exact notSD_of_isDig (mem_takeWhile h2)
      · exact ⟨_, hs, hdig⟩
    · exact ⟨_, hs, hdig⟩

theorem replD_cases (c : Char) : (replD c = c ∧ c ≠ 'D' ∧ c ≠ 'd') ∨ (replD c = 'e' ∧ (c = 'D' ∨ c = 'd')) := by
  unfold replD
  by_cases h : c = 'D' ∨ c = 'd'
  · exact Or.inr ⟨if_pos (by simpa using h), h⟩
  · rw [not_or] at h
    exact Or.inl ⟨by simp [h.1, h.2], h⟩

theorem isDig_replD (c : Char) : isDig (replD c) = isDig c := by
  rcases replD_cases c with ⟨h, -⟩ | ⟨h, rfl | rfl⟩ <;> rw [h] <;> rfl

theorem replD_of_isDig {c : Char} (h : isDig c = true) : replD c = c := by
  rcases replD_cases c with ⟨h1, -⟩ | ⟨-, rfl | rfl⟩
  · exact h1
  · cases h
  · cases h

/-- the replacement only ever produces an `e` -/
theorem replD_eq_iff (c : Char) {x : Char} (hx : x ≠ 'e') (hx1 : x ≠ 'D') (hx2 : x ≠ 'd') : replD c = x ↔ c = x := by
  rcases replD_cases c with ⟨h, -⟩ | ⟨h, rfl | rfl⟩ <;> rw [h]
  · exact ⟨fun e => absurd e.symm hx, fun e => absurd e.symm hx1⟩
  · exact ⟨fun e => absurd e.symm hx, fun e => absurd e.symm hx2⟩

theorem map_replD_digits {l : Str} (h : ∀ c ∈ l, isDig c = true) : l.map replD = l :=
  (List.map_congr_left fun c hc => replD_of_isDig (h c hc)).trans (List.map_id' l)

theorem takeWhile_map_replD (l : Str) : (l.map replD).takeWhile isDig = l.takeWhile isDig := by
  have : isDig ∘ replD = isDig := funext isDig_replD
  rw [List.takeWhile_map, this, map_replD_digits (fun c hc => mem_takeWhile hc)]

theorem dropWhile_map_replD (l : Str) : (l.map replD).dropWhile isDig = (l.dropWhile isDig).map replD := by
  have : isDig ∘ replD = isDig := funext isDig_replD
  rw [List.dropWhile_map, this]

theorem fracOf_map_replD (s : Str) : fracOf (s.map replD) = ((fracOf s).1, (fracOf s).2.map replD) := by
  cases s with
  | nil => rfl
  | cons c r =>
    simp only [fracOf, List.map_cons, replD_eq_iff c (x := '.') (by decide) (by decide) (by decide)]
    split
    · rw [takeWhile_map_replD, dropWhile_map_replD]
    · rfl

theorem scanMant_map_replD (s : Str) :
    scanMant (s.map replD) = (scanMant s).map (fun t => (t.1, t.2.1, t.2.2.map replD)) := by
  rw [scanMant_eq, scanMant_eq, takeWhile_map_replD, dropWhile_map_replD, fracOf_map_replD]
  split <;> rfl

theorem takeSign_map_replD (s : Str) : takeSign (s.map replD) = ((takeSign s).1, (takeSign s).2.map replD) := by
  cases s with
  | nil => rfl
  | cons c r =>
    rw [List.map_cons]
    rcases replD_cases c with ⟨h, -⟩ | ⟨h, rfl | rfl⟩ <;> rw [h]
    · by_cases hc : isSign c = true
      · rw [takeSign_sign hc, takeSign_sign hc]
      · rw [takeSign_not_sign (by simpa using hc), takeSign_not_sign (by simpa using hc), List.map_cons, h]
    · rfl
    · rfl

theorem scanExp_map_replD (r : Str) : scanExp (r.map replD) = scanExp r := by
  unfold scanExp
  rw [takeSign_map_replD]
  cases takeSign r with
  | mk neg w =>
    have hall : (w.map replD).all isDig = w.all isDig := by
      rw [List.all_map]; exact congrArg _ (funext isDig_replD)
    dsimp only
    rw [hall, List.isEmpty_map]
    by_cases h : w.all isDig = true
    · rw [map_replD_digits (List.all_eq_true.mp h)]
    · rw [Bool.eq_false_iff.mpr h, Bool.not_false, Bool.or_true, if_pos rfl, if_pos rfl]

theorem scanExp_sign {c : Char} (hc : isSign c = true) (r : Str) :
    scanExp (c :: r) =
      if r.isEmpty || !(r.all isDig) then none
      else some (if c = '-' then - (digitsVal r : Int) else (digitsVal r : Int)) := by
  rw [scanExp, takeSign_sign hc]
  rcases isSign_iff.mp hc with rfl | rfl <;> rfl

/-- what may follow the mantissa for `float()`: nothing, or `e`/`E` and an exponent -/
def pyExp : Str → Option Int
  | [] => some 0
  | c :: r => if c = 'e' || c = 'E' then scanExp r else none

/-- what may follow the mantissa by the documented grammar: nothing, an exponent behind `E`/`e`/`D`/`d`, or
    (the short form) the signed exponent without a letter -/
def specExp : Str → Option Int
  | [] => some 0
  | c :: r =>
    if c = 'e' || c = 'E' || c = 'd' || c = 'D' then scanExp r
    else if isSign c then scanExp (c :: r) else none

/-- a number without its sign: the mantissa, and the rest of the text read as an exponent by `ex` -/
def numTail (ex : Str → Option Int) (neg : Bool) (s1 : Str) : Option Dec :=
  match scanMant s1 with
  | none => none
  | some (ip, fp, rest) => (ex rest).map (mkDec neg ip fp)

theorem numTail_eq {s1 ip fp rest : Str} (hm : scanMant s1 = some (ip, fp, rest)) (ex : Str → Option Int)
    (neg : Bool) : numTail ex neg s1 = (ex rest).map (mkDec neg ip fp) := by
  rw [numTail, hm]

theorem pyFloat_eq (s : Str) : pyFloat s = numTail pyExp (takeSign s).1 (takeSign s).2 := by
  unfold pyFloat numTail
  cases takeSign s with
  | mk neg s1 =>
    dsimp only
    cases scanMant s1 with
    | none => rfl
    | some t =>
      obtain ⟨ip, fp, rest⟩ := t
      cases rest with
      | nil => rfl
      | cons c r =>
        dsimp only [pyExp]
        split
        · cases scanExp r <;> rfl
        · rfl

theorem specNumber_eq {s : Str} (h : ¬ (s = ['+'] ∨ s = ['-'])) :
    specNumber s = numTail specExp (takeSign s).1 (takeSign s).2 := by
  unfold specNumber numTail
  rw [if_neg (by simpa using h)]
  cases takeSign s with
  | mk neg s1 =>
    dsimp only
    cases scanMant s1 with
    | none => rfl
    | some t =>
      obtain ⟨ip, fp, rest⟩ := t
      cases rest with
      | nil => rfl
      | cons c r =>
        dsimp only [specExp]
        by_cases h1 : (decide (c = 'e') || decide (c = 'E') || decide (c = 'd') || decide (c = 'D')) = true
        · rw [if_pos h1, if_pos h1]
          cases scanExp r <;> rfl
        · rw [if_neg h1, if_neg h1]
          by_cases hc : isSign c = true
          · rw [if_pos hc, if_pos hc, scanExp_sign hc]
            split <;> rfl
          · rw [if_neg hc, if_neg hc]; rfl

theorem numTail_eq_some {ex : Str → Option Int} {neg : Bool} {s1 : Str} {v : Dec} :
    numTail ex neg s1 = some v ↔
      ∃ ip fp rest e, scanMant s1 = some (ip, fp, rest) ∧ ex rest = some e ∧ mkDec neg ip fp e = v := by
  unfold numTail
  cases scanMant s1 with
  | none => simp
  | some t =>
    obtain ⟨ip, fp, rest⟩ := t
    dsimp only
    rw [Option.map_eq_some_iff]
    constructor
    · rintro ⟨e, he, hv⟩
      exact ⟨ip, fp, rest, e, rfl, he, hv⟩
    · rintro ⟨_, _, _, e, hm, he, hv⟩
      cases hm
      exact ⟨e, he, hv⟩

theorem numTail_mono {ex ex' : Str → Option Int} (hex : ∀ rest e, ex rest = some e → ex' rest = some e)
    {neg : Bool} {s1 : Str} {v : Dec} (h : numTail ex neg s1 = some v) : numTail ex' neg s1 = some v := by
  obtain ⟨ip, fp, rest, e, hm, he, hv⟩ := numTail_eq_some.mp h
  exact numTail_eq_some.mpr ⟨ip, fp, rest, e, hm, hex rest e he, hv⟩

theorem numTail_append (ex : Str → Option Int) (neg : Bool) (a : Str) {x : Char} (y : Str)
    (hx1 : isDig x = false) (hx2 : x ≠ '.') :
    numTail ex neg (a ++ x :: y) =
      match scanMant a with
      | none => none
      | some (ip, fp, r0) => (ex (r0 ++ x :: y)).map (mkDec neg ip fp) := by
  unfold numTail
  rw [scanMant_append a y hx1 hx2]
  cases scanMant a <;> rfl

theorem specExp_of_pyExp (rest : Str) (e : Int) (h : pyExp rest = some e) : specExp rest = some e := by
  cases rest with
  | nil => exact h
  | cons c r =>
    rw [pyExp] at h
    split at h
    · next hc =>
      simp only [Bool.or_eq_true, decide_eq_true_eq] at hc
      rcases hc with rfl | rfl <;> exact h
    · cases h

/-- the three ways the documented grammar reads an exponent: as `float()` does, behind a `D`, or without a letter -/
theorem specExp_cases {rest : Str} {e : Int} (h : specExp rest = some e) :
    pyExp rest = some e ∨
    (∃ x r, rest = x :: r ∧ (x = 'D' ∨ x = 'd') ∧ pyExp rest = none ∧ scanExp r = some e) ∨
    (∃ x r, rest = x :: r ∧ isSign x = true ∧ pyExp rest = none ∧ scanExp (x :: r) = some e) := by
  cases rest with
  | nil => exact Or.inl h
  | cons x r =>
    rw [specExp] at h
    split at h
    · next hx =>
      simp only [Bool.or_eq_true, decide_eq_true_eq] at hx
      rcases hx with ((rfl | rfl) | rfl) | rfl
      · exact Or.inl h
      · exact Or.inl h
      · exact Or.inr (Or.inl ⟨_, r, rfl, Or.inr rfl, rfl, h⟩)
      · exact Or.inr (Or.inl ⟨_, r, rfl, Or.inl rfl, rfl, h⟩)
    · next hx =>
      split at h
      · next hs =>
        refine Or.inr (Or.inr ⟨x, r, rfl, hs, ?_, h⟩)
        rcases isSign_iff.mp hs with rfl | rfl <;> rfl
      · cases h

theorem scanExp_digits {s : Str} {e : Int} (h : scanExp s = some e) : (takeSign s).2.all isDig = true := by
  unfold scanExp at h
  cases hts : takeSign s with
  | mk neg w =>
    rw [hts] at h
    by_cases hq : (w.isEmpty || !w.all isDig) = true
    · simp only [if_pos hq] at h; cases h
    · simp only [Bool.or_eq_true, Bool.not_eq_true', not_or, Bool.not_eq_false] at hq
      exact hq.2

theorem takeSign_suffix (s : Str) : ∃ p, s = p ++ (takeSign s).2 ∧ ∀ c ∈ p, isSign c = true := by
  cases s with
  | nil => exact ⟨[], rfl, nofun⟩
  | cons c r =>
    by_cases hc : isSign c = true
    · exact ⟨[c], by rw [takeSign_sign hc]; rfl, by simpa using hc⟩
    · exact ⟨[], by rw [takeSign_not_sign (by simpa using hc)]; rfl, nofun⟩

theorem scanExp_none_of_mem {x : Char} {r : Str} (hx : x ∈ r) (h1 : isDig x = false) (h2 : isSign x = false) :
    scanExp r = none := by
  cases he : scanExp r with
  | none => rfl
  | some e =>
    obtain ⟨p, hp, hps⟩ := takeSign_suffix r
    rw [hp] at hx
    rcases List.mem_append.mp hx with h | h
    · rw [hps x h] at h2; cases h2
    · rw [List.all_eq_true.mp (scanExp_digits he) x h] at h1; cases h1

theorem specExp_sign {c : Char} (hc : isSign c = true) (r : Str) : specExp (c :: r) = scanExp (c :: r) := by
  rw [specExp, if_neg (by rcases isSign_iff.mp hc with rfl | rfl <;> decide), if_pos hc]

theorem pyFloat_map_replD (s : Str) :
    pyFloat (s.map replD) = numTail (fun rest => pyExp (rest.map replD)) (takeSign s).1 (takeSign s).2 := by
  rw [pyFloat_eq, takeSign_map_replD]
  unfold numTail
  rw [scanMant_map_replD]
  cases scanMant (takeSign s).2 <;> rfl

theorem pyExp_map_replD (c : Char) (r : Str) :
    pyExp ((c :: r).map replD) =
      if c = 'e' || c = 'E' || c = 'd' || c = 'D' then scanExp r else none := by
  rw [List.map_cons, pyExp, scanExp_map_replD]
  rcases replD_cases c with ⟨h, h1, h2⟩ | ⟨h, rfl | rfl⟩
  · rw [h]; simp [h1, h2]
  · rfl
  · rfl

theorem specExp_of_pyExp_map_replD (rest : Str) (e : Int) (h : pyExp (rest.map replD) = some e) :
    specExp rest = some e := by
  cases rest with
  | nil => exact h
  | cons c r =>
    rw [pyExp_map_replD] at h
    split at h
    · next h1 => rw [specExp, if_pos h1]; exact h
    · cases h

/-- one attempt of the anchored match succeeds exactly on `g2 sign r3` with `g2`, `r3` free of signs and D -/
theorem shortTry_eq_some {g1 : Option Char} {rest t : Str} :
    shortTry g1 rest = some t ↔
      ∃ g2 c r3, rest = g2 ++ c :: r3 ∧ (∀ a ∈ g2, notSD a = true) ∧ isSign c = true ∧ r3.all notSD = true ∧
        t = (if g1 = some '-' then ['-'] else []) ++ g2 ++ ['E', c] ++ r3 := by
  constructor
  · intro h
    unfold shortTry at h
    cases hd : rest.dropWhile notSD with
    | nil => rw [hd] at h; cases h
    | cons c r3 =>
      rw [hd] at h
      dsimp only at h
      split at h
      · next hq =>
        rw [Bool.and_eq_true] at hq
        refine ⟨rest.takeWhile notSD, c, r3, ?_, fun a ha => mem_takeWhile ha, hq.1, hq.2, ?_⟩
        · rw [← hd, List.takeWhile_append_dropWhile]
        · injection h with h; exact h.symm
      · cases h
  · rintro ⟨g2, c, r3, rfl, hg, hc, hr, rfl⟩
    have hn : ¬ notSD c = true := by rw [notSD_of_isSign hc]; simp
    rw [shortTry, List.takeWhile_append_of_pos hg, List.dropWhile_append_of_pos hg,
      List.takeWhile_cons_of_neg hn, List.dropWhile_cons_of_neg hn]
    simp [hc, hr]

theorem pyExp_append_E (r0 y : Str) : pyExp (r0 ++ 'E' :: y) = if r0 = [] then scanExp y else none := by
  cases r0 with
  | nil => rfl
  | cons c r =>
    rw [if_neg (by simp), List.cons_append, pyExp, scanExp_none_of_mem (x := 'E') (by simp) rfl rfl]
    simp

theorem pyFloat_short (g1 : Option Char) {g2 : Str} (hg : ∀ a ∈ g2, notSD a = true) (y : Str) :
    pyFloat ((if g1 = some '-' then ['-'] else []) ++ g2 ++ 'E' :: y) =
      numTail pyExp (decide (g1 = some '-')) (g2 ++ 'E' :: y) := by
  rw [pyFloat_eq]
  by_cases h : g1 = some '-'
  · simp only [h, if_true]; rfl
  · simp only [h, if_false, List.nil_append, decide_false]
    cases g2 with
    | nil => rfl
    | cons c r => rw [List.cons_append, takeSign_not_sign (isSign_of_notSD (hg c (by simp)))]

/-- `float(g2 + 'E' + sign + r3)` needs `g2` to be a whole mantissa, as the documented reading of `g2 sign r3` does -/
theorem numTail_pyExp_short {neg : Bool} {g2 : Str} {c : Char} {r3 : Str} {v : Dec} :
    numTail pyExp neg (g2 ++ 'E' :: c :: r3) = some v ↔
      ∃ ip fp, scanMant g2 = some (ip, fp, []) ∧ (scanExp (c :: r3)).map (mkDec neg ip fp) = some v := by
  rw [numTail_append _ _ _ _ rfl (by decide)]
  cases scanMant g2 with
  | none => simp
  | some t =>
    obtain ⟨ip, fp, r0⟩ := t
    dsimp only
    rw [pyExp_append_E]
    cases r0 with
    | nil => exact ⟨fun h => ⟨ip, fp, rfl, h⟩, by rintro ⟨_, _, h, hv⟩; cases h; exact hv⟩
    | cons x r => simp

theorem numTail_specExp_short (neg : Bool) {g2 ip fp : Str} (hm : scanMant g2 = some (ip, fp, [])) {c : Char}
    (hc : isSign c = true) (r3 : Str) :
    numTail specExp neg (g2 ++ c :: r3) = (scanExp (c :: r3)).map (mkDec neg ip fp) := by
  have hc' := isSign_iff.mp hc
  rw [numTail_append _ _ _ _ (by rcases hc' with rfl | rfl <;> rfl) (by rcases hc' with rfl | rfl <;> decide), hm]
  dsimp only [List.nil_append]
  rw [specExp_sign hc]

theorem shortTry_sound {g1 : Option Char} {rest t : Str} {v : Dec} (h : shortTry g1 rest = some t)
    (hp : pyFloat t = some v) : numTail specExp (decide (g1 = some '-')) rest = some v := by
  obtain ⟨g2, c, r3, rfl, hg, hc, -, rfl⟩ := shortTry_eq_some.mp h
  rw [List.append_assoc, List.cons_append, List.cons_append, List.nil_append, pyFloat_short g1 hg,
    numTail_pyExp_short] at hp
  obtain ⟨ip, fp, hm, hv⟩ := hp
  rw [numTail_specExp_short _ hm hc, hv]

/-- the retry with an empty group 1 hands `float()` a text starting with `E` -/
theorem shortTry_retry {c : Char} (hc : isSign c = true) {r t : Str} (h : shortTry none (c :: r) = some t) :
    pyFloat t = none := by
  have hn : ¬ notSD c = true := by rw [notSD_of_isSign hc]; nofun
  rw [shortTry, List.takeWhile_cons_of_neg hn, List.dropWhile_cons_of_neg hn] at h
  dsimp only at h
  by_cases hq : (isSign c && r.all notSD) = true
  · rw [if_pos hq] at h
    injection h with h
    rw [← h]; rfl
  · rw [if_neg hq] at h; cases h

/-- Group 1 of the short-form regex is the sign `takeSign` removes; the retry with an empty group 1 gives no
    number. -/
theorem shortForm_cases (s : Str) :
    ∃ g1, (takeSign s).1 = decide (g1 = some '-') ∧ ∀ t,
      (shortTry g1 (takeSign s).2 = some t → shortForm s = some t) ∧
      (shortForm s = some t → shortTry g1 (takeSign s).2 = some t ∨ pyFloat t = none) := by
  cases s with
  | nil => exact ⟨none, rfl, fun t => ⟨nofun, nofun⟩⟩
  | cons c r =>
    by_cases hc : isSign c = true
    · refine ⟨some c, by rw [takeSign_sign hc]; exact decide_eq_decide.mpr ⟨congrArg some, Option.some.inj⟩, fun t => ?_⟩
      rw [takeSign_sign hc, shortForm, if_pos hc]
      cases h1 : shortTry (some c) r with
      | some t' => exact ⟨id, Or.inl⟩
      | none => exact ⟨nofun, fun h => Or.inr (shortTry_retry hc h)⟩
    · have hc' : isSign c = false := by simpa using hc
      refine ⟨none, by rw [takeSign_not_sign hc']; rfl, fun t => ?_⟩
      rw [takeSign_not_sign hc', shortForm, if_neg hc]
      exact ⟨id, Or.inl⟩

theorem shortForm_none_of_D {s : Str} {x : Char} (hx : x ∈ s) (hD : x = 'D' ∨ x = 'd') : shortForm s = none := by
  have key : ∀ g1 rest t, shortTry g1 rest = some t → x ∉ rest := by
    intro g1 rest t h hm
    obtain ⟨g2, c, r3, rfl, hg, hc, hr, -⟩ := shortTry_eq_some.mp h
    have hn : notSD x = false := by rcases hD with rfl | rfl <;> rfl
    have hs : isSign x = false := by rcases hD with rfl | rfl <;> rfl
    rcases List.mem_append.mp hm with h1 | h1
    · rw [hg x h1] at hn; cases hn
    · rcases List.mem_cons.mp h1 with rfl | h2
      · rw [hc] at hs; cases hs
      · rw [List.all_eq_true.mp hr x h2] at hn; cases hn
  cases hs : shortForm s with
  | none => rfl
  | some t =>
    cases s with
    | nil => cases hx
    | cons c r =>
      rw [shortForm] at hs
      split at hs
      · next hc =>
        split at hs
        · next t' h1 =>
          rcases List.mem_cons.mp hx with rfl | h2
          · rcases hD with rfl | rfl <;> cases hc
          · exact absurd h2 (key _ _ _ h1)
        · exact absurd hx (key _ _ _ hs)
      · exact absurd hx (key _ _ _ hs)

theorem scanMant_of_append {M : Str} {x : Char} {r ip fp : Str} (hx1 : isDig x = false) (hx2 : x ≠ '.')
    (h : scanMant (M ++ x :: r) = some (ip, fp, x :: r)) : scanMant M = some (ip, fp, []) := by
  rw [scanMant_append M r hx1 hx2] at h
  cases hm : scanMant M with
  | none => rw [hm] at h; cases h
  | some t =>
    obtain ⟨a, b, r0⟩ := t
    simp only [hm, Option.map_some, Option.some.injEq, Prod.mk.injEq] at h
    obtain ⟨rfl, rfl, h3⟩ := h
    rw [List.append_left_eq_self.mp h3]

theorem scanMant_digits {m : Str} (hm : ∀ c ∈ m, isDig c = true) (hne : m ≠ []) : scanMant m = some (m, [], []) := by
  have h1 : m.takeWhile isDig = m := by simpa using List.takeWhile_append_of_pos (l₂ := []) hm
  have h2 : m.dropWhile isDig = [] := by simpa using List.dropWhile_append_of_pos (l₂ := []) hm
  rw [scanMant_eq, h1, h2, if_neg (by simp [hne])]
  rfl

/-- the four ways a text is accepted: by `float()`, as a lone sign, through the short-form match, after D → e -/
theorem convertFortran_eq_ok {s : Str} {v : Dec} :
    convertFortran s = .ok v ↔
      pyFloat s = some v ∨ pyFloat s = none ∧
        ((s = ['+'] ∨ s = ['-']) ∧ v = ⟨false, 0, 0⟩ ∨
         ¬ (s = ['+'] ∨ s = ['-']) ∧
           ((∃ t, shortForm s = some t ∧ pyFloat t = some v) ∨
            shortForm s = none ∧ (∃ x ∈ s, x = 'D' ∨ x = 'd') ∧ pyFloat (s.map replD) = some v)) := by
  unfold convertFortran
  cases pyFloat s with
  | some v' => simp
  | none =>
    by_cases hl : s = ['+'] ∨ s = ['-']
    · simp [hl, eq_comm (a := v)]
    · have hl' : ¬ (decide (s = ['+']) || decide (s = ['-'])) = true := by simpa using hl
      simp only [if_neg hl', hl, false_and, not_false_eq_true, true_and, false_or, reduceCtorEq]
      cases shortForm s with
      | some t =>
        dsimp only
        cases hp : pyFloat t <;> simp [hp]
      | none =>
        simp only [List.any_eq_true, Bool.or_eq_true, decide_eq_true_eq]
        split
        · cases pyFloat (s.map replD) <;> simp [*]
        · simp [*]

theorem plain_props {c : Char} (h : isPlain c = true) : c ≠ ' ' ∧ isDelim c = false ∧ isPyWs c = false := by
  simp only [isPlain, Bool.and_eq_true, Bool.not_eq_true', decide_eq_false_iff_not] at h
  have ne : ∀ x, isPyWs x = true → c ≠ x := fun x hx e => by rw [e, hx] at h; cases h.1
  exact ⟨ne ' ' rfl, by simp [isDelim, h.2, ne '\t' rfl], h.1⟩

theorem tok_item_plain {w t f : Str} {fs : List Str} (hw : ∀ c ∈ w, isPlain c = true)
    (ht : tok .item t = f :: fs) : tok .item (w ++ t) = (w ++ f) :: fs := by
  induction w with
  | nil => exact ht
  | cons c r ih =>
    obtain ⟨h1, h2, _⟩ := plain_props (hw c (by simp))
    rw [List.cons_append, tok, if_neg h1, if_neg (by simp [h2]), ih (fun x hx => hw x (by simp [hx]))]
    rfl

/-- `tok_item_plain` with the tokenizer started after a delimiter, for a text `t` that is read alike in both states
    (the end of the row, a comma) -/
theorem tok_delim_plain {w t f : Str} {fs : List Str} (hw : ∀ c ∈ w, isPlain c = true)
    (ht : tok .item t = f :: fs) (ht' : tok .delim t = f :: fs) : tok .delim (w ++ t) = (w ++ f) :: fs := by
  cases w with
  | nil => exact ht'
  | cons c r =>
    rw [List.cons_append, tok_cons_eq_item (by simp) (plain_props (hw c (by simp))).1, ← List.cons_append]
    exact tok_item_plain hw ht

theorem tok_join (items : List Str) (hne : items ≠ [])
    (hp : ∀ w ∈ items, ∀ c ∈ w, isPlain c = true) : tok .delim (joinWith ',' items) = items := by
  induction items with
  | nil => exact absurd rfl hne
  | cons x xs ih =>
    cases xs with
    | nil => simpa [joinWith] using tok_delim_plain (t := []) (hp x (by simp)) rfl rfl
    | cons y ys =>
      rw [joinWith, tok_delim_plain (hp x (by simp)) rfl rfl, List.append_nil,
        ih (by simp) (fun w hw => hp w (by simp [hw]))]

theorem mem_joinWith {sep c : Char} {items : List Str} (h : c ∈ joinWith sep items) :
    c = sep ∨ ∃ w ∈ items, c ∈ w := by
  induction items with
  | nil => simp [joinWith] at h
  | cons x xs ih =>
    cases xs with
    | nil => exact Or.inr ⟨x, by simp, h⟩
    | cons y ys =>
      simp only [joinWith, List.mem_append, List.mem_cons] at h
      rcases h with h | h | h
      · exact Or.inr ⟨x, by simp, h⟩
      · exact Or.inl h
      · rcases ih h with h | ⟨w, hw, hc⟩
        · exact Or.inl h
        · exact Or.inr ⟨w, by simp [hw], hc⟩

theorem edgeOk_of_noWs {l : Str} (h : ∀ c ∈ l, isPyWs c = false) : edgeOk l = true := by
  have hsp : ∀ s : Str, (∀ c ∈ s, isPyWs c = false) → s.head? ≠ some ' ' :=
    fun s hs e => absurd (hs ' ' (List.mem_of_mem_head? e)) (by decide)
  have hr : ∀ c ∈ l.reverse, isPyWs c = false := fun c hc => h c (List.mem_reverse.mp hc)
  have hstrip : spStrip l = l := by
    rw [spStrip, dropSp_of_head (hsp l h), dropSp_of_head (hsp _ hr), List.reverse_reverse]
  rw [edgeOk, hstrip, Bool.and_eq_true]
  constructor
  · cases l with
    | nil => rfl
    | cons c r => simp [h c]
  · cases hl : l.reverse with
    | nil => rfl
    | cons c r => simp [hr c (by simp [hl])]

theorem parseColumnInfo_anon (k : Str) (rest : List InOpt) (anon : Nat) (hk : isDropWord k = true) :
    parseColumnInfo (⟨k, none⟩ :: rest) anon =
      (parseColumnInfo rest (anon + 1)).map (fun c => ⟨anonName anon :: c.names, true :: c.drop, c.repl⟩) := by
  simp only [parseColumnInfo, hk, if_true]

theorem splitNl_ne_nil (s : Str) : splitNl s ≠ [] := by
  induction s with
  | nil => simp [splitNl]
  | cons c r ih =>
    unfold splitNl
    split
    · simp
    · cases h : splitNl r with
      | nil => exact absurd h ih
      | cons f fs => simp [consHead]

theorem splitNl_line (a b : Str) (h : '\n' ∉ a) : splitNl (a ++ '\n' :: b) = a :: splitNl b := by
  induction a with
  | nil => simp [splitNl]
  | cons c r ih =>
    have hc : c ≠ '\n' := by intro e; exact h (by simp [e])
    have hr : '\n' ∉ r := by intro e; exact h (by simp [e])
    simp only [List.cons_append, splitNl, hc, if_false, ih hr, consHead]

theorem prefilter_congr {ic : Char} {a b : Str} (hk : keptTerm ic a = keptTerm ic b)
    (hl : keptLast ic a = keptLast ic b) : prefilter ic a = prefilter ic b := by
  unfold prefilter
  rw [hk, hl]

theorem prefilter_ok {ic : Char} {contents : Str} {lines : List Str} (h : prefilter ic contents = .ok lines) :
    blankHit (keptTerm ic contents) = false ∧
    lines = keptTerm ic contents ++
      (if (keptLast ic contents).isEmpty then [] else [keptLast ic contents]) := by
  by_cases h1 : ((keptTerm ic contents).any (fun l => !noSpTab l) || !noSpTab (keptLast ic contents)) = true
  · rw [prefilter, if_pos h1] at h; cases h
  · by_cases h2 : blankHit (keptTerm ic contents) = true
    · rw [prefilter, if_neg h1, if_pos h2] at h; cases h
    · rw [prefilter, if_neg h1, if_neg h2] at h
      exact ⟨Bool.eq_false_iff.mpr h2, by injection h with h; exact h.symm⟩

theorem isComment_keptLast (ic : Char) (contents : Str) : isComment ic (keptLast ic contents) = false := by
  simp only [keptLast]
  split
  · unfold isComment
    split <;> rfl
  · next h => simpa using h

/-- two lines that are either the same or both comments -/
def SameUpToComment (ic : Char) (a b : Str) : Prop :=
  a = b ∨ (isComment ic a = true ∧ isComment ic b = true)

/-- line lists of equal length that agree line by line up to the text of comments -/
inductive LinesAgree (ic : Char) : List Str → List Str → Prop where
  | nil : LinesAgree ic [] []
  | cons {a b : Str} {l1 l2 : List Str} : SameUpToComment ic a b → LinesAgree ic l1 l2 →
      LinesAgree ic (a :: l1) (b :: l2)

theorem filter_comments_rel (ic : Char) (l1 l2 : List Str) (h : LinesAgree ic l1 l2) :
    l1.filter (fun l => !isComment ic l) = l2.filter (fun l => !isComment ic l) := by
  induction h with
  | nil => rfl
  | cons hab _ ih =>
    rcases hab with rfl | ⟨ha, hb⟩
    · simp [List.filter_cons, ih]
    · simp [ha, hb, ih]

end Pharmpy.C13
