import PharmpyProofs.C13.Lemmas
import PharmpyModel.Generated.C13Consts
/-
  C13 — property theorems. Model: PharmpyModel/C13 (dataset.py with the pandas python engine it calls, the `$INPUT`
  synonyms of parsing.py, `write_csv` / `write_model` on a file system); spec: `tok`, `specNumber`, `specRow` (docs/NONMEM.rst).
-/
namespace Pharmpy.C13

/-! ## T6: the constants in the source are the ones the model was written for -/

theorem sep_regex_is_modelled : Generated.sepRegex = " *, *| *[\\t] *| +" := rfl
theorem comment_regex_is_modelled :
    Generated.commentAt = "^[ \\t]*[A-Za-z#@].*(\\n|$)" ∧ Generated.commentPrefix = "^[" ∧
    Generated.commentSuffix = "].*(\\n|$)" ∧ Generated.commentEscaped = true := ⟨rfl, rfl, rfl, rfl⟩
theorem spacetab_blank_regex_is_modelled :
    Generated.spaceTab = " \\t" ∧ Generated.blankLine = "^[ \\t]*\\n" := ⟨rfl, rfl⟩
theorem short_regex_is_modelled :
    Generated.shortRegex = "([+\\-]?)([^+\\-dD]*)([+-])([^+\\-dD]*)" ∧
    Generated.shortMatchFn = "fullmatch" := ⟨rfl, rfl⟩
theorem item_limit_is_modelled : Generated.itemLimit = itemLimit := rfl
theorem special_columns_are_modelled :
    Generated.specialCols.map String.toList = timeName :: dateNames ∧
    Generated.dateCols.map String.toList = dateNames := ⟨rfl, rfl⟩
theorem operator_table_is_modelled :
    Generated.opTable =
      [("OP_EQ", "==", "float"), ("OP_GT", ">", "float"), ("OP_GT_EQ", ">=", "float"),
       ("OP_LT", "<", "float"), ("OP_LT_EQ", "<=", "float"), ("OP_NE", "!=", "float"),
       ("OP_STR_EQ", "==", "str"), ("OP_STR_NE", "!=", "str")] := rfl

theorem reserved_names_are_modelled : Generated.reservedNames.map String.toList = reservedNames := rfl

/-- **split_matches_rules.** For every row without a space directly before a TAB (NM-TRAN's error) whose ends,
    spaces removed, are not TABs / control white space: what pandas hands to pharmpy
    (`re.split(' *, *| *[\t] *| +', line.strip())`) is the item list of the documented tokenizer. -/
theorem split_matches_rules (l : Str) (h1 : noSpTab l = true) (h2 : edgeOk l = true) :
    lineItems l = specItems l :=
  split_eq_spec h2

theorem spec_ignores_edge_spaces (l : Str) : specItems l = specItems (spStrip l) :=
  tok_lead_spStrip l

/-- Without the edge hypothesis the statement is false of the code: a leading
    TAB is removed by `strip()` although the rules make it a delimiter. -/
theorem split_edge_tab_witness :
    lineItems "\t1,2".toList = ["1".toList, "2".toList] ∧
    specItems "\t1,2".toList = ["".toList, "1".toList, "2".toList] ∧
    noSpTab "\t1,2".toList = true ∧ edgeOk "\t1,2".toList = false := by
  -- a literal is `String.ofList` of its characters: rewriting spares the evaluation of `String.toList`
  repeat rw [String.toList_ofList]
  decide +kernel

example : noSpTab " 1 ,  2\t 3   4, ,5, ".toList = true ∧ edgeOk " 1 ,  2\t 3   4, ,5, ".toList = true ∧
    specItems " 1 ,  2\t 3   4, ,5, ".toList = ["1", "2", "3", "4", "", "5", ""].map String.toList := by
  repeat rw [String.toList_ofList]
  decide +kernel

/-- **item_limit.** An item is refused as too long exactly when, after NULL substitution (None, `.` and the
    empty item stand for the NULL value), it has more than 24 characters. -/
theorem item_limit (null missing : Str) (x : Option Str) :
    convertItem null missing x = .error .tooLong ↔ (normItem null x).length > 24 := by
  unfold convertItem
  simp only [itemLimit]
  by_cases h : (normItem null x).length > 24
  · simp [h]
  · simp only [h, if_false, iff_false]
    split
    · simp
    · split <;> simp

/-- NULL items take the NULL value before anything else is looked at. -/
theorem null_items (null : Str) :
    normItem null none = null ∧ normItem null (some ['.']) = null ∧ normItem null (some []) = null := by
  simp [normItem]

/-- every row handed to the filters has exactly the `$INPUT` columns -/
theorem table_width (n : Nat) (null : Str) (lines : List Str) (t : List (List (Option Str)))
    (h : buildTable n null lines = .ok t) : ∀ r ∈ t, r.length = n := by
  unfold buildTable at h
  split at h
  · cases h
  · next w rows hp =>
    cases h
    intro r hr
    obtain ⟨r0, hr0, rfl⟩ := List.mem_map.mp hr
    apply shapeRow_length
    -- every row of the table pandas builds is padded or cut to the width of the first
    simp only [pandasTable] at hp
    split at hp
    · cases hp
    · cases hp
      obtain ⟨r2, _, rfl⟩ := List.mem_map.mp hr0
      exact padTo_length _ _

theorem normItem_some_null (null : Str) : normItem null (some null) = null := by
  simp [normItem]

/-- **pad_strip_partial.** `w` = items of the first row (pandas' table width), `n` = `$INPUT` columns. For a row
    whose items fit the table width, or a table at least as wide as `$INPUT`, the row pharmpy builds reads (after
    NULL substitution) as the documented row: the first `n` items, padded with NULL. -/
theorem pad_strip_partial (n w : Nat) (null : Str) (its : List Str) (h : its.length ≤ w ∨ n ≤ w) :
    (shapeRow n w null (padTo w (its.map some))).map (normItem null) =
    (specRow n its).map (fun t => normItem null (some t)) := by
  apply List.ext_getElem?
  intro i
  simp only [shapeRow, padTo, specRow, List.map_take, List.map_append, List.map_replicate,
    List.map_map, normItem_some_null, List.length_map, (null_items null).1, (null_items null).2.2]
  simp only [List.getElem?_take, List.getElem?_append, List.getElem?_replicate, List.length_take,
    List.length_append, List.length_replicate, List.length_map, List.getElem?_map]
  grind

example : (shapeRow 3 5 ['0'] (padTo 5 (["1", "2", "3", "4", "5"].map String.toList |>.map some))).map (normItem ['0'])
    = ["1", "2", "3"].map String.toList ∧
    (shapeRow 4 2 ['0'] (padTo 2 (["1"].map String.toList |>.map some))).map (normItem ['0'])
    = ["1", "0", "0", "0"].map String.toList := by decide +kernel

/-- The full statement ("short rows are padded with NULL, surplus items are
    discarded, row by row") is false of the code: pandas takes the table width
    from the first row, so a short first row cuts every later row. -/
theorem pad_strip_witness :
    buildTable 4 ['0'] ["1,2".toList, "4,5,6,7".toList] =
      .ok [[some ['1'], some ['2'], some ['0'], some ['0']], [some ['4'], some ['5'], some ['0'], some ['0']]] ∧
    specTable 4 ["1,2".toList, "4,5,6,7".toList] = [[['1'], ['2'], [], []], [['4'], ['5'], ['6'], ['7']]] := by
  repeat rw [String.toList_ofList]
  decide +kernel

/-- **filters_in_order.** If the filter list can be applied, the result is the
    rows that pass every filter (IGNORE: no condition holds; ACCEPT: every
    condition holds), in their original order. -/
theorem filters_in_order (names : List Str) (null missing : Str) (ig : Bool) :
    ∀ (fs : List Filt) (rows out : List (List (Option Str))),
      applyFilters names null missing ig fs rows = .ok out →
      out = rows.filter (fun r => fs.all (fun f => keeps names null missing ig f r)) := by
  intro fs
  induction fs with
  | nil =>
    intro rows out h
    simp [applyFilters] at h
    subst h
    exact (List.filter_eq_self.mpr (by simp)).symm
  | cons f fs ih =>
    intro rows out h
    simp only [applyFilters] at h
    by_cases hq : (!f.op.isStr && rows.isEmpty && signedVal f) = true
    · simp [hq] at h
    · simp only [hq] at h
      cases hf : applyFilter names null missing ig f rows with
      | error e => simp [hf] at h
      | ok rows' =>
        simp only [hf] at h
        rw [ih rows' out h, applyFilter_ok hf, List.filter_filter]
        congr 1
        funext r
        simp [Bool.and_comm]

/-- **Order matters for errors.** A conversion error can only come from a row
    that passed every earlier filter: "an illegal item gets ignored before it
    needs to be parsed". -/
theorem filters_error_reached (names : List Str) (null missing : Str) (ig : Bool) :
    ∀ (fs : List Filt) (rows : List (List (Option Str))) (e : RErr),
      applyFilters names null missing ig fs rows = .error e →
      e = .signedOnEmpty ∨
      ∃ pre f post r, fs = pre ++ f :: post ∧ r ∈ rows ∧
        pre.all (fun g => keeps names null missing ig g r) = true ∧
        condHolds names null missing f r = .error e := by
  intro fs
  induction fs with
  | nil => intro rows e h; simp [applyFilters] at h
  | cons f fs ih =>
    intro rows e h
    simp only [applyFilters] at h
    by_cases hq : (!f.op.isStr && rows.isEmpty && signedVal f) = true
    · simp only [hq, if_true] at h
      injection h with h; exact Or.inl h.symm
    · simp only [hq] at h
      cases hf : applyFilter names null missing ig f rows with
      | error e' =>
        simp only [hf] at h
        injection h with h
        obtain ⟨r, hm, hc⟩ := applyFilter_error hf
        exact Or.inr ⟨[], f, fs, r, rfl, hm, rfl, by rw [hc, h]⟩
      | ok rows' =>
        simp only [hf] at h
        rcases ih rows' e h with h1 | ⟨pre, g, post, r, hfs, hm, hall, hc⟩
        · exact Or.inl h1
        · have hrows := applyFilter_ok hf
          rw [hrows] at hm
          have hm' := List.mem_filter.mp hm
          refine Or.inr ⟨f :: pre, g, post, r, by rw [hfs]; rfl, hm'.1, ?_, hc⟩
          simp [List.all_cons, hm'.2, hall]

/-- concrete: the same two IGNORE conditions succeed in one order and raise in the other -/
theorem filter_order_witness :
    let names := [['A'], ['C']]
    let rows := [[some ['1'], some ['x']], [some ['2'], some ['7']]]
    let fText : Filt := ⟨['C'], .seq, ['x']⟩
    let fNum : Filt := ⟨['C'], .gt, ['8']⟩
    applyFilters names ['0'] "-99".toList true [fText, fNum] rows = .ok [[some ['2'], some ['7']]] ∧
    applyFilters names ['0'] "-99".toList true [fNum, fText] rows = .error .item := by
  decide +kernel

theorem replace_synonyms_map (repl : List (Str × Str)) (fs : List Filt) :
    replaceSynonyms repl fs = fs.map (renameFilter repl) := by
  induction fs with
  | nil => rfl
  | cons f fs ih => simp [replaceSynonyms, ih]

theorem replace_synonyms_length (repl : List (Str × Str)) (fs : List Filt) :
    (replaceSynonyms repl fs).length = fs.length := by
  simp [replace_synonyms_map]

/-- **order**: the i-th filter handed to the reader is the i-th filter written in `$DATA`
    (renamed if its column has a synonym) — for every list and position. -/
theorem replace_synonyms_order (repl : List (Str × Str)) (fs : List Filt) (i : Nat) :
    (replaceSynonyms repl fs)[i]? = (fs[i]?).map (renameFilter repl) := by
  simp [replace_synonyms_map]

/-- operator and value are never touched; a filter on a column without synonym is unchanged;
    a filter on a reserved name with a synonym is moved to the synonym -/
theorem rename_filter_spec (repl : List (Str × Str)) (f : Filt) :
    (renameFilter repl f).op = f.op ∧ (renameFilter repl f).val = f.val ∧
    (lookupSyn repl f.col = none → renameFilter repl f = f) ∧
    (∀ s, lookupSyn repl f.col = some s → (renameFilter repl f).col = s) := by
  unfold renameFilter
  cases h : lookupSyn repl f.col with
  | none => simp
  | some s => simp

/-- **model-level filters_in_order**: with synonyms, the rows returned are those passing every
    written filter (after renaming), in their original order -/
theorem model_filters_in_order (names : List Str) (null missing : Str) (ig : Bool)
    (repl : List (Str × Str)) (fs : List Filt) (rows out : List (List (Option Str)))
    (h : applyFilters names null missing ig (replaceSynonyms repl fs) rows = .ok out) :
    out = rows.filter (fun r => fs.all (fun f => keeps names null missing ig (renameFilter repl f) r)) := by
  rw [filters_in_order names null missing ig _ rows out h, replace_synonyms_map]
  congr 1
  funext r
  simp only [List.all_map]
  rfl

/-- **model-level order of errors**: the same as `filters_error_reached` when some filters are written with
    `$INPUT` synonyms. -/
theorem model_filters_error_reached (names : List Str) (null missing : Str) (ig : Bool)
    (repl : List (Str × Str)) (fs : List Filt) (rows : List (List (Option Str))) (e : RErr)
    (h : applyFilters names null missing ig (replaceSynonyms repl fs) rows = .error e) :
    e = .signedOnEmpty ∨
    ∃ pre f post r, fs = pre ++ f :: post ∧ r ∈ rows ∧
      pre.all (fun g => keeps names null missing ig (renameFilter repl g) r) = true ∧
      condHolds names null missing (renameFilter repl f) r = .error e := by
  rcases filters_error_reached names null missing ig _ rows e h with h1 | ⟨pre', g, post', r, hfs, hm, hall, hc⟩
  · exact Or.inl h1
  · right
    rw [replace_synonyms_map] at hfs
    obtain ⟨pre, tl, hsplit, hpre, htl⟩ := List.map_eq_append_iff.mp hfs
    obtain ⟨f, post, htl2, hf, _⟩ := List.map_eq_cons_iff.mp htl
    refine ⟨pre, f, post, r, by rw [hsplit, htl2], hm, ?_, by rw [hf]; exact hc⟩
    rw [← hpre] at hall
    simpa [List.all_map] using hall

theorem synonym_filter_order_witness :
    let opts : List InOpt := [⟨"ID".toList, none⟩, ⟨"CONC".toList, some "DV".toList⟩, ⟨"WGT".toList, none⟩]
    let fs : List Filt := [⟨"DV".toList, .seq, "EXCL".toList⟩, ⟨"WGT".toList, .gt, "100".toList⟩]
    (parseColumnInfo opts 1).map (fun c => (c.names, replaceSynonyms c.repl fs)) =
      some (["ID", "CONC", "WGT"].map String.toList,
            [⟨"CONC".toList, .seq, "EXCL".toList⟩, ⟨"WGT".toList, .gt, "100".toList⟩]) := by
  repeat rw [String.toList_ofList]
  decide +kernel

theorem fs_get_set (fs : FS) (p c q : Str) : (fs.set p c).get q = if q = p then some c else fs.get q := by
  induction fs with
  | nil => simp [FS.set, FS.get, eq_comm]
  | cons hd r ih =>
    obtain ⟨x, d⟩ := hd
    by_cases hx : x = p <;> by_cases hq : q = p <;> simp_all [FS.set, FS.get, @eq_comm _ p q]

/-- **write_csv_overwrites.** A forced `write_csv` always succeeds; afterwards the target holds the
    rendering of the model's dataset — whatever the file system held before and whatever
    `datainfo.path` said —, `datainfo.path` is the target, no other file changed. -/
theorem write_csv_overwrites (fs : FS) (st : MState) (t : Target) :
    ∃ s', writeCsv fs st t true = .ok s' ∧
      s'.1.get (resolve st t) = some (renderCsv st.dataset) ∧
      s'.2.path = some (resolve st t) ∧ s'.2.dataset = st.dataset ∧
      ∀ q, q ≠ resolve st t → s'.1.get q = fs.get q := by
  refine ⟨(fs.set (resolve st t) (renderCsv st.dataset), { st with path := some (resolve st t) }), ?_, ?_, rfl, rfl, ?_⟩
  · simp [writeCsv]
  · rw [fs_get_set, if_pos rfl]
  · intro q hq; rw [fs_get_set, if_neg hq]

theorem write_csv_refuses (fs : FS) (st : MState) (t : Target) :
    writeCsv fs st t false = .error .fileExists ↔ (fs.get (resolve st t)).isSome = true := by
  unfold writeCsv
  cases h : (fs.get (resolve st t)).isSome <;> simp [h]

theorem insync_after_write (fs : FS) (st : MState) (t : Target) (force : Bool) (s' : FS × MState)
    (h : writeCsv fs st t force = .ok s') : InSync s' := by
  unfold writeCsv at h
  by_cases hc : (!force && (fs.get (resolve st t)).isSome) = true
  · simp [hc] at h
  · simp only [hc] at h
    injection h with h
    subst h
    intro p hp
    simp only [Option.some.injEq] at hp
    subst hp
    rw [fs_get_set, if_pos rfl]

/-- every operation except "new dataset, same datainfo" keeps file and dataset in step -/
theorem insync_step (s : FS × MState) (op : HOp) (h : InSync s) (hop : ∀ f, op ≠ .setData f true) :
    InSync (hstep s op) := by
  cases op with
  | write t force =>
    simp only [hstep]
    cases hw : writeCsv s.1 s.2 t force with
    | ok s' => exact insync_after_write _ _ _ _ _ hw
    | error e => exact h
  | setData f keep =>
    cases keep with
    | true => exact absurd rfl (hop f)
    | false => intro p hp; simp [hstep, setData] at hp
  | writeModel mp force =>
    simp only [hstep, writeModel]
    cases hp : s.2.path with
    | none =>
      simp only
      split
      · rename_i s' heq
        exact insync_after_write _ _ _ _ _ heq
      · exact h
    | some q =>
      intro p hp2
      simp only at hp2 ⊢
      exact h p (by rw [hp]; exact hp2)

theorem history_insync (ops : List HOp) (s : FS × MState) (h : InSync s)
    (hops : ∀ op ∈ ops, ∀ f, op ≠ .setData f true) : InSync (hrun s ops) := by
  induction ops generalizing s with
  | nil => exact h
  | cons op ops ih =>
    simp only [hrun, List.foldl_cons]
    exact ih (hstep s op) (insync_step s op h (hops op (by simp))) (fun o ho => hops o (by simp [ho]))

/-- **after any history** (including datasets replaced with the datainfo kept), a forced
    `write_csv` puts the *current* dataset at its target. -/
theorem history_forced_write_current (s : FS × MState) (ops : List HOp) (t : Target) :
    (hstep (hrun s ops) (.write t true)).1.get (resolve (hrun s ops).2 t) =
        some (renderCsv (hrun s ops).2.dataset) ∧
    InSync (hstep (hrun s ops) (.write t true)) := by
  obtain ⟨s', hw, hget, _, _, _⟩ := write_csv_overwrites (hrun s ops).1 (hrun s ops).2 t
  simp only [hstep, hw]
  exact ⟨hget, insync_after_write _ _ _ _ _ hw⟩

/-- **render then split = id** (row level): what `write_csv` writes for a row — the items joined
    by commas — is split by the reader into exactly those items, for every row of non-empty
    items free of white space and commas. -/
theorem split_rendered_row (items : List Str) (hne : items ≠ [])
    (hp : ∀ w ∈ items, w ≠ [] ∧ ∀ c ∈ w, isPlain c = true) :
    lineItems (joinWith ',' items) = items ∧ specItems (joinWith ',' items) = items := by
  have hspec : specItems (joinWith ',' items) = items :=
    (tok_lead_eq_delim _).trans (tok_join items hne (fun w hw => (hp w hw).2))
  have hws : ∀ c ∈ joinWith ',' items, isPyWs c = false := by
    intro c hc
    rcases mem_joinWith hc with rfl | ⟨w, hw, hcw⟩
    · decide
    · exact (plain_props ((hp w hw).2 c hcw)).2.2
  exact ⟨(split_eq_spec (edgeOk_of_noWs hws)).trans hspec, hspec⟩

/-- the stale-file situation is real when the dataset is replaced with the datainfo kept and nothing is written -/
theorem stale_without_write_witness :
    let f1 : Frame := ⟨[['A']], [[['1']]]⟩
    let f2 : Frame := ⟨[['A']], [[['2']]]⟩
    let s0 : FS × MState := ([("d.csv".toList, renderCsv f1)], ⟨f1, some "d.csv".toList, "m".toList⟩)
    (hstep s0 (.setData f2 true)).1.get "d.csv".toList = some (renderCsv f1) ∧
    (hstep (hstep s0 (.setData f2 true)) (.write (.file "d.csv".toList) true)).1.get "d.csv".toList = some (renderCsv f2) := by
  repeat rw [String.toList_ofList]
  decide +kernel

/-- every text python's `float()` accepts (modelled alphabet) is a documented
    number form with the same value -/
theorem pyFloat_spec (s : Str) (v : Dec) (h : pyFloat s = some v) : specNumber s = some v := by
  have hl : ¬ (s = ['+'] ∨ s = ['-']) := by rintro (rfl | rfl) <;> cases h
  rw [specNumber_eq hl]
  rw [pyFloat_eq] at h
  exact numTail_mono specExp_of_pyExp h

/-- "Nothing else is accepted": whatever `convert_fortran_number` accepts is a number of
    the documented grammar, and the value returned is the documented value (modelled alphabet). -/
theorem fortran_number_sound (s : Str) (v : Dec) (h : convertFortran s = .ok v) : specNumber s = some v := by
  rcases convertFortran_eq_ok.mp h with hp | ⟨-, ⟨hl, rfl⟩ | ⟨hl, ⟨t, hs, hpt⟩ | ⟨-, -, hpd⟩⟩⟩
  · exact pyFloat_spec s v hp
  · rw [specNumber, if_pos (by simpa using hl)]
  · -- short form
    rw [specNumber_eq hl]
    obtain ⟨g1, hneg, hg⟩ := shortForm_cases s
    rcases (hg t).2 hs with ht | ht
    · rw [hneg]; exact shortTry_sound ht hpt
    · rw [ht] at hpt; cases hpt
  · -- D → e
    rw [specNumber_eq hl]
    rw [pyFloat_map_replD] at hpd
    exact numTail_mono specExp_of_pyExp_map_replD hpd

/-- Every documented number form (plain, E/e, D/d with any
    signs, short form `m±e`, lone sign) is accepted with its documented value. -/
theorem fortran_number_complete (s : Str) (v : Dec) (h : specNumber s = some v) : convertFortran s = .ok v := by
  by_cases hl : s = ['+'] ∨ s = ['-']
  · rcases hl with rfl | rfl <;> cases h <;> rfl
  rw [specNumber_eq hl] at h
  obtain ⟨ip, fp, rest, e, hm, he, rfl⟩ := numTail_eq_some.mp h
  have hp := pyFloat_eq s
  rw [numTail_eq hm] at hp
  rw [convertFortran_eq_ok]
  rcases specExp_cases he with hpy | ⟨x, r, rfl, hxd, hpn, hr⟩ | ⟨x, r, rfl, hsx, hpn, hr⟩
  · -- `float()` itself reads the number
    exact Or.inl (by rw [hp, hpy]; rfl)
  · -- D exponent: no short form, the replacement branch
    rw [hpn] at hp
    obtain ⟨M, hM, -⟩ := scanMant_split _ _ _ _ hm
    obtain ⟨pre, hpre, -⟩ := takeSign_suffix s
    have hxs : x ∈ s := by rw [hpre, hM]; simp
    refine Or.inr ⟨hp, Or.inr ⟨hl, Or.inr ⟨shortForm_none_of_D hxs hxd, ⟨x, hxs, hxd⟩, ?_⟩⟩⟩
    rw [pyFloat_map_replD, numTail_eq hm, pyExp_map_replD, if_pos (by rcases hxd with rfl | rfl <;> rfl), hr]
    rfl
  · -- short form: the mantissa `M`, the sign, digits
    rw [hpn] at hp
    obtain ⟨M, hM, hMn⟩ := scanMant_split _ _ _ _ hm
    have hx' := isSign_iff.mp hsx
    have hmM : scanMant M = some (ip, fp, []) :=
      scanMant_of_append (x := x) (by rcases hx' with rfl | rfl <;> rfl) (by rcases hx' with rfl | rfl <;> decide)
        (by rw [← hM]; exact hm)
    have hr3 : r.all notSD = true := by
      have := scanExp_digits hr
      rw [takeSign_sign hsx] at this
      exact List.all_eq_true.mpr fun c hc => notSD_of_isDig (List.all_eq_true.mp this c hc)
    obtain ⟨g1, hneg, hg⟩ := shortForm_cases s
    refine Or.inr ⟨hp, Or.inr ⟨hl, Or.inl ⟨_, (hg _).1 (shortTry_eq_some.mpr ⟨M, x, r, hM, hMn, hsx, hr3, rfl⟩), ?_⟩⟩⟩
    rw [List.append_assoc, List.cons_append, List.cons_append, List.nil_append, pyFloat_short g1 hMn,
      numTail_pyExp_short]
    exact ⟨ip, fp, hmM, by rw [← hneg, hr]; rfl⟩

/-- **short form.** For every digit string `m` (mantissa) and `e` (exponent), both
    non-empty: `m-e` / `m+e` is read as `m·10^(∓e)` — "2-1 means 2e-1". -/
theorem short_form_value (m e : Str) (sg : Char) (hm : ∀ c ∈ m, isDig c = true) (he : ∀ c ∈ e, isDig c = true)
    (hmne : m ≠ []) (hene : e ≠ []) (hsg : sg = '+' ∨ sg = '-') :
    convertFortran (m ++ sg :: e) =
      .ok ⟨false, digitsVal m, if sg = '-' then - (digitsVal e : Int) else (digitsVal e : Int)⟩ ∧
    specNumber (m ++ sg :: e) =
      some ⟨false, digitsVal m, if sg = '-' then - (digitsVal e : Int) else (digitsVal e : Int)⟩ := by
  have hspec : specNumber (m ++ sg :: e) =
      some ⟨false, digitsVal m, if sg = '-' then - (digitsVal e : Int) else (digitsVal e : Int)⟩ := by
    have hs := isSign_iff.mpr hsg
    obtain ⟨c0, m', rfl⟩ := List.exists_cons_of_ne_nil hmne
    have hlone : ¬ ((c0 :: m') ++ sg :: e = ['+'] ∨ (c0 :: m') ++ sg :: e = ['-']) := by
      rintro (h | h) <;> simp at h
    rw [specNumber_eq hlone, List.cons_append,
      takeSign_not_sign (isSign_of_notSD (notSD_of_isDig (hm c0 (by simp)))), ← List.cons_append,
      numTail_specExp_short false (scanMant_digits hm hmne) hs, scanExp_sign hs,
      if_neg (by simpa [List.isEmpty_iff] using ⟨hene, he⟩)]
    simp [mkDec]
  exact ⟨fortran_number_complete _ _ hspec, hspec⟩

/-- **fortran_number_spec.** `convert_fortran_number` (after fix d532311) accepts exactly the
    documented number grammar, with the documented value: for every item text. -/
theorem fortran_number_spec (s : Str) (v : Dec) : convertFortran s = .ok v ↔ specNumber s = some v :=
  ⟨fortran_number_sound s v, fortran_number_complete s v⟩

theorem fortran_number_rejects (s : Str) : convertFortran s = .error .valueError ↔ specNumber s = none := by
  constructor
  · intro h
    cases hs : specNumber s with
    | none => rfl
    | some v =>
      have := fortran_number_complete s v hs
      rw [h] at this
      cases this
  · intro h
    cases hc : convertFortran s with
    | ok v =>
      have := fortran_number_sound s v hc
      rw [h] at this
      cases this
    | error e => cases e; rfl

theorem lone_sign_zero :
    convertFortran ['+'] = .ok ⟨false, 0, 0⟩ ∧ convertFortran ['-'] = .ok ⟨false, 0, 0⟩ := by decide

/-- (fixed d532311) a D exponent after a signed mantissa is read; before the fix the
    unanchored short-form match took the leading sign for the exponent sign. -/
theorem signed_d_accepted :
    convertFortran "-5D1".toList = .ok ⟨true, 5, 1⟩ ∧ specNumber "-5D1".toList = some ⟨true, 5, 1⟩ ∧
    convertFortran "+1d-3".toList = .ok ⟨false, 1, -3⟩ := by
  repeat rw [String.toList_ofList]
  decide +kernel

/-- (fixed d532311) text after a short-form number is no longer ignored -/
theorem malformed_rejected :
    convertFortran "2-1-3".toList = .error .valueError ∧ specNumber "2-1-3".toList = none ∧
    convertFortran "2-1D5".toList = .error .valueError := by
  repeat rw [String.toList_ofList]
  decide +kernel

/-- non-vacuity of `short_form_value`: its hypotheses hold for `25-13` -/
example : (∀ c ∈ "25".toList, isDig c = true) ∧ (∀ c ∈ "13".toList, isDig c = true) ∧
    convertFortran "25-13".toList = .ok ⟨false, 25, -13⟩ := by
  repeat rw [String.toList_ofList]
  decide +kernel

example : convertFortran "2-1".toList = .ok ⟨false, 2, -1⟩ ∧ convertFortran "1.5D+2".toList = .ok ⟨false, 15, 1⟩ ∧
    specNumber "1.5D+2".toList = some ⟨false, 15, 1⟩ ∧ specNumber "-2+1".toList = some ⟨true, 2, 1⟩ := by
  repeat rw [String.toList_ofList]
  decide +kernel

/-- (fixed 8ee6a73) a blank newline-terminated line is reported wherever it is -/
theorem blank_line_reported (ic : Char) (contents : Str) (lines : List Str)
    (h : prefilter ic contents = .ok lines) : ∀ l ∈ keptTerm ic contents, isBlankLine l = false := by
  intro l hl
  simpa using List.any_eq_false.mp (prefilter_ok h).1 l hl

theorem blank_line_witness :
    prefilter '#' "1,2\n\n4,3\n".toList = .error .blankLine ∧
    prefilter '#' "1,2\n  \n4,3\n".toList = .error .blankLine ∧
    prefilter '#' "1,2\n4,3\n\n".toList = .error .blankLine := by
  repeat rw [String.toList_ofList]
  decide +kernel

/-- **comment_text_irrelevant.** The outcome of a read — the table or the error — does not depend on the *text* of
    comment lines: two file texts that agree line by line except inside comments are read alike. In particular a
    blank before a TAB, separators only, or an over-long item inside a comment line cannot raise. -/
theorem comment_text_irrelevant (ic : Char) (c1 c2 : Str)
    (hterm : LinesAgree ic (splitNl c1).dropLast (splitNl c2).dropLast)
    (hlast : SameUpToComment ic ((splitNl c1).getLast?.getD []) ((splitNl c2).getLast?.getD [])) :
    prefilter ic c1 = prefilter ic c2 ∧
    ∀ names drop null missing mode filters,
      readDataset c1 ic names drop null missing mode filters =
      readDataset c2 ic names drop null missing mode filters := by
  have hp : prefilter ic c1 = prefilter ic c2 := by
    refine prefilter_congr (filter_comments_rel ic _ _ hterm) ?_
    unfold keptLast
    rcases hlast with h | ⟨ha, hb⟩
    · rw [h]
    · rw [if_pos ha, if_pos hb]
  refine ⟨hp, fun names drop null missing mode filters => ?_⟩
  unfold readDataset
  rw [hp]

example : LinesAgree '#' ["#a \tb".toList, "1,2".toList] ["#x".toList, "1,2".toList] :=
  .cons (Or.inr (by decide)) (.cons (Or.inl rfl) .nil)

/-- the text of a comment may hold a blank before a TAB (an error in a data row) -/
theorem comment_space_tab_witness :
    prefilter '#' "# dose changed \there\n1,2\n".toList = .ok ["1,2".toList] ∧
    prefilter '@' "ID \tTIME\n1,2\n".toList = .ok ["1,2".toList] ∧
    prefilter '#' "1 \t2\n".toList = .error .spaceTab := by
  repeat rw [String.toList_ofList]
  decide +kernel

/-- comment lines: IGNORE=c removes the lines starting with c — also an unterminated
    last line (fixed 82e4d59) and for a regex meta character (fixed 0a05222). -/
theorem comment_line_witness :
    prefilter '#' "#h\n1,2\n#x\n".toList = .ok ["1,2".toList] ∧
    prefilter '#' "1,2\n#x".toList = .ok ["1,2".toList] ∧
    prefilter '^' "^h\n1,2\n".toList = .ok ["1,2".toList] ∧
    prefilter '@' " ID,DV\n1,2\n".toList = .ok ["1,2".toList] := by
  repeat rw [String.toList_ofList]
  decide +kernel

/-- no comment line survives the prefilter (terminated or not) -/
theorem comment_lines (ic : Char) (contents : Str) (lines : List Str)
    (h : prefilter ic contents = .ok lines) : ∀ l ∈ lines, isComment ic l = false := by
  obtain ⟨_, rfl⟩ := prefilter_ok h
  intro l hl
  rcases List.mem_append.mp hl with h3 | h3
  · simpa using (List.mem_filter.mp h3).2
  · split at h3
    · cases h3
    · rw [List.mem_singleton.mp h3]
      exact isComment_keptLast ic contents

end Pharmpy.C13
