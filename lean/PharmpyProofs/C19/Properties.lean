import PharmpyProofs.C19.Lemmas
import PharmpyModel.C19.Spec
import PharmpyModel.C19.Stats
/-
  C19 — ranking, selection criteria and result statistics follow their definitions: for every list of
  candidates, every criterion value incl. NaN, every parent map, cut-off, penalty vector and chi-square table `isf`.
-/
namespace Pharmpy.C19

/-- The filtering loop keeps exactly the eligible entries and records criterion + penalty. -/
theorem keep_iff_eligible (cfg : Cfg) (all : List Cand) (i : Nat) (c : Cand) (w : Rat) :
    keep cfg all (refValue all) i c = some w ↔
      Eligible cfg all i c ∧ ∃ v, c.rv = .num v ∧ w = v + c.pen := by
  unfold keep Eligible
  cases hrv : c.rv with
  | nan => exact ⟨nofun, fun ⟨⟨_, h, _⟩, _⟩ => nomatch h⟩
  | num v =>
    simp only [Val.num.injEq, exists_eq_left']
    generalize lrtTest cfg.isf _ _ _ _ _ = t
    generalize v + c.pen = x
    by_cases hi : i = 0
    · simp [hi, @eq_comm _ w]
    · cases hl : cfg.lrt with
      | true => simp [hi, @eq_comm _ w]
      | false =>
        cases hc : cfg.cutoff with
        | one co => cases hr : refValue all <;> simp [hi, @eq_comm _ w, Val.sub, Val.le, Rat.not_le]
        | _ => simp [hi, @eq_comm _ w]

theorem mem_keptOf_iff (cfg : Cfg) (all : List Cand) (i : Nat) (w : Rat) :
    (i, w) ∈ keptOf cfg all ↔
      ∃ c, all[i]? = some c ∧ Eligible cfg all i c ∧ ∃ v, c.rv = .num v ∧ w = v + c.pen := by
  simp only [mem_keptOf_iff_keep, keep_iff_eligible]

/-- A model has a rank in the result of
    `rank_models` iff it is eligible: the ranked set is `{base if its strictness
    holds} ∪ {eligible candidates}` and nothing else. -/
theorem ranked_iff_eligible (cfg : Cfg) (all : List Cand) (i : Nat) :
    (∃ r ∈ rankModels cfg all, r.idx = i ∧ r.rank.isSome = true) ↔
      ∃ c, all[i]? = some c ∧ Eligible cfg all i c := by
  constructor
  · rintro ⟨r, hr, rfl, hrank⟩
    obtain ⟨k, hk⟩ := Option.isSome_iff_exists.mp hrank
    obtain ⟨p, hp, rfl⟩ := ranked_row hr hk
    obtain ⟨c, hc, he, _⟩ := (mem_keptOf_iff cfg all p.1 p.2).mp hp
    exact ⟨c, hc, he⟩
  · rintro ⟨c, hc, he⟩
    obtain ⟨v, hv, _⟩ := id he
    exact ⟨_, rowOf_mem ((mem_keptOf_iff cfg all i _).mpr ⟨c, hc, he, v, hv, rfl⟩), rfl, rfl⟩

/-- Every model of `models_all` has exactly one row. -/
theorem rows_cover (cfg : Cfg) (all : List Cand) :
    ((rankModels cfg all).map (·.idx)).Perm (List.range all.length) := by
  have hlt : ∀ i ∈ (keptOf cfg all).map (·.1), i < all.length := by
    intro i hi
    obtain ⟨p, hp, rfl⟩ := List.mem_map.mp hi
    obtain ⟨c, hc, _⟩ := (mem_keptOf_iff_keep cfg all p.1 p.2).mp hp
    exact (List.getElem?_eq_some_iff.mp hc).1
  simp only [rankModels, List.map_append, rankedRows_eq, unrankedRows, List.map_map, Function.comp_def, rowOf,
    List.map_id']
  exact (((sortDesc_perm _ _).map _).append_right _).trans (perm_range_of_nodup (keptOf_idx_nodup cfg all) hlt)

theorem count_better (cfg : Cfg) (all : List Cand) (x : Rat) :
    (rankModels cfg all).countP (Row.better x) = (keptOf cfg all).countP (fun q => decide (q.2 < x)) := by
  have h0 : (unrankedRows cfg all).countP (Row.better x) = 0 :=
    List.countP_eq_zero.mpr fun r hr => by
      obtain ⟨j, _, rfl⟩ := List.mem_map.mp hr
      simp [Row.better]
  rw [rankModels, List.countP_append, h0, rankedRows_eq, List.countP_map, (sortDesc_perm _ _).countP_eq]
  rfl

/-- A ranked row reports criterion +
    penalty, `reference − value` as delta, and its rank is the *competition rank*
    on the criterion: one plus the number of ranked models with a strictly
    smaller (better) value. -/
theorem ranked_row_spec (cfg : Cfg) (all : List Cand) (r : Row) (k : Nat)
    (hr : r ∈ rankModels cfg all) (hk : r.rank = some k) :
    ∃ c v, all[r.idx]? = some c ∧ c.rv = .num v ∧ Eligible cfg all r.idx c ∧
      r.rv = .num (v + c.pen) ∧ r.delta = (refValue all).sub (.num (v + c.pen)) ∧
      k = 1 + (rankModels cfg all).countP (Row.better (v + c.pen)) := by
  obtain ⟨p, hp, rfl⟩ := ranked_row hr hk
  obtain ⟨c, hc, he, v, hv, hw⟩ := (mem_keptOf_iff cfg all p.1 p.2).mp hp
  refine ⟨c, v, hc, hv, he, ?_⟩
  rw [count_better, ← hw]
  exact ⟨rfl, rfl, (Option.some.inj hk).symm⟩

theorem ties_share_rank (cfg : Cfg) (all : List Cand) (r s : Row) (k m : Nat) (v : Rat)
    (hr : r ∈ rankModels cfg all) (hs : s ∈ rankModels cfg all)
    (hk : r.rank = some k) (hm : s.rank = some m) (hrv : r.rv = .num v) (hsv : s.rv = .num v) : k = m :=
  (rank_eq_compRank hr hk hrv).2.trans (rank_eq_compRank hs hm hsv).2.symm

/-- **Ranking orders by the criterion.** A strictly smaller (better) value has a strictly smaller rank. -/
theorem better_value_smaller_rank (cfg : Cfg) (all : List Cand) (r s : Row) (k m : Nat) (v w : Rat)
    (hr : r ∈ rankModels cfg all) (hs : s ∈ rankModels cfg all)
    (hk : r.rank = some k) (hm : s.rank = some m) (hrv : r.rv = .num v) (hsv : s.rv = .num w)
    (hvw : v < w) : k < m := by
  obtain ⟨hmem, rfl⟩ := rank_eq_compRank hr hk hrv
  obtain ⟨_, rfl⟩ := rank_eq_compRank hs hm hsv
  exact compRank_lt hmem hvw

/-- In the returned frame no row
    without a rank (failed strictness, cut-off or test) precedes a ranked row. -/
theorem failed_never_above (cfg : Cfg) (all : List Cand) :
    (rankModels cfg all).Pairwise (fun a b => a.rank = none → b.rank = none) := by
  refine List.pairwise_append.mpr ⟨?_, ?_, fun a _ b hb _ => ?_⟩
  · rw [rankedRows_eq]
    exact List.pairwise_map.mpr (List.pairwise_of_forall fun _ _ h => nomatch h)
  · exact List.pairwise_map.mpr (List.pairwise_of_forall fun _ _ _ => rfl)
  · obtain ⟨j, _, rfl⟩ := List.mem_map.mp hb
    rfl

/-- Rows are in non-decreasing order of the
    criterion (best first). -/
theorem rows_sorted_by_criterion (cfg : Cfg) (all : List Cand) :
    (rankModels cfg all).Pairwise (fun a b => ∀ v w, a.rv = .num v → b.rv = .num w → v ≤ w) := by
  refine List.pairwise_append.mpr ⟨?_, ?_, fun a _ b hb v w _ hw => ?_⟩
  · rw [rankedRows_eq]
    refine List.pairwise_map.mpr ((sortDesc_sorted _ _).imp fun hab v w hv hw => ?_)
    cases hv; cases hw
    exact (keyOf_le _ _ _).mp hab
  · exact List.pairwise_map.mpr (List.pairwise_of_forall fun _ _ _ _ h => nomatch h)
  · obtain ⟨j, _, rfl⟩ := List.mem_map.mp hb
    cases hw

theorem ranks_nondecreasing (cfg : Cfg) (all : List Cand) :
    (rankModels cfg all).Pairwise (fun a b => ∀ k m, a.rank = some k → b.rank = some m → k ≤ m) := by
  refine (rows_sorted_by_criterion cfg all).imp_of_mem fun {a b} ha hb hab k m hk hm => ?_
  obtain ⟨p, _, rfl⟩ := ranked_row ha hk
  obtain ⟨q, _, rfl⟩ := ranked_row hb hm
  cases hk; cases hm
  exact compRank_mono _ (hab _ _ rfl rfl)

/-- If no model is eligible nothing is reported as best.
    Otherwise the model picked by `summary_tool['rank'].idxmin()` is the first
    row of the frame; it has rank 1, is eligible, and no ranked model has a
    smaller criterion value. -/
theorem best_is_top (cfg : Cfg) (all : List Cand) :
    ((∀ r ∈ rankModels cfg all, r.rank = none) → bestModel (rankModels cfg all) = none) ∧
    (∀ r, r ∈ rankModels cfg all → r.rank.isSome = true →
      ∃ top rest v, rankModels cfg all = top :: rest ∧ bestModel (rankModels cfg all) = some top.idx ∧
        top.rank = some 1 ∧ top.rv = .num v ∧
        (∃ c, all[top.idx]? = some c ∧ Eligible cfg all top.idx c) ∧
        ∀ s ∈ rankModels cfg all, ∀ w, s.rv = .num w → v ≤ w) := by
  refine ⟨fun h => by rw [bestModel, idxminAux_eq_self _ none fun r hr k hk => nomatch (h r hr).symm.trans hk]; rfl,
    fun r hr hsome => ?_⟩
  obtain ⟨k, hk⟩ := Option.isSome_iff_exists.mp hsome
  obtain ⟨p, hp, -⟩ := ranked_row hr hk
  obtain ⟨t, rest, ht, hrows, hmin⟩ := rankModels_head hp
  obtain ⟨c, hc, he, -⟩ := (mem_keptOf_iff cfg all t.1 t.2).mp ht
  -- no kept value is strictly below that of `t`, so its competition rank is 1
  have hone : compRank (keptOf cfg all) t.2 = 1 :=
    congrArg (1 + ·) (List.countP_eq_zero.mpr fun q hq => by simpa using Rat.not_lt.mpr (hmin q hq))
  refine ⟨_, rest, t.2, hrows, ?_, congrArg some hone, rfl, ⟨c, hc, he⟩, fun s hs w hw => ?_⟩
  · -- and no later row has a smaller rank
    rw [hrows]
    refine congrArg (Option.map (·.1)) (idxminAux_eq_self rest (some (t.1, compRank (keptOf cfg all) t.2)) fun s hs m hm => ?_)
    obtain ⟨q, hq, rfl⟩ := ranked_row (hrows ▸ List.mem_cons_of_mem _ hs) hm
    cases hm
    exact ⟨_, _, rfl, compRank_mono _ (hmin q hq)⟩
  · obtain ⟨q, hq, rfl⟩ | ⟨i, _, _, rfl⟩ := (mem_rankModels cfg all s).mp hs
    · cases hw
      exact hmin q hq
    · cases hw

/-- `create_results`: if no model is eligible the base model
    (index 0) is reported.  Otherwise the reported model is eligible, its row has
    rank 1, and no eligible model has a strictly smaller criterion value (hence
    none a strictly smaller rank); in particular the base model is reported only
    when nothing is eligible or when it is itself eligible and top-ranked. -/
theorem final_model_spec (cfg : Cfg) (all : List Cand) :
    ((∀ r ∈ rankModels cfg all, r.rank = none) → finalModel (rankModels cfg all) = 0) ∧
    ((∃ r ∈ rankModels cfg all, r.rank.isSome = true) →
      ∃ c v top, all[finalModel (rankModels cfg all)]? = some c ∧
        Eligible cfg all (finalModel (rankModels cfg all)) c ∧
        top ∈ rankModels cfg all ∧ top.idx = finalModel (rankModels cfg all) ∧ top.rank = some 1 ∧ top.rv = .num v ∧
        (∀ j c' w, all[j]? = some c' → Eligible cfg all j c' → c'.rv = .num w → v ≤ w + c'.pen) ∧
        (finalModel (rankModels cfg all) = 0 → Eligible cfg all 0 c)) := by
  obtain ⟨h1, h2⟩ := best_is_top cfg all
  refine ⟨fun h => by rw [finalModel, h1 h]; rfl, fun ⟨r, hr, hsome⟩ => ?_⟩
  obtain ⟨top, rest, v, hrows, hbest, hrank, hrv, ⟨c, hc, he⟩, hmin⟩ := h2 r hr hsome
  have hfin : finalModel (rankModels cfg all) = top.idx := by rw [finalModel, hbest]; rfl
  rw [hfin]
  refine ⟨c, v, top, hc, he, hrows ▸ List.mem_cons_self .., rfl, hrank, hrv, fun j c' w hj hej hw => ?_,
    fun h0 => h0 ▸ he⟩
  exact hmin _ (rowOf_mem ((mem_keptOf_iff cfg all j _).mpr ⟨c', hj, hej, w, hw, rfl⟩)) _ rfl

/-- When the base model has no criterion value
    (NaN OFV or strictness not fulfilled) it is not ranked, every delta is NaN,
    and in the non-LRT modes the cut-off is not applied: exactly the models
    whose strictness holds are ranked (by the criterion itself, see
    `ranked_row_spec`). -/
theorem nan_reference_branch (cfg : Cfg) (all : List Cand) (href : refValue all = .nan) :
    (∀ r ∈ rankModels cfg all, r.delta = .nan) ∧
    (∀ r ∈ rankModels cfg all, r.idx = 0 → r.rank = none) ∧
    (cfg.lrt = false → ∀ i c, all[i]? = some c → (Eligible cfg all i c ↔ c.rv ≠ .nan)) := by
  refine ⟨fun r hr => ?_, fun r hr h0 => ?_, ?_⟩
  · rcases (mem_rankModels cfg all r).mp hr with ⟨p, _, rfl⟩ | ⟨i, _, _, rfl⟩
    · show (refValue all).sub _ = _
      rw [href]; rfl
    · rfl
  · cases hk : r.rank with
    | none => rfl
    | some k =>
      -- a ranked base model has a numeric criterion value, and then so is the reference
      obtain ⟨c, v, hc, hv, _⟩ := ranked_row_spec cfg all r k hr hk
      rw [h0] at hc
      rw [refValue_eq hc, hv] at href
      cases href
  · -- the cut-off clause of `Eligible` asks for a numeric reference, so it holds vacuously
    intro hl i c _
    cases hv : c.rv <;> simp [Eligible, hv, hl, href]

/-- The critical value is the upper chi-square quantile at
    `|df|` degrees of freedom, with the sign of `df`; zero for `df = 0`. -/
theorem lrt_cutoff_sign (isf : Rat → Nat → Rat) (alpha : Rat) (df : Int) :
    (df = 0 → lrtCutoff isf df alpha = 0) ∧
    (0 < df → lrtCutoff isf df alpha = isf alpha df.natAbs) ∧
    (df < 0 → lrtCutoff isf df alpha = -(isf alpha df.natAbs)) := by
  unfold lrtCutoff
  refine ⟨fun h => if_pos h, fun h => ?_, fun h => ?_⟩
  · rw [if_neg (by omega), if_pos h, show df.toNat = df.natAbs by omega]
  · rw [if_neg (by omega), if_neg (by omega), show (-df).toNat = df.natAbs by omega]

/-- The significance level used by `rank_models` is chosen by the sign of the
    degrees of freedom: forward level (0.05 / first of the pair) when parameters
    are added or the count is unchanged, backward level (0.01 / second) when
    parameters are removed; a single number is used for both. -/
theorem choose_alpha_sign (df : Int) (c0 c1 co : Rat) :
    chooseAlpha .none df = (if 0 ≤ df then 5 / 100 else 1 / 100) ∧
    chooseAlpha (.two c0 c1) df = (if 0 ≤ df then c0 else c1) ∧
    chooseAlpha (.one co) df = co := by
  simp [chooseAlpha]

/-- A NaN objective value on either side never passes the test. -/
theorem lrt_test_nan (isf : Rat → Nat → Rat) (pn cn : Nat) (o : Val) (alpha : Rat) :
    lrtTest isf pn cn .nan o alpha = false ∧ lrtTest isf pn cn o .nan alpha = false := by
  cases o <;> simp [lrtTest, Val.sub, Val.ge, Val.le]

/-- The test in terms of the drop in OFV: with added parameters the drop must
    reach the critical value; with removed parameters the *increase* must not
    exceed it; with equal counts the child must not be worse. -/
theorem lrt_test_iff (isf : Rat → Nat → Rat) (pn cn : Nat) (po co alpha : Rat) :
    (pn < cn → (lrtTest isf pn cn (.num po) (.num co) alpha = true ↔ isf alpha (cn - pn) ≤ po - co)) ∧
    (cn < pn → (lrtTest isf pn cn (.num po) (.num co) alpha = true ↔ co - po ≤ isf alpha (pn - cn))) ∧
    (cn = pn → (lrtTest isf pn cn (.num po) (.num co) alpha = true ↔ co ≤ po)) := by
  have key : lrtTest isf pn cn (.num po) (.num co) alpha = true ↔
      lrtCutoff isf ((cn : Int) - (pn : Int)) alpha ≤ po - co := by
    simp only [lrtTest, lrtDf, Val.sub, Val.ge, Val.le, decide_eq_true_eq]
  refine ⟨fun h => ?_, fun h => ?_, fun h => ?_⟩
  · rw [key, (lrt_cutoff_sign isf alpha _).2.1 (by omega), show ((cn : Int) - (pn : Int)).natAbs = cn - pn by omega]
  · rw [key, (lrt_cutoff_sign isf alpha _).2.2 (by omega), show ((cn : Int) - (pn : Int)).natAbs = pn - cn by omega,
      ← Rat.neg_sub co po, Rat.neg_le_neg_iff]
  · rw [key, (lrt_cutoff_sign isf alpha _).1 (by omega), Rat.le_iff_sub_nonneg co po]

/-- `np.nanargmin` as modelled picks the first index holding the smallest
    non-NaN value, and fails exactly when there is none. -/
theorem nanargmin_spec (xs : List Val) :
    (nanargmin xs = none ↔ ∀ x ∈ xs, x = .nan) ∧ (∀ i, nanargmin xs = some i ↔ IsNanArgmin xs i) := by
  have h := nanargminV_spec xs
  unfold nanargmin
  match nanargminV xs, h with
  | none, h =>
    exact ⟨⟨fun _ => h, fun _ => rfl⟩, fun i => ⟨nofun, fun ⟨v, hv, _⟩ => nomatch h _ (List.mem_of_getElem? hv)⟩⟩
  | some (k, v), h =>
    exact ⟨⟨nofun, fun hall => nomatch hall _ (List.mem_of_getElem? h.1)⟩, fun i =>
      ⟨fun hi => Option.some.inj hi ▸ ⟨v, h⟩, fun ⟨w, hw⟩ => congrArg some (argminAt_unique h hw)⟩⟩

/-- With no usable OFV the parent is returned.  Otherwise
    the candidate with the lowest OFV (the first one among equals) is tested
    against the parent and returned iff it passes; the parent otherwise. -/
theorem best_of_many_spec (isf : Rat → Nat → Rat) (pn : Nat) (po : Val) (models : List (Nat × Val)) (alpha : Rat) :
    ((∀ m ∈ models, m.2 = .nan) → bestOfMany isf pn po models alpha = none) ∧
    (∀ i, IsNanArgmin (models.map (·.2)) i →
      ∃ n o, models[i]? = some (n, o) ∧
        bestOfMany isf pn po models alpha = if lrtTest isf pn n po o alpha = true then some i else none) := by
  obtain ⟨h1, h2⟩ := nanargmin_spec (models.map (·.2))
  refine ⟨fun hall => ?_, fun i hi => ?_⟩
  · rw [bestOfMany, h1.mpr fun x hx => by obtain ⟨m, hm, rfl⟩ := List.mem_map.mp hx; exact hall m hm]
  · obtain ⟨v, hv, _⟩ := id hi
    rw [List.getElem?_map] at hv
    cases hm : models[i]? with
    | none => rw [hm] at hv; cases hv
    | some m => exact ⟨m.1, m.2, rfl, by rw [bestOfMany, (h2 i).mpr hi]; simp only [hm, bestOfTwo]; rfl⟩

/-- AIC and the four BIC variants as documented, given the
    counts; a NaN likelihood stays NaN. -/
theorem aic_bic_formulas (c : Counts) (o : Rat) :
    aic c (.num o) = .num (o + 2 * (c.nonfixed : Rat)) ∧
    bic c (.num o) .mixed = .num (o + ((c.thetaR : Rat) * c.logSubs + (c.thetaF : Rat) * c.logObs)) ∧
    bic c (.num o) .fixed = .num (o + (c.nonfixed : Rat) * c.logObs) ∧
    bic c (.num o) .random = .num (o + (c.nonfixed : Rat) * c.logSubs) ∧
    bic c (.num o) .iiv = .num (o + (c.iivOmegas : Rat) * c.logSubs) ∧
    aic c .nan = .nan ∧ (∀ t, bic c .nan t = .nan) := by
  simp [aic, bic, bicPenalty, Val.add]

/-- `get_rankval`: NaN when the OFV is NaN or the strictness expression is
    false; otherwise the criterion selected by the rank type (`lrt` ranks on the
    OFV; `bic` without an explicit type is the documented default `mixed`). -/
theorem get_rankval_spec (r : Res) (c : Counts) (s : Option SExpr) :
    (r.ofv = .nan → ∀ rt, getRankval r c s rt = .ok .nan) ∧
    (isStrictnessFulfilled r s = .ok false → ∀ rt, getRankval r c s rt = .ok .nan) ∧
    (isStrictnessFulfilled r s = .ok true →
      getRankval r c s .ofv = .ok r.ofv ∧ getRankval r c s .lrt = .ok r.ofv ∧
      getRankval r c s .aic = .ok (aic c r.ofv) ∧
      (∀ t, getRankval r c s (.bic (some t)) = .ok (bic c r.ofv t)) ∧
      getRankval r c s (.bic none) = .ok (bic c r.ofv .mixed)) := by
  refine ⟨?_, ?_, ?_⟩
  · intro h rt
    simp [getRankval, isStrictnessFulfilled, h, Val.isNan]
  · intro h1 rt
    simp [getRankval, h1]
  · intro h1
    simp [getRankval, h1]

/-- Python's evaluation of the expression (short-circuit
    `and`/`or` returning an operand) is the plain boolean denotation of the
    documented grammar — for every expression, including those that use `rse`
    together with `rse_theta/omega/sigma`. -/
theorem strictness_eval (r : Res) (e : SExpr) : evalS r e = denote r e := by
  induction e with
  | b a => rfl
  | cmp a op c => rfl
  | rcmp c op a => rfl
  | and x y ihx ihy => simp only [evalS, denote, ihx, ihy]; cases denote r x <;> simp
  | or x y ihx ihy => simp only [evalS, denote, ihx, ihy]; cases denote r x <;> simp
  | not x ih => simp only [evalS, denote, ih]

/-- `is_strictness_fulfilled`: a NaN OFV always fails; the
    empty string always passes; an expression that needs RSEs the result does not
    have is refused (ValueError for `rse`, AttributeError for the per-class
    names); in every other case the answer is the denotation of the expression. -/
theorem is_strictness_fulfilled_spec (r : Res) (s : Option SExpr) :
    (r.ofv = .nan → isStrictnessFulfilled r s = .ok false) ∧
    (r.ofv.isNan = false → isStrictnessFulfilled r none = .ok true) ∧
    (∀ e, r.ofv.isNan = false → r.rse.isNone = true → e.mentionsN .rse = true →
      isStrictnessFulfilled r (some e) = .error .valueError) ∧
    (∀ e, r.ofv.isNan = false → r.rse.isNone = true → e.mentionsN .rse = false → e.mentionsRseClass = true →
      isStrictnessFulfilled r (some e) = .error .attributeError) ∧
    (∀ e, r.ofv.isNan = false → (r.rse.isNone = false ∨ (e.mentionsN .rse = false ∧ e.mentionsRseClass = false)) →
      isStrictnessFulfilled r (some e) = .ok (denote r e)) := by
  refine ⟨?_, ?_, ?_, ?_, ?_⟩
  · intro h; simp [isStrictnessFulfilled, h, Val.isNan]
  · intro h; simp [isStrictnessFulfilled, h]
  · intro e h1 h2 h3; simp [isStrictnessFulfilled, h1, h2, h3]
  · intro e h1 h2 h3 h4; simp [isStrictnessFulfilled, h1, h2, h3, h4]
  · intro e h1 h2
    rcases h2 with h2 | ⟨h2, h3⟩
    · simp [isStrictnessFulfilled, h1, h2, strictness_eval]
    · simp [isStrictnessFulfilled, h1, h2, h3, strictness_eval]

/-- The former counter-example (`rse` used together with `rse_theta`, D2): it now
    evaluates to its documented meaning. -/
theorem strictness_rse_mix_holds :
    isStrictnessFulfilled witnessRes (some (.and (.cmp .rse .lt (4/10)) (.cmp .rseTheta .lt (3/10)))) = .ok true := by
  rw [(is_strictness_fulfilled_spec witnessRes none).2.2.2.2 _ rfl (Or.inl rfl)]
  congr 1
  decide +kernel

/-- **final_zero_gradient_theta/omega/sigma are as documented**: true iff some
    gradient of *that* class is zero or NaN (D1 repaired). -/
theorem fzg_documented (r : Res) :
    battr r .fzgTheta = fzgDoc r .theta ∧ battr r .fzgOmega = fzgDoc r .omega ∧
    battr r .fzgSigma = fzgDoc r .sigma := by
  have h : ∀ gs : List Val, (gs.any isZero || gs.any Val.isNan) = gs.any (fun g => isZero g || g.isNan) := by
    intro gs
    induction gs with
    | nil => rfl
    | cons g gs ih =>
      rw [List.any_cons, List.any_cons, List.any_cons, ← ih, Bool.or_assoc, Bool.or_assoc,
        Bool.or_left_comm (gs.any isZero)]
  exact ⟨h _, h _, h _⟩

/-- The former witness of D1: a NaN omega gradient makes `final_zero_gradient_omega`
    true, a NaN theta gradient alone does not. -/
theorem fzg_omega_nan_holds :
    battr witnessRes .fzgOmega = true ∧
    battr { witnessRes with grd := [(.theta, .nan), (.omega, .num 1), (.sigma, .num 1)] } .fzgOmega = false := by
  constructor <;> decide +kernel

/-- The two classes are disjoint, duplicate free, and
    characterised independently of the visiting order: random = the estimated
    omegas plus every parameter occurring in an expression together with an eta;
    fixed = every parameter occurring in an eta-free expression that is not random. -/
theorem categorize_spec (omegas : List String) (vs : List Vis) (hn : omegas.Nodup) (x : String) :
    (x ∈ (categorize omegas vs).2 ↔ x ∈ omegas ∨ ∃ v ∈ vs, v.hasEta = true ∧ x ∈ v.pars) ∧
    (x ∈ (categorize omegas vs).1 ↔
      (∃ v ∈ vs, v.hasEta = false ∧ x ∈ v.pars) ∧ x ∉ (categorize omegas vs).2) ∧
    (categorize omegas vs).1.Nodup ∧ (categorize omegas vs).2.Nodup := by
  unfold categorize
  refine ⟨mem_foldl_catStep_snd vs _ x, ?_, nodup_foldl_catStep vs ([], omegas) .nil hn⟩
  simpa using mem_foldl_catStep_fst vs ([], omegas) x False (by simp)

/-- Mean, variance (stderr², shrinkage) of a column do
    not depend on the order of the replicates. -/
theorem stats_mean_var_perm {l₁ l₂ : List Rat} (h : l₁.Perm l₂) :
    Stats.mean l₁ = Stats.mean l₂ ∧ Stats.var l₁ = Stats.var l₂ := by
  have hm : Stats.mean l₁ = Stats.mean l₂ := by rw [Stats.mean, sum_perm h, h.length_eq]; rfl
  refine ⟨hm, ?_⟩
  unfold Stats.var Stats.cov Stats.cross Stats.dev
  rw [List.zipWith_self, List.zipWith_self, h.length_eq, hm]
  exact congrArg (· / _) (sum_perm ((h.map _).map _))

/-- The jackknife covariance matrix `(N − 1)/N Σ δ δᵀ` is symmetric. -/
theorem jackknife_cov_symmetric (xs ys : List Rat) (hlen : xs.length = ys.length) :
    Stats.jack xs ys = Stats.jack ys xs := by
  unfold Stats.jack Stats.cross
  rw [List.zipWith_comm_of_comm Rat.mul_comm, hlen]

/-- Defining formulas, as reported by the tools, of bias, RSE², eta and individual shrinkage and the
    jackknife entry. -/
theorem statistics_defs (xs ys : List Rat) (orig omega diag : Rat) :
    (Stats.colStats xs orig).bias = Stats.mean xs - orig ∧
    (Stats.colStats xs orig).rse2 = Stats.var xs / (Stats.mean xs * Stats.mean xs) ∧
    Stats.etaShrinkage xs omega = 1 - Stats.var xs / omega ∧
    Stats.indShrinkage diag omega = diag / omega ∧
    Stats.jack xs ys = Stats.cross xs ys * ((xs.length : Rat) - 1) / (xs.length : Rat) :=
  ⟨rfl, rfl, rfl, rfl, rfl⟩

/-- The squared delta-method standard error computed by
    `se_delta_method` (symbols re-ordered to the covariance columns, sub-matrix cut
    out by label, gradient in that order, `g C gᵀ`) equals the defining formula
    `Σₐ Σ_b ∂f/∂a · Cov(a, b) · ∂f/∂b` summed over the expression's symbols — whatever
    the order of the labels in the covariance matrix. -/
theorem delta_method_def (syms : List String) (g : String → Rat) (c : Stats.LCov)
    (hs : syms.Nodup) (hc : c.cols.Nodup) (hsub : ∀ s ∈ syms, s ∈ c.cols) :
    Stats.deltaVar syms g c = Stats.quadForm syms g c.entry := by
  unfold Stats.deltaVar
  exact quadForm_perm (deltaNames_perm syms c.cols hs hc hsub) g _

/-- The iteration order of `expr.free_symbols` (a set) does not matter. -/
theorem delta_method_symbol_order_irrelevant (syms syms' : List String) (g : String → Rat) (c : Stats.LCov)
    (hp : syms.Perm syms') (hs : syms.Nodup) (hc : c.cols.Nodup) (hsub : ∀ s ∈ syms, s ∈ c.cols) :
    Stats.deltaVar syms g c = Stats.deltaVar syms' g c := by
  rw [delta_method_def syms g c hs hc hsub,
      delta_method_def syms' g c (hp.nodup hs) hc (fun s h => hsub s (hp.mem_iff.mpr h))]
  exact quadForm_perm hp g _

/-- Reading a cell by its labels does not depend on the order of the rows
    (index labels distinct) … -/
theorem lcov_entry_perm_rows (cols cols' : List String) (rows rows' : List (String × List (String × Rat)))
    (hp : rows.Perm rows') (hn : (rows.map (·.1)).Nodup) (a b : String) :
    ({ cols := cols, rows := rows } : Stats.LCov).entry a b = ({ cols := cols', rows := rows' } : Stats.LCov).entry a b := by
  simp only [Stats.LCov.entry, lookupS_perm hp hn a]

/-- … nor on the order of the cells within a row (column labels distinct). -/
theorem lcov_entry_perm_cells (cols : List String) (rows : List (String × List (String × Rat)))
    (f : List (String × Rat) → List (String × Rat)) (hf : ∀ r, (f r).Perm r)
    (hn : ∀ kr ∈ rows, (kr.2.map (·.1)).Nodup) (a b : String) :
    ({ cols := cols, rows := rows.map (fun kr => (kr.1, f kr.2)) } : Stats.LCov).entry a b
      = ({ cols := cols, rows := rows } : Stats.LCov).entry a b := by
  simp only [Stats.LCov.entry]
  induction rows with
  | nil => rfl
  | cons kr rs ih =>
    simp only [List.map_cons, Stats.lookupS]
    by_cases hk : kr.1 = a
    · have hp := hf kr.2
      rw [if_pos hk, if_pos hk]
      exact congrArg (·.getD 0) (lookupS_perm hp ((hp.map _).nodup_iff.mpr (hn kr (List.mem_cons_self ..))) b)
    · rw [if_neg hk, if_neg hk]
      exact ih fun kr h => hn kr (List.mem_cons_of_mem _ h)

/-- Any simultaneous re-ordering of the
    labelled covariance matrix — columns permuted, rows permuted — leaves the
    result unchanged, as long as it is the same labelled matrix. -/
theorem delta_method_label_perm_invariant (syms : List String) (g : String → Rat) (c c' : Stats.LCov)
    (hs : syms.Nodup) (hc : c.cols.Nodup) (hsub : ∀ s ∈ syms, s ∈ c.cols)
    (hcols : c.cols.Perm c'.cols) (hentry : ∀ a b, c'.entry a b = c.entry a b) :
    Stats.deltaVar syms g c' = Stats.deltaVar syms g c := by
  rw [delta_method_def syms g c hs hc hsub,
      delta_method_def syms g c' hs (hcols.nodup hc) (fun s h => hcols.mem_iff.mp (hsub s h))]
  rw [show c'.entry = c.entry from funext fun a => funext (hentry a)]

/-- The Cook scores depend on the labelled
    base estimate and covariance matrix only through their labels: re-ordering the
    base estimate (labels distinct) and replacing the covariance matrix by any
    re-ordering of the same labelled matrix changes nothing. -/
theorem cook_scores_label_perm_invariant (colLabels : List String) (cols : List (List Rat))
    (base base' : List (String × Rat)) (c c' : Stats.LCov)
    (hb : base.Perm base') (hn : (base.map (·.1)).Nodup) (hentry : ∀ a b, c'.entry a b = c.entry a b) :
    Stats.cook2Labelled colLabels cols base' c' = Stats.cook2Labelled colLabels cols base c := by
  unfold Stats.cook2Labelled
  rw [show c'.entry = c.entry from funext fun a => funext (hentry a)]
  simp only [lookupS_perm hb hn]

/-- The Cook scores are those of the positional definition applied to the
    base estimate and covariance re-indexed by the columns of the estimates. -/
theorem cook_scores_def (colLabels : List String) (cols : List (List Rat)) (base : List (String × Rat)) (c : Stats.LCov) :
    Stats.cook2Labelled colLabels cols base c =
      Stats.cook2 (colLabels.map (fun l => (Stats.lookupS base l).getD 0)) cols
        (colLabels.map (fun a => colLabels.map (fun b => c.entry a b))) := rfl

/-- Every column of `individual_estimates` gets
    `1 − var(column) / omega` with the omega of the eta *named like the column*,
    whatever the order of the columns; permuting the columns permutes the result. -/
theorem eta_shrinkage_by_label (etaNames : List String) (omegas : List Rat) (ie ie' : List (String × List Rat)) :
    (∀ nm col, (nm, col) ∈ ie →
      (nm, 1 - Stats.var col / ((Stats.lookupS (etaNames.zip omegas) nm).getD 0)) ∈ Stats.etaShrinkageL etaNames omegas ie) ∧
    (ie.Perm ie' → (Stats.etaShrinkageL etaNames omegas ie).Perm (Stats.etaShrinkageL etaNames omegas ie')) ∧
    (ie.Perm ie' → (ie.map (·.1)).Nodup → ∀ nm,
      Stats.lookupS (Stats.etaShrinkageL etaNames omegas ie) nm = Stats.lookupS (Stats.etaShrinkageL etaNames omegas ie') nm) := by
  exact ⟨fun nm col h => List.mem_map.mpr ⟨(nm, col), h, rfl⟩, fun h => h.map _, lookupS_map_perm _⟩

/-- For one individual, each diagonal entry of
    its (labelled) matrix is divided by the omega of the eta with that label,
    whatever the order of the labels. -/
theorem individual_shrinkage_by_label (etaNames : List String) (omegas : List Rat) (diag diag' : List (String × Rat)) :
    (∀ nm d, (nm, d) ∈ diag →
      (nm, d / ((Stats.lookupS (etaNames.zip omegas) nm).getD 0)) ∈ Stats.indShrinkageL etaNames omegas diag) ∧
    (diag.Perm diag' → (diag.map (·.1)).Nodup → ∀ nm,
      Stats.lookupS (Stats.indShrinkageL etaNames omegas diag) nm = Stats.lookupS (Stats.indShrinkageL etaNames omegas diag') nm) := by
  exact ⟨fun nm d h => List.mem_map.mpr ⟨(nm, d), h, rfl⟩, lookupS_map_perm _⟩

/-- The pre-repair positional pairing (before 05239f5) was *not* label based:
    with the columns swapped the labelled and the positional results differ. -/
theorem eta_shrinkage_positional_witness :
    Stats.etaShrinkagePositional [1, 2] [("ETA_VC", [0, 2]), ("ETA_CL", [0, 4])]
      ≠ Stats.etaShrinkageL ["ETA_CL", "ETA_VC"] [1, 2] [("ETA_VC", [0, 2]), ("ETA_CL", [0, 4])] := by
  decide +kernel

/-- Likewise for the Cook scores (before f1a9548): a base estimate labelled in
    another order than the estimate columns gave other scores. -/
theorem cook_scores_positional_witness :
    Stats.cook2Positional ["b", "a"] [[1, 2, 4], [0, 1, 5]] [("a", 1), ("b", 3)] [[2, 0], [0, 1]]
      ≠ Stats.cook2Labelled ["b", "a"] [[1, 2, 4], [0, 1, 5]] [("a", 1), ("b", 3)]
          { cols := ["b", "a"], rows := [("b", [("b", 2), ("a", 0)]), ("a", [("b", 0), ("a", 1)])] } := by
  decide +kernel

/-- The candidate set of tests/tools/test_run.py (base, m1 failing strictness, m2 = m3 tied, m4 worse):
    ranks 1, 1, 3, 4 and an unranked last row. -/
example :
    (rankModels { lrt := false, cutoff := .none, isf := fun _ _ => 0 }
      [⟨.num 0, .num 0, 1, 0, 0⟩, ⟨.nan, .num (-5), 2, 0, 0⟩, ⟨.num (-4), .num (-4), 2, 0, 0⟩,
       ⟨.num (-4), .num (-4), 3, 0, 0⟩, ⟨.num 1, .num 1, 1, 0, 0⟩]).map (fun r => (r.idx, r.rank))
      = [(2, some 1), (3, some 1), (0, some 3), (4, some 4), (1, none)] := by decide +kernel

/-- `Eligible` is satisfiable by a candidate through two of its three clauses (cut-off, LRT). -/
example : Eligible { lrt := false, cutoff := .one 1, isf := fun _ _ => 0 }
    [⟨.num 0, .num 0, 1, 0, 0⟩, ⟨.num (-4), .num (-4), 2, 0, 0⟩] 1 ⟨.num (-4), .num (-4), 2, 0, 0⟩ := by
  refine ⟨-4, rfl, Or.inr (Or.inr ⟨rfl, ?_⟩)⟩
  intro co r hco hr
  simp only [Cutoff.one.injEq] at hco
  subst hco
  simp [refValue, Val.add] at hr
  subst hr
  decide +kernel

example : Eligible { lrt := true, cutoff := .none, isf := fun _ _ => 3841 / 1000 }
    [⟨.num 0, .num 0, 1, 0, 0⟩, ⟨.num (-4), .num (-4), 2, 0, 0⟩] 1 ⟨.num (-4), .num (-4), 2, 0, 0⟩ := by
  refine ⟨-4, rfl, Or.inr (Or.inl ⟨rfl, ?_⟩)⟩
  decide +kernel

/-- `IsNanArgmin` is satisfiable on a list with NaN entries and a tie. -/
example : IsNanArgmin [.nan, .num 2, .num 1, .nan, .num 1] 2 := by
  have : nanargmin [.nan, .num 2, .num 1, .nan, .num 1] = some 2 := by decide +kernel
  exact ((nanargmin_spec _).2 2).mp this

/-- The default strictness of the tools on a fine result is fulfilled (last clause of `is_strictness_fulfilled_spec`). -/
example : isStrictnessFulfilled witnessRes
      (some (.or (.b .minimizationSuccessful) (.and (.b .roundingErrors) (.cmp .sigdigs .ge (1/10))))) = .ok true := by
  rw [(is_strictness_fulfilled_spec witnessRes none).2.2.2.2 _ rfl (Or.inl rfl)]
  congr 1

/-- delta method on `POP_VC * (1 + 2.5 COVAPGR)`-like data: labels in model order (not lexical). -/
example :
    Stats.deltaVar ["COVAPGR", "POP_VC"] (fun s => if s = "POP_VC" then 3 else 1/2)
      { cols := ["POP_CL", "POP_VC", "COVAPGR"],
        rows := [("POP_CL", [("POP_CL", 1), ("POP_VC", 0), ("COVAPGR", 0)]),
                 ("POP_VC", [("POP_CL", 0), ("POP_VC", 4), ("COVAPGR", 1)]),
                 ("COVAPGR", [("POP_CL", 0), ("POP_VC", 1), ("COVAPGR", 2)])] } = 79 / 2 := by
  decide +kernel

end Pharmpy.C19
