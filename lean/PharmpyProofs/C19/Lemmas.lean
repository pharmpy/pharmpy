import PharmpyModel.C19.Model
import PharmpyModel.C19.Spec
import PharmpyModel.C19.Stats
namespace Pharmpy.C19

theorem insertDesc_perm {α : Type} (key : α → Rat) (x : α) (l : List α) :
    (insertDesc key x l).Perm (x :: l) := by
  induction l with
  | nil => exact .refl _
  | cons y ys ih =>
    unfold insertDesc
    split
    · exact .refl _
    · exact (ih.cons y).trans (.swap x y ys)

theorem sortDesc_perm {α : Type} (key : α → Rat) (l : List α) : (sortDesc key l).Perm l := by
  induction l with
  | nil => exact .refl _
  | cons x xs ih => exact (insertDesc_perm key x _).trans (ih.cons x)

theorem insertDesc_sorted {α : Type} (key : α → Rat) (x : α) (l : List α)
    (h : l.Pairwise (fun a b => key b ≤ key a)) :
    (insertDesc key x l).Pairwise (fun a b => key b ≤ key a) := by
  induction l with
  | nil => exact List.pairwise_singleton _ _
  | cons y ys ih =>
    obtain ⟨hy, hys⟩ := List.pairwise_cons.mp h
    unfold insertDesc
    split
    · next hle =>
      refine List.pairwise_cons.mpr ⟨fun a ha => ?_, h⟩
      rcases List.mem_cons.mp ha with rfl | ha
      · exact hle
      · exact Rat.le_trans (hy a ha) hle
    · next hnle =>
      refine List.pairwise_cons.mpr ⟨fun a ha => ?_, ih hys⟩
      rcases List.mem_cons.mp ((insertDesc_perm key x ys).mem_iff.mp ha) with rfl | ha
      · exact Rat.le_of_lt (Rat.not_le.mp hnle)
      · exact hy a ha

theorem sortDesc_sorted {α : Type} (key : α → Rat) (l : List α) :
    (sortDesc key l).Pairwise (fun a b => key b ≤ key a) := by
  induction l with
  | nil => exact .nil
  | cons x xs ih => exact insertDesc_sorted key x _ ih

/-- number of entries strictly greater than `x` -/
def above (keys : List Rat) (x : Rat) : Nat := keys.countP (fun y => decide (x < y))

theorem above_cons (y : Rat) (ys : List Rat) (x : Rat) :
    above (y :: ys) x = above ys x + if x < y then 1 else 0 := by
  simp only [above, List.countP_cons, decide_eq_true_eq]

theorem above_eq_zero {l : List Rat} {x : Rat} (h : ∀ a ∈ l, a ≤ x) : above l x = 0 :=
  List.countP_eq_zero.mpr fun a ha => by simpa using Rat.not_lt.mpr (h a ha)

/-- The loop invariant: on the rest of a descending list, inside a tie group of key `prev` that has
    `count + 1` members so far and rank `rank`, members of the group get `rank`, the others
    `rank + count + 1 +` the number of strictly greater entries of the rest. -/
theorem ranksAux_spec (l : List Rat) (rank count : Nat) (prev : Option Rat)
    (hs : l.Pairwise (fun a b => b ≤ a)) (hp : ∀ p, prev = some p → ∀ a ∈ l, a ≤ p) :
    ranksAux rank count prev l =
      l.map (fun x => if some x = prev then rank else rank + (count + 1) + above l x) := by
  induction l generalizing rank count prev with
  | nil => rfl
  | cons x xs ih =>
    obtain ⟨hx, hxs⟩ := List.pairwise_cons.mp hs
    have hx0 : above xs x = 0 := above_eq_zero hx
    by_cases heq : some x = prev
    · rw [ranksAux, if_neg (not_not_intro heq), ih _ _ _ hxs fun p hp' a ha => hp p hp' a (List.mem_cons_of_mem _ ha),
        List.map_cons, if_pos heq]
      refine congrArg _ (List.map_congr_left fun z hz => ?_)
      split
      · rfl
      · next hzp =>
        have hzx : z ≠ x := fun h => hzp (h ▸ heq)
        rw [above_cons, if_pos (Rat.lt_of_le_of_ne (hx z hz) hzx)]; omega
    · rw [ranksAux, if_pos heq, ih _ _ _ hxs fun p hp' => by cases hp'; exact hx, List.map_cons, if_neg heq,
        above_cons, hx0, if_neg Rat.lt_irrefl]
      refine congrArg _ (List.map_congr_left fun z hz => ?_)
      have hzx := hx z hz
      have hzp : some z ≠ prev := fun h =>
        heq ((congrArg some (Rat.le_antisymm (hp z h.symm x (List.mem_cons_self ..)) hzx)).trans h)
      rw [if_neg hzp, above_cons]
      by_cases hz : z = x
      · rw [if_pos (congrArg some hz), hz, hx0, if_neg Rat.lt_irrefl]; rfl
      · rw [if_neg fun h => hz (Option.some.inj h), if_pos (Rat.lt_of_le_of_ne hzx hz)]; omega

theorem ranks_spec (l : List Rat) (hs : l.Pairwise (fun a b => b ≤ a)) :
    ranks l = l.map (fun x => 1 + above l x) := by
  rw [ranks, ranksAux_spec l 0 0 none hs (fun _ h => nomatch h)]
  exact List.map_congr_left fun x _ => by rw [if_neg (fun h => nomatch h)]

theorem perm_range_of_nodup {l : List Nat} {n : Nat} (hn : l.Nodup) (hlt : ∀ i ∈ l, i < n) :
    (l ++ (List.range n).filter (fun i => !l.contains i)).Perm (List.range n) := by
  have h : l.Perm ((List.range n).filter (l.contains ·)) :=
    (List.perm_ext_iff_of_nodup hn (List.nodup_range.filter _)).mpr fun a => by simpa using hlt a
  exact (h.append_right _).trans (List.filter_append_perm _ _)

theorem refValue_eq {all : List Cand} {c : Cand} (h : all[0]? = some c) : refValue all = c.rv.add (.num c.pen) := by
  rw [refValue, List.head?_eq_getElem?, h]

theorem mem_keptOf_iff_keep (cfg : Cfg) (all : List Cand) (i : Nat) (v : Rat) :
    (i, v) ∈ keptOf cfg all ↔ ∃ c, all[i]? = some c ∧ keep cfg all (refValue all) i c = some v := by
  rw [keptOf, List.mem_filterMap]
  constructor
  · rintro ⟨⟨c, j⟩, hmem, hf⟩
    obtain ⟨w, hk, hw⟩ := Option.map_eq_some_iff.mp hf
    cases hw
    exact ⟨c, List.mem_zipIdx_iff_getElem?.mp hmem, hk⟩
  · rintro ⟨c, hc, hk⟩
    exact ⟨(c, i), List.mem_zipIdx_iff_getElem?.mpr hc, by rw [hk]; rfl⟩

theorem keptOf_idx_nodup (cfg : Cfg) (all : List Cand) : ((keptOf cfg all).map (·.1)).Nodup := by
  have h : (all.zipIdx.map (·.2)).Nodup := by rw [List.zipIdx_map_snd]; exact List.nodup_range' ..
  refine List.pairwise_map.mpr ((List.pairwise_map.mp h).filterMap _ fun a a' hne b hb b' hb' => ?_)
  obtain ⟨_, _, rfl⟩ := Option.map_eq_some_iff.mp hb
  obtain ⟨_, _, rfl⟩ := Option.map_eq_some_iff.mp hb'
  exact hne

theorem keptOf_fun (cfg : Cfg) (all : List Cand) (i : Nat) (v w : Rat)
    (hv : (i, v) ∈ keptOf cfg all) (hw : (i, w) ∈ keptOf cfg all) : v = w := by
  obtain ⟨c, hc, hk⟩ := (mem_keptOf_iff_keep ..).mp hv
  obtain ⟨c', hc', hk'⟩ := (mem_keptOf_iff_keep ..).mp hw
  cases hc.symm.trans hc'
  exact Option.some.inj (hk.symm.trans hk')

theorem keyOf_lt (ref : Val) (v w : Rat) : keyOf ref v < keyOf ref w ↔ w < v := by
  cases ref with
  | nan => exact Rat.neg_lt_neg_iff
  | num r => simp only [keyOf, Rat.sub_eq_add_neg, Rat.add_lt_add_left, Rat.neg_lt_neg_iff]

theorem keyOf_le (ref : Val) (v w : Rat) : keyOf ref v ≤ keyOf ref w ↔ w ≤ v := by
  rw [← Rat.not_lt, keyOf_lt, Rat.not_lt]

/-- competition rank of criterion value `v` among the kept models -/
def compRank (kept : List (Nat × Rat)) (v : Rat) : Nat := 1 + kept.countP (fun q => decide (q.2 < v))

def rowOf (ref : Val) (kept : List (Nat × Rat)) (p : Nat × Rat) : Row :=
  { idx := p.1, delta := ref.sub (.num p.2), rv := .num p.2, rank := some (compRank kept p.2) }

def unranked (i : Nat) : Row := { idx := i, delta := .nan, rv := .nan, rank := none }

theorem compRank_mono (kept : List (Nat × Rat)) {v w : Rat} (h : v ≤ w) : compRank kept v ≤ compRank kept w :=
  Nat.add_le_add_left (List.countP_mono_left fun q _ hq => by
    simpa using Std.lt_of_lt_of_le (by simpa using hq) h) 1

/-- Take `p` out of the list: it is counted for `w` but not for its own value, and whatever else is
    counted for `p.2` is counted for `w`. -/
theorem compRank_lt {kept : List (Nat × Rat)} {p : Nat × Rat} (hp : p ∈ kept) {w : Rat} (h : p.2 < w) :
    compRank kept p.2 < compRank kept w := by
  have hperm := List.perm_cons_erase hp
  rw [compRank, compRank, hperm.countP_eq, hperm.countP_eq, List.countP_cons_of_neg (by simp [Rat.lt_irrefl]),
    List.countP_cons_of_pos (by simpa using h)]
  exact Nat.add_lt_add_left (Nat.lt_succ_of_le (List.countP_mono_left fun q _ hq => by
    simpa using Std.lt_trans (by simpa using hq) h)) 1

theorem rankedRows_eq (cfg : Cfg) (all : List Cand) :
    rankedRows cfg all =
      (sortDesc (fun p => keyOf (refValue all) p.2) (keptOf cfg all)).map
        (rowOf (refValue all) (keptOf cfg all)) := by
  have hs := sortDesc_sorted (fun p : Nat × Rat => keyOf (refValue all) p.2) (keptOf cfg all)
  have hp := sortDesc_perm (fun p : Nat × Rat => keyOf (refValue all) p.2) (keptOf cfg all)
  simp only [rankedRows, ranks_spec _ (List.pairwise_map.mpr hs), ← List.map_prod_left_eq_zip, List.map_map]
  refine List.map_congr_left fun p _ => ?_
  simp only [Function.comp_def, rowOf, compRank, above, List.countP_map, keyOf_lt, hp.countP_eq]

theorem mem_rankModels (cfg : Cfg) (all : List Cand) (r : Row) :
    r ∈ rankModels cfg all ↔
      (∃ p ∈ keptOf cfg all, rowOf (refValue all) (keptOf cfg all) p = r) ∨
      (∃ i, i < all.length ∧ i ∉ (keptOf cfg all).map (·.1) ∧ unranked i = r) := by
  simp only [rankModels, List.mem_append, rankedRows_eq, unrankedRows, List.mem_map, (sortDesc_perm _ _).mem_iff,
    List.mem_filter, List.mem_range, Bool.not_eq_true', List.contains_eq_mem, decide_eq_false_iff_not, unranked,
    and_assoc]

theorem rowOf_mem {cfg : Cfg} {all : List Cand} {p : Nat × Rat} (hp : p ∈ keptOf cfg all) :
    rowOf (refValue all) (keptOf cfg all) p ∈ rankModels cfg all :=
  (mem_rankModels ..).mpr (.inl ⟨p, hp, rfl⟩)

theorem ranked_row {cfg : Cfg} {all : List Cand} {r : Row} {k : Nat} (hr : r ∈ rankModels cfg all)
    (hk : r.rank = some k) : ∃ p ∈ keptOf cfg all, rowOf (refValue all) (keptOf cfg all) p = r := by
  rcases (mem_rankModels cfg all r).mp hr with h | ⟨i, _, _, rfl⟩
  · exact h
  · cases hk

theorem rankModels_head {cfg : Cfg} {all : List Cand} {p : Nat × Rat} (hp : p ∈ keptOf cfg all) :
    ∃ t rest, t ∈ keptOf cfg all ∧ rankModels cfg all = rowOf (refValue all) (keptOf cfg all) t :: rest ∧
      ∀ q ∈ keptOf cfg all, t.2 ≤ q.2 := by
  have hperm := sortDesc_perm (fun p : Nat × Rat => keyOf (refValue all) p.2) (keptOf cfg all)
  have hs := sortDesc_sorted (fun p : Nat × Rat => keyOf (refValue all) p.2) (keptOf cfg all)
  rw [rankModels, rankedRows_eq]
  generalize sortDesc _ (keptOf cfg all) = sorted at hperm hs ⊢
  cases sorted with
  | nil => cases hperm.mem_iff.mpr hp
  | cons t ts =>
    refine ⟨t, _, hperm.mem_iff.mp (List.mem_cons_self ..), rfl, fun q hq => ?_⟩
    rcases List.mem_cons.mp (hperm.mem_iff.mpr hq) with rfl | hq'
    · exact Rat.le_refl
    · exact (keyOf_le ..).mp ((List.pairwise_cons.mp hs).1 q hq')

theorem rank_eq_compRank {cfg : Cfg} {all : List Cand} {r : Row} {k : Nat} {v : Rat}
    (hr : r ∈ rankModels cfg all) (hk : r.rank = some k) (hv : r.rv = .num v) :
    (r.idx, v) ∈ keptOf cfg all ∧ k = compRank (keptOf cfg all) v := by
  obtain ⟨p, hp, rfl⟩ := ranked_row hr hk
  cases hv
  exact ⟨hp, (Option.some.inj hk).symm⟩

/-- `IsNanArgmin xs i` is `∃ v, ArgminAt xs i v` by definition. -/
def ArgminAt (xs : List Val) (i : Nat) (v : Rat) : Prop :=
  xs[i]? = some (Val.num v) ∧ (∀ (j : Nat) (w : Rat), xs[j]? = some (Val.num w) → v ≤ w) ∧
    (∀ (j : Nat) (w : Rat), j < i → xs[j]? = some (Val.num w) → v < w)

theorem argminAt_cons_zero {xs : List Val} {v : Rat} (h : ∀ (j : Nat) (w : Rat), xs[j]? = some (Val.num w) → v ≤ w) :
    ArgminAt (.num v :: xs) 0 v :=
  ⟨rfl, fun j w hj => by
    cases j with
    | zero => cases hj; exact Rat.le_refl
    | succ j => exact h j w hj, nofun⟩

theorem argminAt_cons_succ {x : Val} {xs : List Val} {i : Nat} {v : Rat} (hx : ∀ a, x = .num a → v < a)
    (h : ArgminAt xs i v) : ArgminAt (x :: xs) (i + 1) v :=
  ⟨h.1, fun j w hj => by
    cases j with
    | zero => exact Rat.le_of_lt (hx w (Option.some.inj hj))
    | succ j => exact h.2.1 j w hj, fun j w hlt hj => by
    cases j with
    | zero => exact hx w (Option.some.inj hj)
    | succ j => exact h.2.2 j w (Nat.lt_of_succ_lt_succ hlt) hj⟩

theorem argminAt_unique {xs : List Val} {i k : Nat} {v w : Rat} (hi : ArgminAt xs i v) (hk : ArgminAt xs k w) :
    i = k := by
  rcases Nat.lt_trichotomy i k with h | h | h
  · exact absurd (hk.2.2 i v h hi.1) (Rat.not_lt.mpr (hi.2.1 k w hk.1))
  · exact h
  · exact absurd (hi.2.2 k w h hk.1) (Rat.not_lt.mpr (hk.2.1 i v hi.1))

theorem nanargminV_spec (xs : List Val) :
    match nanargminV xs with
    | none => ∀ x ∈ xs, x = .nan
    | some (i, v) => ArgminAt xs i v := by
  induction xs with
  | nil => exact nofun
  | cons x xs ih =>
    cases x with
    | nan =>
      rw [nanargminV]
      match nanargminV xs, ih with
      | none, ih => exact fun y hy => (List.mem_cons.mp hy).elim id (ih y)
      | some (k, b), ih => exact argminAt_cons_succ nofun ih
    | num a =>
      rw [nanargminV]
      match nanargminV xs, ih with
      | none, ih => exact argminAt_cons_zero fun j w hj => nomatch ih _ (List.mem_of_getElem? hj)
      | some (k, b), ih =>
        by_cases hba : b < a
        · simp only [hba, if_true]
          exact argminAt_cons_succ (fun _ ha => by cases ha; exact hba) ih
        · simp only [hba, if_false]
          exact argminAt_cons_zero fun j w hj => Rat.le_trans (Rat.not_lt.mp hba) (ih.2.1 j w hj)

theorem mem_addNew (acc : List String) (y x : String) : x ∈ addNew acc y ↔ x ∈ acc ∨ x = y := by
  unfold addNew
  split
  · next h => exact ⟨Or.inl, fun h' => h'.elim id fun e => e ▸ List.contains_iff_mem.mp h⟩
  · simp only [List.mem_append, List.mem_singleton]

theorem mem_unionS (a b : List String) (x : String) : x ∈ unionS a b ↔ x ∈ a ∨ x ∈ b := by
  unfold unionS
  induction b generalizing a with
  | nil => simp
  | cons y ys ih => rw [List.foldl_cons, ih, mem_addNew, List.mem_cons, or_assoc]

theorem nodup_unionS (a b : List String) (h : a.Nodup) : (unionS a b).Nodup := by
  unfold unionS
  induction b generalizing a with
  | nil => exact h
  | cons y ys ih =>
    refine ih _ ?_
    unfold addNew
    split
    · exact h
    · next hy =>
      refine List.nodup_append.mpr ⟨h, List.pairwise_singleton _ _, fun p hp q hq hpq => hy ?_⟩
      cases List.mem_singleton.mp hq
      exact List.contains_iff_mem.mpr (hpq ▸ hp)

theorem mem_foldl_catStep_snd (vs : List Vis) (st : List String × List String) (x : String) :
    x ∈ (vs.foldl catStep st).2 ↔ x ∈ st.2 ∨ ∃ v ∈ vs, v.hasEta = true ∧ x ∈ v.pars := by
  induction vs generalizing st with
  | nil => simp
  | cons v vs ih =>
    rw [List.foldl_cons, ih, catStep]
    cases hv : v.hasEta <;> simp [mem_unionS, hv, or_assoc]

/-- Along the loops, `x` is in the fixed class iff an eta-free expression seen so far (`E`) contains it
    and it is not in the random class. -/
theorem mem_foldl_catStep_fst (vs : List Vis) (st : List String × List String) (x : String) (E : Prop)
    (h : x ∈ st.1 ↔ E ∧ x ∉ st.2) :
    x ∈ (vs.foldl catStep st).1 ↔
      (E ∨ ∃ v ∈ vs, v.hasEta = false ∧ x ∈ v.pars) ∧ x ∉ (vs.foldl catStep st).2 := by
  induction vs generalizing st E with
  | nil => simpa using h
  | cons v vs ih =>
    rw [List.foldl_cons, ih (catStep st v) (E ∨ (v.hasEta = false ∧ x ∈ v.pars))]
    · simp only [List.mem_cons, exists_eq_or_imp, or_assoc]
    · unfold catStep
      cases hv : v.hasEta <;> simp [mem_unionS, h, or_and_right, and_assoc]

theorem nodup_foldl_catStep (vs : List Vis) (st : List String × List String) (h1 : st.1.Nodup) (h2 : st.2.Nodup) :
    (vs.foldl catStep st).1.Nodup ∧ (vs.foldl catStep st).2.Nodup := by
  induction vs generalizing st with
  | nil => exact ⟨h1, h2⟩
  | cons v vs ih =>
    have hstep : (catStep st v).1.Nodup ∧ (catStep st v).2.Nodup := by
      unfold catStep
      split
      · exact ⟨h1.filter _, nodup_unionS _ _ h2⟩
      · exact ⟨nodup_unionS _ _ h1, h2⟩
    exact ih _ hstep.1 hstep.2

theorem sum_perm {l₁ l₂ : List Rat} (h : l₁.Perm l₂) : Stats.sum l₁ = Stats.sum l₂ :=
  h.foldr_eq' (fun x _ y _ z => Rat.add_left_comm y x z) 0

theorem deltaNames_eq_filter (syms cols : List String) (h : syms.Nodup) :
    Stats.deltaNames syms cols = cols.filter (fun x => syms.contains x) := by
  unfold Stats.deltaNames
  induction cols with
  | nil => rfl
  | cons c cs ih =>
    rw [List.flatMap_cons, List.filter_cons, ih, List.filter_beq, h.count]
    by_cases hc : c ∈ syms <;> simp [hc]

theorem deltaNames_perm (syms cols : List String) (hs : syms.Nodup) (hc : cols.Nodup)
    (hsub : ∀ s ∈ syms, s ∈ cols) : (Stats.deltaNames syms cols).Perm syms := by
  rw [deltaNames_eq_filter syms cols hs, List.perm_ext_iff_of_nodup (List.Pairwise.filter _ hc) hs]
  intro a
  simp only [List.mem_filter, List.contains_eq_mem, decide_eq_true_eq]
  exact ⟨fun h => h.2, fun h => ⟨hsub a h, h⟩⟩

theorem quadForm_perm {l l' : List String} (h : l.Perm l') (g : String → Rat) (C : String → String → Rat) :
    Stats.quadForm l g C = Stats.quadForm l' g C := by
  unfold Stats.quadForm
  rw [List.map_congr_left fun a _ => sum_perm (h.map fun b => g a * C a b * g b)]
  exact sum_perm (h.map _)

theorem lookupS_perm {α : Type} {l l' : List (String × α)} (h : l.Perm l') (hn : (l.map (·.1)).Nodup) (a : String) :
    Stats.lookupS l a = Stats.lookupS l' a := by
  induction h with
  | nil => rfl
  | cons x _ ih =>
    obtain ⟨k, v⟩ := x
    simp only [Stats.lookupS, ih (List.nodup_cons.mp hn).2]
  | swap x y l =>
    obtain ⟨k, v⟩ := x
    obtain ⟨k', v'⟩ := y
    simp only [List.map_cons, List.nodup_cons, List.mem_cons, not_or] at hn
    simp only [Stats.lookupS]
    by_cases h1 : k' = a <;> by_cases h2 : k = a <;> simp [h1, h2]
    exact absurd (h1.trans h2.symm) hn.1.1
  | trans h1 _ ih1 ih2 => exact (ih1 hn).trans (ih2 ((h1.map _).nodup hn))

theorem lookupS_map_perm {α β : Type} (f : String × α → β) {l l' : List (String × α)} (h : l.Perm l')
    (hn : (l.map (·.1)).Nodup) (a : String) :
    Stats.lookupS (l.map fun p => (p.1, f p)) a = Stats.lookupS (l'.map fun p => (p.1, f p)) a :=
  lookupS_perm (h.map _) (by rwa [List.map_map]) a

theorem idxminAux_eq_self (rs : List Row) (best : Option (Nat × Nat))
    (h : ∀ r ∈ rs, ∀ k, r.rank = some k → ∃ j b, best = some (j, b) ∧ b ≤ k) : idxminAux rs best = best := by
  induction rs with
  | nil => rfl
  | cons r rs ih =>
    have ih := ih fun r' hr' => h r' (List.mem_cons_of_mem _ hr')
    unfold idxminAux
    cases hr : r.rank with
    | none => exact ih
    | some k =>
      obtain ⟨j, b, rfl, hle⟩ := h r (List.mem_cons_self ..) k hr
      simpa only [Nat.not_lt.mpr hle, if_false] using ih

end Pharmpy.C19
