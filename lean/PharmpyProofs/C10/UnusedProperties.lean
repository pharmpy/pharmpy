import PharmpyModel.C10.Unused
import PharmpyModel.C10.Model
import PharmpyProofs.C10.Lemmas
/-
  C10, last clause: "removing unused parameters and random variables removes exactly those
  without influence on any statement"; and renaming a symbol (`Statements.subs` keyed by a symbol
  or an amount function) reaches every statement, the ODE system included.
-/
namespace Pharmpy.C10
open Pharmpy

theorem disjointS_iff {a b : List Sym} : disjointS a b = true ↔ ∀ x ∈ a, x ∉ b := by
  simp only [disjointS, List.all_eq_true, not_contains_iff]

theorem not_disjointS_iff {a b : List Sym} : disjointS a b = false ↔ ∃ x ∈ a, x ∈ b := by
  simp only [disjointS, List.all_eq_false, Bool.not_eq_true, Bool.not_eq_false',
    List.contains_iff_mem]

theorem keepDist_normal {symbols : List Sym} {n : Sym} {v : List Sym} :
    keepDist symbols (.normal n v) = true ↔ n ∈ symbols ∨ ∃ x ∈ v, x ∈ symbols := by
  rw [keepDist, Bool.not_eq_true', not_disjointS_iff]
  constructor
  · rintro ⟨x, hxs, hx⟩
    rcases List.mem_cons.mp hx with rfl | hxv
    · exact .inl hxs
    · exact .inr ⟨x, hxv, hxs⟩
  · rintro (h | ⟨x, hxv, hxs⟩)
    · exact ⟨n, h, List.mem_cons_self⟩
    · exact ⟨x, hxs, List.mem_cons_of_mem _ hxv⟩

theorem mem_newParams {symbols : List Sym} {params : List Param} {dists : List Dist} {p : Param} :
    p ∈ newParams symbols params dists ↔
      p ∈ params ∧
        (p.name ∈ symbols ∨ (∃ d ∈ newDists symbols dists, p.name ∈ d.fs) ∨ p.zeroFix = true) := by
  simp only [newParams, List.mem_filter, keepParam, Bool.or_eq_true, List.contains_iff_mem,
    List.mem_flatMap, or_assoc]

/-- **A removed parameter has no influence**: it occurs in no statement and in no remaining
    distribution (and it is not one of the fixed-to-zero parameters that are kept on purpose). -/
theorem removed_param_without_influence (symbols : List Sym) (params : List Param) (dists : List Dist)
    (p : Param) (hp : p ∈ params) (hr : p ∉ newParams symbols params dists) :
    p.name ∉ symbols ∧ (∀ d ∈ newDists symbols dists, p.name ∉ d.fs) ∧ p.zeroFix = false :=
  have h := fun hk => hr (mem_newParams.mpr ⟨hp, hk⟩)
  ⟨fun h1 => h (.inl h1), fun d hd hm => h (.inr (.inl ⟨d, hd, hm⟩)),
    Bool.eq_false_iff.mpr fun h3 => h (.inr (.inr h3))⟩

/-- **A kept parameter has influence**: a statement reads it, or a remaining distribution uses
    it, or it is a parameter fixed to zero. -/
theorem kept_param_has_influence (symbols : List Sym) (params : List Param) (dists : List Dist)
    (p : Param) (hk : p ∈ newParams symbols params dists) :
    p ∈ params ∧ (p.name ∈ symbols ∨ (∃ d ∈ newDists symbols dists, p.name ∈ d.fs) ∨ p.zeroFix = true) :=
  mem_newParams.mp hk

/-- The remaining parameters are the old ones in their old order. -/
theorem new_params_sublist (symbols : List Sym) (params : List Param) (dists : List Dist) :
    (newParams symbols params dists).Sublist params :=
  List.filter_sublist

/-- **A removed random variable has no influence**: only a univariate distribution is ever
    dropped, and neither its variable nor any symbol of its variance occurs in a statement. -/
theorem removed_rv_without_influence (symbols : List Sym) (dists : List Dist) (d : Dist)
    (hd : d ∈ unjoined symbols dists) (hr : d ∉ newDists symbols dists) :
    ∃ n v, d = .normal n v ∧ n ∉ symbols ∧ ∀ x ∈ v, x ∉ symbols := by
  have hk : ¬ keepDist symbols d = true := fun h => hr (List.mem_filter.mpr ⟨hd, h⟩)
  cases d with
  | joint ns m => exact absurd rfl hk
  | normal n v =>
    rw [keepDist_normal] at hk
    exact ⟨n, v, rfl, fun h => hk (.inl h), fun x hx hxs => hk (.inr ⟨x, hx, hxs⟩)⟩

/-- **A kept univariate random variable has influence**: a statement reads the variable or a
    symbol of its variance. -/
theorem kept_normal_has_influence (symbols : List Sym) (dists : List Dist) (n : Sym) (v : List Sym)
    (hk : Dist.normal n v ∈ newDists symbols dists) :
    n ∈ symbols ∨ ∃ x ∈ v, x ∈ symbols :=
  keepDist_normal.mp (List.mem_filter.mp hk).2

/-- A variable of a joint distribution is taken out only if no statement reads it and no
    statement reads a symbol of its row of the covariance matrix. -/
theorem unjoined_name_unread (symbols : List Sym) (ns : List Sym) (m : List (List (List Sym))) (n : Sym)
    (h : n ∈ toUnjoin symbols (.joint ns m)) :
    n ∉ symbols ∧ ∃ row, (n, row) ∈ ns.zip m ∧ ∀ x ∈ row.flatten, x ∉ symbols := by
  obtain ⟨p, hp, hsome⟩ := List.mem_filterMap.mp h
  split at hsome
  · next hc =>
    cases hsome
    simp only [Bool.and_eq_true, not_contains_iff, disjointS_iff] at hc
    exact ⟨hc.1, p.2, hp, fun x hx hxs => hc.2 x hxs hx⟩
  · cases hsome

theorem restOf_names (ns : List Sym) (m : List (List (List Sym))) (keep : List Nat) :
    (restOf ns m keep).flatMap Dist.names = keep.map (fun i => ns.getD i "") :=
  match keep with
  | [] => rfl
  | [_] => rfl
  | _ :: _ :: _ => List.append_nil _

theorem names_unjoinDist {inds : List Sym} {d : Dist} {n : Sym} (hn : n ∈ d.names) (hni : n ∉ inds) :
    n ∈ (unjoinDist inds d).flatMap Dist.names := by
  cases d with
  | normal n' v => exact List.mem_flatMap.mpr ⟨_, List.mem_singleton_self _, hn⟩
  | joint ns m =>
    have hn : n ∈ ns := hn
    simp only [unjoinDist]
    split
    · -- `n` is not taken out, so its index is among those of the rest
      rw [List.flatMap_append, restOf_names]
      obtain ⟨i, hi, rfl⟩ := List.getElem_of_mem hn
      have hg : ns.getD i "" = ns[i] := by
        rw [List.getD_eq_getElem?_getD, List.getElem?_eq_getElem hi]; rfl
      refine List.mem_append_right _
        (List.mem_map.mpr ⟨i, List.mem_filter.mpr ⟨List.mem_range.mpr hi, ?_⟩, hg⟩)
      rw [hg, not_contains_iff]
      exact hni
    · exact List.mem_flatMap.mpr ⟨_, List.mem_singleton_self _, hn⟩

/-- **A random variable a statement reads is never removed** (whatever distribution it is in,
    and whatever happens to the other variables of its block). -/
theorem read_rv_stays (symbols : List Sym) (dists : List Dist) (d : Dist) (n : Sym)
    (hd : d ∈ dists) (hn : n ∈ d.names) (hs : n ∈ symbols) :
    n ∈ (newDists symbols dists).flatMap Dist.names := by
  have hni : n ∉ dists.flatMap (toUnjoin symbols) := fun h => by
    obtain ⟨d', -, hd'⟩ := List.mem_flatMap.mp h
    cases d' with
    | normal _ _ => cases hd'
    | joint ns m => exact (unjoined_name_unread symbols ns m n hd').1 hs
  obtain ⟨e, he, hne⟩ := List.mem_flatMap.mp (names_unjoinDist hn hni)
  have hk : keepDist symbols e = true := by
    cases e with
    | joint _ _ => rfl
    | normal n' v => exact keepDist_normal.mpr (.inl (List.mem_singleton.mp hne ▸ hs))
  exact List.mem_flatMap.mpr ⟨e, List.mem_filter.mpr ⟨List.mem_flatMap.mpr ⟨d, hd, he⟩, hk⟩, hne⟩

/-- The "hoisted" variant (symbols of the remaining distributions = all symbols minus those of
    the dropped distributions) removes a parameter that a remaining distribution still uses:
    two occasions sharing one variance, only the first one read. -/
theorem subtract_variant_witness :
    let symbols := ["ETA_IOV_1", "THETA"]
    let params := [Param.mk "THETA" false, Param.mk "OMEGA_IOV" false]
    let dists := [Dist.normal "ETA_IOV_1" ["OMEGA_IOV"], Dist.normal "ETA_IOV_2" ["OMEGA_IOV"]]
    newParams symbols params dists = params ∧
    newParamsSubtract symbols params dists = [Param.mk "THETA" false] ∧
    newDists symbols dists = [Dist.normal "ETA_IOV_1" ["OMEGA_IOV"]] := by
  decide +kernel

/-- Non-vacuity: a joint block whose second variable is unused is taken apart, the unused
    variable and its variance and covariance parameters go, the rest stays. -/
example :
    newDists ["ETA1", "ETA3"]
      [Dist.joint ["ETA1", "ETA2", "ETA3"]
        [[["O11"], ["O21"], ["O31"]], [["O21"], ["O22"], ["O32"]], [["O31"], ["O32"], ["O33"]]]]
      = [Dist.joint ["ETA1", "ETA3"] [[["O11"], ["O31"]], [["O31"], ["O33"]]]] ∧
    newParams ["ETA1", "ETA3"]
      [⟨"O11", false⟩, ⟨"O21", false⟩, ⟨"O22", false⟩, ⟨"O31", false⟩, ⟨"O32", false⟩, ⟨"O33", false⟩, ⟨"Z", true⟩]
      [Dist.joint ["ETA1", "ETA2", "ETA3"]
        [[["O11"], ["O21"], ["O31"]], [["O21"], ["O22"], ["O32"]], [["O31"], ["O32"], ["O33"]]]]
      = [⟨"O11", false⟩, ⟨"O31", false⟩, ⟨"O33", false⟩, ⟨"Z", true⟩] := by
  decide +kernel

theorem syms_subst1_sym (x z : Sym) (e : Expr) :
    (Expr.subst1 x (.sym z) e).syms = e.syms.map (renameSym x z) := by
  unfold Expr.subst1
  induction e with
  | lit n => rfl
  | sym s =>
    by_cases hs : s = x <;>
      simp only [Expr.subst, Expr.syms, renameSym, hs, if_true, if_false, List.map_cons, List.map_nil]
  | f1 f a iha => exact iha
  | f2 f a b iha ihb => simp only [Expr.subst, Expr.syms, List.map_append, iha, ihb]
  | f3 f a b c iha ihb ihc => simp only [Expr.subst, Expr.syms, List.map_append, iha, ihb, ihc]

theorem renameSym_ne (x z y : Sym) (h : z ≠ x) : renameSym x z y ≠ x := by
  unfold renameSym
  split
  · exact h
  · next hy => exact hy

theorem rename_rhs (x z : Sym) (s : Stmt) : (renameStmt x z s).rhs = s.rhs.map (renameSym x z) := by
  cases s with
  | assign y e => exact syms_subst1_sym x z e
  | ode a r => rfl

/-- The ODE system's amounts are renamed too. -/
theorem rename_defs (x z : Sym) (s : Stmt) : (renameStmt x z s).defs = s.defs.map (renameSym x z) := by
  cases s <;> rfl

/-- **Renaming is applied to every statement**: after `subs({x: z})` (z ≠ x) no statement reads
    `x` any more and no statement defines it — neither an assignment nor the ODE system; so a
    statement after the ODE system cannot be left reading an amount that nothing defines. -/
theorem rename_leaves_no_stale_symbol (x z : Sym) (h : z ≠ x) (ss : List Stmt) :
    ∀ s ∈ renameStmts x z ss, x ∉ s.rhs ∧ x ∉ s.defs := by
  intro s hs
  obtain ⟨s0, _, rfl⟩ := List.mem_map.mp hs
  have hno (l : List Sym) : x ∉ l.map (renameSym x z) := fun hx =>
    have ⟨y, _, hy⟩ := List.mem_map.mp hx
    renameSym_ne x z y h hy
  rw [rename_rhs, rename_defs]
  exact ⟨hno _, hno _⟩

/-- Witness: leaving the assignments alone while the ODE system is renamed (what a "no key among
    the free symbols" shortcut does for an amount function) leaves a read of an undefined amount. -/
theorem rename_skipping_assignments_witness :
    let ss := [Stmt.ode ["A_CENTRAL(t)"] ["K"], Stmt.assign "F" (.sym "A_CENTRAL(t)")]
    let skipped := [renameStmt "A_CENTRAL(t)" "AC(t)" (Stmt.ode ["A_CENTRAL(t)"] ["K"]), Stmt.assign "F" (.sym "A_CENTRAL(t)")]
    renameStmts "A_CENTRAL(t)" "AC(t)" ss = [Stmt.ode ["AC(t)"] ["K"], Stmt.assign "F" (.sym "AC(t)")] ∧
    ("A_CENTRAL(t)" ∈ (skipped.getD 1 default).rhs ∧ ∀ s ∈ skipped, "A_CENTRAL(t)" ∉ s.defs) := by
  decide +kernel

end Pharmpy.C10
