import PharmpyModel.C10.DepGraph
import PharmpyProofs.C10.Lemmas
/-
  C10 — "the reported dependencies of a symbol always include every parameter, random variable
  and data column its value can depend on", for the model-level queries depends_on /
  has_random_effect (modeling/expressions.py), which use `_dependency_graph` + `reachable_from`.
-/
namespace Pharmpy.C10
open Pharmpy

def GEdge (G : Graph) (a b : Sym) : Prop := ∃ v, G.lookup a = some v ∧ b ∈ v

/-- What `reachable_from` computes. -/
inductive Reach (G : Graph) (a : Sym) : Sym → Prop
  | refl : Reach G a a
  | tail {b c : Sym} : Reach G a b → GEdge G b c → Reach G a c

theorem Reach.head {G : Graph} {a b c : Sym} (h : GEdge G a b) (r : Reach G b c) : Reach G a c := by
  induction r with
  | refl => exact .tail .refl h
  | tail _ e ih => exact .tail ih e

theorem lookup_map_val (G : Graph) (f : Sym → List Sym → List Sym) (y : Sym) :
    (G.map (fun p => (p.1, f p.1 p.2))).lookup y = (G.lookup y).map (f y) := by
  induction G with
  | nil => rfl
  | cons p G ih =>
    obtain ⟨k, w⟩ := p
    simp only [List.map_cons, List.lookup_cons]
    cases h : y == k
    · exact ih
    · rw [eq_of_beq h]; rfl

theorem gset_eq (G : Graph) (x : Sym) (v : List Sym) :
    gset G x v = G.map (fun p => (p.1, if p.1 = x then v else p.2)) :=
  List.map_congr_left fun p _ => by split <;> rfl

theorem lookup_step_new (G : Graph) (x : Sym) (e : Expr) (h : G.lookup x = none) (y : Sym) :
    (graphStep G (.assign x e)).lookup y = if y = x then some e.syms else G.lookup y := by
  simp only [graphStep, h, List.lookup_append, List.lookup_cons, List.lookup_nil]
  by_cases hy : y = x
  · rw [if_pos hy, hy, h, beq_self_eq_true]; rfl
  · rw [if_neg hy, beq_eq_false_iff_ne.mpr hy, Option.or_none]

theorem lookup_step_redef (G : Graph) (x : Sym) (e : Expr) (prev : List Sym)
    (h : G.lookup x = some prev) (y : Sym) :
    (graphStep G (.assign x e)).lookup y =
      if y = x then some (expand x prev e.syms) else (G.lookup y).map (expand x prev) := by
  simp only [graphStep, h]
  rw [lookup_map_val _ (fun _ => expand x prev), gset_eq,
    lookup_map_val G (fun k w => if k = x then e.syms else w)]
  by_cases hy : y = x
  · rw [if_pos hy, hy, h]; simp only [Option.map_some, if_true]
  · simp only [if_neg hy]; cases G.lookup y <;> rfl

theorem mem_expand {x : Sym} {prev v : List Sym} {b : Sym} :
    b ∈ expand x prev v ↔ (b ∈ v ∧ b ≠ x) ∨ (x ∈ v ∧ b ∈ prev) := by
  unfold expand
  split
  · next h => simp only [List.mem_append, List.mem_filter, decide_eq_true_eq, h, true_and]
  · next h =>
    exact ⟨fun hb => .inl ⟨hb, fun hbx => h (hbx ▸ hb)⟩,
      fun hb => hb.elim And.left fun hb => absurd hb.1 h⟩

theorem lookup_redef_of_ne {G : Graph} {x : Sym} {e : Expr} {prev v : List Sym} {c : Sym}
    (h : G.lookup x = some prev) (hc : c ≠ x) (hv : G.lookup c = some v) :
    (graphStep G (.assign x e)).lookup c = some (expand x prev v) := by
  rw [lookup_step_redef G x e prev h c, if_neg hc, hv]; rfl

theorem lookup_redef_self {G : Graph} {x : Sym} {e : Expr} {prev : List Sym}
    (h : G.lookup x = some prev) :
    (graphStep G (.assign x e)).lookup x = some (expand x prev e.syms) := by
  rw [lookup_step_redef G x e prev h x, if_pos rfl]

/-- Path contraction: inlining the previous definition of `x` into every definition that
    mentions `x` keeps every symbol other than `x` reachable — from any `a ≠ x`, and from `x`
    itself when the new right-hand side still mentions `x`.  The second half carries the
    induction through `x`: what `prev` lists has become a successor of the predecessor. -/
theorem reach_contract {G : Graph} {x : Sym} {e : Expr} {prev : List Sym} (h : G.lookup x = some prev)
    {a b : Sym} (ha : a ≠ x ∨ x ∈ e.syms) (r : Reach G a b) :
    (b ≠ x → Reach (graphStep G (.assign x e)) a b) ∧
    (b = x → ∀ d ∈ prev, d ≠ x → Reach (graphStep G (.assign x e)) a d) := by
  induction r with
  | refl =>
    refine ⟨fun _ => .refl, fun hb d hd _ => ?_⟩
    subst hb
    exact .tail .refl ⟨_, lookup_redef_self h, mem_expand.mpr (.inr ⟨ha.resolve_left fun h => h rfl, hd⟩)⟩
  | @tail c b _ hcb ih =>
    obtain ⟨v, hv, hbv⟩ := hcb
    by_cases hc : c = x
    · -- the edge leaves x: b ∈ prev
      subst hc
      rw [h] at hv
      cases hv
      exact ⟨fun hb => ih.2 rfl b hbv hb, fun _ d hd hdx => ih.2 rfl d hd hdx⟩
    · have hl := lookup_redef_of_ne (e := e) h hc hv
      refine ⟨fun hb => .tail (ih.1 hc) ⟨_, hl, mem_expand.mpr (.inl ⟨hbv, hb⟩)⟩, fun hb d hd _ => ?_⟩
      subst hb
      exact .tail (ih.1 hc) ⟨_, hl, mem_expand.mpr (.inr ⟨hbv, hd⟩)⟩

theorem reach_redef (G : Graph) (x : Sym) (e : Expr) (prev : List Sym) (h : G.lookup x = some prev)
    (a : Sym) (ha : a ≠ x) (b : Sym) (r : Reach G a b) :
    (b ≠ x → Reach (graphStep G (.assign x e)) a b) ∧
    (b = x → ∀ d ∈ prev, d ≠ x → Reach (graphStep G (.assign x e)) a d) :=
  reach_contract h (.inl ha) r

/-- From the redefined symbol itself: everything its new right-hand side reaches and
    everything its previous definition reached stays reachable. -/
theorem reach_redef_self (G : Graph) (x : Sym) (e : Expr) (prev : List Sym) (h : G.lookup x = some prev)
    (s : Sym) (hs : s ∈ e.syms ∨ (x ∈ e.syms ∧ s ∈ prev)) (hsx : s ≠ x) (b : Sym) (hb : b ≠ x)
    (r : Reach G s b) : Reach (graphStep G (.assign x e)) x b :=
  Reach.head ⟨_, lookup_redef_self h, mem_expand.mpr (hs.imp_left fun hs => ⟨hs, hsx⟩)⟩
    ((reach_redef G x e prev h s hsx b r).1 hb)

theorem reach_new (G : Graph) (x : Sym) (e : Expr) (h : G.lookup x = none) (a b : Sym)
    (r : Reach G a b) : Reach (graphStep G (.assign x e)) a b := by
  induction r with
  | refl => exact .refl
  | @tail c b _ hcb ih =>
    obtain ⟨v, hv, hbv⟩ := hcb
    have hc : c ≠ x := fun hc => nomatch (hc ▸ hv).symm.trans h
    exact .tail ih ⟨v, by rw [lookup_step_new G x e h c, if_neg hc, hv], hbv⟩

theorem reach_step_of_ne (G : Graph) (x : Sym) (e : Expr) {a b : Sym} (ha : a ≠ x) (hb : b ≠ x)
    (r : Reach G a b) : Reach (graphStep G (.assign x e)) a b := by
  cases h : G.lookup x with
  | none => exact reach_new G x e h a b r
  | some prev => exact (reach_redef G x e prev h a ha b r).1 hb

theorem reach_step_self (G : Graph) (x : Sym) (e : Expr) {s b : Sym} (hs : s ∈ e.syms) (hb : b ≠ x)
    (r : Reach G s b) : Reach (graphStep G (.assign x e)) x b := by
  cases h : G.lookup x with
  | none =>
    exact .head ⟨_, by rw [lookup_step_new G x e h x, if_pos rfl], hs⟩ (reach_new G x e h s b r)
  | some prev =>
    -- a self-reference `x = f(x, …)` reads the old value of `x`
    by_cases hsx : s = x
    · subst hsx
      exact (reach_contract h (.inr hs) r).1 hb
    · exact reach_redef_self G x e prev h s (.inl hs) hsx b hb r

def allAssign (ss : List Stmt) : Prop := ∀ s ∈ ss, ∃ x e, s = Stmt.assign x e

theorem depGraph_snoc (ss : List Stmt) (s : Stmt) : depGraph (ss ++ [s]) = graphStep (depGraph ss) s :=
  List.foldl_append

theorem run_eq_of_agree_on_reach {α : Type} (I : Interp α) (ss : List Stmt) (hA : allAssign ss)
    (ρ ρ' : Env α) (hT : ∀ s ∈ ss, ∀ d ∈ s.defs, ρ d = ρ' d) :
    ∀ K, (∀ y, Reach (depGraph ss) K y → ρ y = ρ' y) → run I ss ρ K = run I ss ρ' K := by
  induction ss using snoc_induction with
  | nil => exact fun K hR => hR K .refl
  | append_singleton ss s ih =>
    obtain ⟨x, e, rfl⟩ := hA s (by simp)
    have hx : ρ x = ρ' x := hT (.assign x e) (by simp) x (List.mem_singleton_self x)
    have ih := ih (fun t ht => hA t (List.mem_append_left _ ht))
      fun t ht => hT t (List.mem_append_left _ ht)
    -- `x` is assigned, so the environments agree on it whether or not it is reached
    have hval : ∀ a, (∀ y, y ≠ x → Reach (depGraph ss) a y → ρ y = ρ' y) →
        run I ss ρ a = run I ss ρ' a :=
      fun a ha => ih a fun y hy => if hyx : y = x then hyx ▸ hx else ha y hyx hy
    intro K hR
    rw [depGraph_snoc] at hR
    rw [run_snoc, run_snoc]
    by_cases hKx : K = x
    · -- the assigned symbol: its new value reads the old values of `e.syms`
      subst hKx
      exact Stmt.exec_congr I (fun _ a ha => hval a fun y hyx hy =>
        hR y (reach_step_self _ K e ha hyx hy)) fun hd => absurd (List.mem_singleton_self K) hd
    · -- another symbol keeps its value; its reachable set only lost `x`
      exact Stmt.exec_congr I (fun hd => absurd (List.mem_singleton.mp hd) hKx) fun _ =>
        hval K fun y hyx hy => hR y (reach_step_of_ne _ x e hKx hyx hy)

/-- **Soundness of `_dependency_graph` + `reachable_from`.**  For every list of assignments (any
    reassignment pattern, self references): two environments that agree on every assigned symbol
    and on everything reachable from `K` give `K` the same final value. -/
theorem depGraph_sound {α : Type} (I : Interp α) (ss : List Stmt) (hA : allAssign ss) (ρ ρ' : Env α)
    (hT : ∀ s ∈ ss, ∀ d ∈ s.defs, ρ d = ρ' d) :
    ∀ K v, (depGraph ss).lookup K = some v →
      (∀ y, Reach (depGraph ss) K y → ρ y = ρ' y) → run I ss ρ K = run I ss ρ' K :=
  fun K _ _ => run_eq_of_agree_on_reach I ss hA ρ ρ' hT K

/-- A closed set containing `K` contains everything reachable from `K`
    (`closedUnder` is what the driver checks on every `reachFrom` answer). -/
theorem reach_subset_closed (G : Graph) (S : List Sym) (hc : closedUnder G S = true) (a : Sym)
    (ha : a ∈ S) (b : Sym) (r : Reach G a b) : b ∈ S := by
  induction r with
  | refl => exact ha
  | @tail c b _ hcb ih =>
    obtain ⟨v, hv, hbv⟩ := hcb
    have hb : b ∈ succOf G c := by rw [succOf, hv]; exact hbv
    exact List.contains_iff_mem.mp (List.all_eq_true.mp (List.all_eq_true.mp hc c ih) b hb)

/-- **depends_on == False means no influence.**  `S` = the reported closed set of `K`.
    If two environments differ at most on symbols that are never assigned and lie outside
    `S` (e.g. only at one parameter / eta / data column `z ∉ S`), `K` gets the same value. -/
theorem depends_on_false_no_influence {α : Type} (I : Interp α) (ss : List Stmt) (hA : allAssign ss)
    (K : Sym) (v : List Sym) (hK : (depGraph ss).lookup K = some v)
    (S : List Sym) (hc : closedUnder (depGraph ss) S = true) (hKS : K ∈ S)
    (ρ ρ' : Env α)
    (hdiff : ∀ y, ρ y ≠ ρ' y → y ∉ S ∧ ∀ s ∈ ss, y ∉ s.defs) :
    run I ss ρ K = run I ss ρ' K :=
  depGraph_sound I ss hA ρ ρ'
    (fun s hs d hd => Classical.byContradiction fun hne => (hdiff d hne).2 s hs hd) K v hK
    fun y hy => Classical.byContradiction fun hne =>
      (hdiff y hne).1 (reach_subset_closed _ S hc K hKS y hy)

-- non-vacuity: the chained-redefinition program  A=TH1*exp(ETA1); X=A*WGT; Y=X+TH2; X=TH2; A=0
def chainProg : List Stmt :=
  [.assign "A" (.f2 "mul" (.sym "TH1") (.f1 "exp" (.sym "ETA1"))), .assign "X" (.f2 "mul" (.sym "A") (.sym "WGT")),
   .assign "Y" (.f2 "add" (.sym "X") (.sym "TH2")), .assign "X" (.sym "TH2"), .assign "A" (.lit 0)]

example : (depGraph chainProg).lookup "Y" = some ["TH2", "WGT", "TH1", "ETA1"] := by decide +kernel
example : dependsOnAny chainProg "Y" ["ETA1"] = some true := by decide +kernel
example : closedUnder (depGraph chainProg) (reachFrom (depGraph chainProg) "Y") = true := by decide +kernel

/-- The variant that visits only the recorded users of the redefined symbol (reverse index filled
    from literal right-hand sides) loses ETA1 for Y on that program: Y keeps a stale reference to A. -/
theorem users_index_variant_witness :
    (depGraphIdx chainProg).lookup "Y" = some ["TH2", "A", "WGT"] ∧
    (reachFrom (depGraphIdx chainProg) "Y").contains "ETA1" = false := by decide +kernel

end Pharmpy.C10
