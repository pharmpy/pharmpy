import PharmpyProofs.C10.Lemmas
import PharmpyProofs.C10.RemoveSafe
/-
  C10 — statement dataflow analyses are sound.  A theorem that runs statements does so for an
  arbitrary carrier `α` and interpretation `I` of literals and named operations (so for real
  arithmetic with `exp`, `/`, piecewise …); the `*_witness` counter-examples use `Interp Int`.
-/
namespace Pharmpy.C10
open Pharmpy Expr

theorem fullStep_ok {s : Stmt} {acc : Except Err Expr} {r : Expr} (h : fullStep s acc = .ok r) :
    ∃ x t r', s = .assign x t ∧ acc = .ok r' ∧ r = subst1 x t r' := by
  cases s with
  | ode a rr => cases acc <;> cases h
  | assign x t =>
    cases acc with
    | error err => cases h
    | ok r' => exact ⟨x, t, r', rfl, rfl, (Except.ok.inj h).symm⟩

/-- Expanding an expression to its full definition evaluates (in the initial
    environment) to the value the expression has after executing the
    statements in order. -/
theorem full_expression_sound {α : Type} (I : Interp α) (ss : List Stmt) :
    ∀ (e r : Expr) (ρ : Env α),
      fullExpression ss e = .ok r → eval I ρ r = eval I (run I ss ρ) e := by
  induction ss with
  | nil => intro e r ρ h; cases h; rfl
  | cons s ss ih =>
    intro e r ρ h
    obtain ⟨x, t, r', rfl, h', rfl⟩ := fullStep_ok (s := s) (acc := fullExpression ss e) h
    rw [Expr.eval_subst1]
    exact ih e r' _ h'

/-- `full_expression` refuses exactly the lists that contain an ODE system. -/
theorem full_expression_error_iff (ss : List Stmt) (e : Expr) :
    (∃ r, fullExpression ss e = .ok r) ↔ ∀ s ∈ ss, s.isOde = false := by
  induction ss with
  | nil => exact ⟨fun _ _ h => (nomatch h), fun _ => ⟨e, rfl⟩⟩
  | cons s ss ih =>
    rw [List.forall_mem_cons, ← ih]
    constructor
    · rintro ⟨r, h⟩
      obtain ⟨x, t, r', rfl, h', -⟩ := fullStep_ok (s := s) (acc := fullExpression ss e) h
      exact ⟨rfl, r', h'⟩
    · rintro ⟨hs, r', h'⟩
      cases s with
      | ode a rr => cases hs
      | assign x t => exact ⟨subst1 x t r', congrArg (fullStep (.assign x t)) h'⟩

example : fullExpression [.assign "A" (.f2 "add" (.sym "B") (.lit 1)),
                          .assign "C" (.f2 "mul" (.sym "A") (.sym "A"))] (.sym "C")
    = .ok (.f2 "mul" (.f2 "add" (.sym "B") (.lit 1)) (.f2 "add" (.sym "B") (.lit 1))) := by
  decide +kernel

theorem mem_depsStep {live : List Sym} {s : Stmt} {y : Sym} :
    y ∈ depsStep live s ↔ (y ∈ live ∧ y ∉ s.defs) ∨ (y ∈ s.rhs ∧ ∃ d ∈ s.defs, d ∈ live) := by
  simp only [depsStep, List.any_eq_true, List.contains_iff_mem]
  split
  · next h => simp only [List.mem_append, List.mem_filter, not_contains_iff, h, and_true]
  · next h =>
    simp only [h, and_false, or_false, iff_self_and]
    exact fun hy hd => h ⟨y, hd, hy⟩

theorem depsStep_sound {α : Type} (I : Interp α) (s : Stmt) (live : List Sym) (ρ ρ' : Env α)
    (h : ∀ y ∈ depsStep live s, ρ y = ρ' y) :
    ∀ y ∈ live, s.exec I ρ y = s.exec I ρ' y := fun y hy =>
  Stmt.exec_congr I
    (fun hd z hz => h z (mem_depsStep.mpr (.inr ⟨hz, y, hd, hy⟩)))
    (fun hd => h y (mem_depsStep.mpr (.inl ⟨hy, hd⟩)))

theorem depsFrom_sound {α : Type} (I : Interp α) (pre : List Stmt) :
    ∀ (live : List Sym) (ρ ρ' : Env α),
      (∀ y ∈ depsFrom pre live, ρ y = ρ' y) →
      ∀ y ∈ live, run I pre ρ y = run I pre ρ' y := by
  induction pre with
  | nil => exact fun live ρ ρ' h => h
  | cons s pre ih =>
    exact fun live ρ ρ' h => ih live _ _ (depsStep_sound I s (depsFrom pre live) ρ ρ' h)

/-- **Soundness of `dependencies`.**  Two initial environments that agree on the reported
    symbols give the right-hand side of statement `i` the same inputs — for every statement
    list, with reassignment, shadowing, reads of earlier values and ODE systems anywhere. -/
theorem dependencies_sound {α : Type} (I : Interp α) (ss : List Stmt) (i : Nat) (s : Stmt)
    (deps : List Sym) (hs : ss[i]? = some s) (hd : dependenciesAt ss i = .ok deps)
    (ρ ρ' : Env α) (h : ∀ y ∈ deps, ρ y = ρ' y) :
    ∀ y ∈ s.rhs, run I (ss.take i) ρ y = run I (ss.take i) ρ' y := by
  simp only [dependenciesAt, hs] at hd
  cases hd
  exact depsFrom_sound I (ss.take i) s.rhs ρ ρ' h

/-- Corollary for assignments: same value of the assigned expression. -/
theorem dependencies_sound_assign {α : Type} (I : Interp α) (ss : List Stmt) (i : Nat)
    (x : Sym) (e : Expr) (deps : List Sym)
    (hs : ss[i]? = some (.assign x e)) (hd : dependenciesAt ss i = .ok deps)
    (ρ ρ' : Env α) (h : ∀ y ∈ deps, ρ y = ρ' y) :
    eval I (run I (ss.take i) ρ) e = eval I (run I (ss.take i) ρ') e :=
  Expr.eval_congr I _ _ e
    (dependencies_sound I ss i (.assign x e) deps hs hd ρ ρ' h)

/-- Every reported dependency is read by statement `i` or by an earlier
    statement (nothing is invented). -/
theorem depsFrom_subset (pre : List Stmt) (live : List Sym) :
    ∀ y ∈ depsFrom pre live, y ∈ live ∨ ∃ s ∈ pre, y ∈ s.rhs := by
  induction pre with
  | nil => exact fun y hy => .inl hy
  | cons s pre ih =>
    intro y hy
    rcases mem_depsStep.mp hy with ⟨hy, -⟩ | ⟨hy, -⟩
    · exact (ih y hy).imp_right fun ⟨t, ht, h⟩ => ⟨t, List.mem_cons_of_mem _ ht, h⟩
    · exact .inr ⟨s, List.mem_cons_self, hy⟩

/-- A symbol that is defined by the statement directly before and is live is
    never reported (it has been replaced by what it was computed from) unless
    that statement itself reads it. -/
theorem depsStep_removes (live : List Sym) (s : Stmt) (y : Sym)
    (hy : y ∈ s.defs) (hl : y ∈ live) (hr : y ∉ s.rhs) : y ∉ depsStep live s := by
  rw [mem_depsStep]
  rintro (⟨-, h⟩ | ⟨h, -⟩)
  · exact h hy
  · exact hr h

theorem noUseBeforeDef_cons {s : Stmt} {rest : List Stmt} :
    noUseBeforeDef (s :: rest) = true ↔
      (∀ y ∈ s.rhs, ∀ t ∈ s :: rest, y ∉ t.defs) ∧ noUseBeforeDef rest = true := by
  simp only [noUseBeforeDef, Bool.and_eq_true, List.all_eq_true, not_contains_iff, List.forall_mem_cons]

/-- **Exactness side of `dependencies`.**  When no statement reads a symbol that it or a
    later statement defines (single assignment, definition before use), every reported
    dependency is a *leaf*: it is defined by no statement of the prefix, so no intermediate
    symbol is ever reported. -/
theorem dependencies_only_leaves (pre : List Stmt) :
    ∀ (live : List Sym), noUseBeforeDef pre = true →
      ∀ y ∈ depsFrom pre live, ∀ s ∈ pre, y ∉ s.defs := by
  induction pre with
  | nil => exact fun _ _ _ _ _ hs => nomatch hs
  | cons s pre ih =>
    intro live hwf y hy
    obtain ⟨hs, hpre⟩ := noUseBeforeDef_cons.mp hwf
    rcases mem_depsStep.mp hy with ⟨hy, hd⟩ | ⟨hy, -⟩
    · exact List.forall_mem_cons.mpr ⟨hd, ih live hpre y hy⟩
    · exact hs y hy

-- non-vacuity: the F16 program satisfies the side-condition and only the leaf C is reported
example : noUseBeforeDef [.assign "A" (.f1 "exp" (.sym "C")), .assign "D" (.f2 "mul" (.sym "A") (.lit 2)),
    .assign "B" (.f2 "add" (.sym "D") (.lit 1)), .assign "Z" (.f2 "add" (.sym "A") (.sym "B"))] = true := by decide +kernel
example : dependenciesAt [.assign "A" (.f1 "exp" (.sym "C")), .assign "D" (.f2 "mul" (.sym "A") (.lit 2)),
    .assign "B" (.f2 "add" (.sym "D") (.lit 1)), .assign "Z" (.f2 "add" (.sym "A") (.sym "B"))] 3 = .ok ["C"] := by decide +kernel
/-- On the program `A = exp C; D = A*2; B = D+1; Z = A+B` (only the leaf `C` should be reported for `Z`) the
    pre-repair BFS order reported the intermediate symbol `A` as well (F16). -/
theorem dependencies_bfs_inexact_witness :
    dependenciesBfsAt [.assign "A" (.f1 "exp" (.sym "C")), .assign "D" (.f2 "mul" (.sym "A") (.lit 2)),
      .assign "B" (.f2 "add" (.sym "D") (.lit 1)), .assign "Z" (.f2 "add" (.sym "A") (.sym "B"))] 3
      = ["C", "A"] := by decide +kernel

-- non-vacuity: shadowing example F2 (Y=S; S=7; W=S; Z=Y+W): Z depends on S
example : dependenciesAt [.assign "Y" (.sym "S"), .assign "S" (.lit 7), .assign "W" (.sym "S"),
    .assign "Z" (.f2 "add" (.sym "Y") (.sym "W"))] 3 = .ok ["S"] := by decide +kernel

/-- The algorithm used before the repair (BFS order over the dependency graph)
    is **not** sound: on F2's program it reports no dependency at all although
    `Z`'s value is the initial value of `S` plus 7. -/
theorem dependencies_bfs_unsound_witness :
    let ss : List Stmt := [.assign "Y" (.sym "S"), .assign "S" (.lit 7), .assign "W" (.sym "S"),
      .assign "Z" (.f2 "add" (.sym "Y") (.sym "W"))]
    dependenciesBfsAt ss 3 = [] ∧
    (let I : Interp Int := ⟨id, fun _ xs => xs.foldl (· + ·) 0⟩
     run I ss (fun _ => 0) "Z" ≠ run I ss (fun y => if y = "S" then 1 else 0) "Z") := by
  decide +kernel

/-- Symbols defined by removed statements. -/
def taint : List (Stmt × Bool) → List Sym
  | [] => []
  | (_, true) :: ms => taint ms
  | (s, false) :: ms => s.defs ++ taint ms

def origOf (ms : List (Stmt × Bool)) : List Stmt := ms.map (·.1)
def keptOf (ms : List (Stmt × Bool)) : List Stmt := (ms.filter (·.2)).map (·.1)

/-- **Soundness of a removal certificate.**  If no kept statement reads a symbol defined by an
    earlier removed statement (`closedFrom`), the reduced program gives every symbol that no
    removed statement defines the same value as the original.  (`T` = symbols on which the two
    runs may already differ.) -/
theorem closedFrom_sound {α : Type} (I : Interp α) (ms : List (Stmt × Bool)) :
    ∀ (T : List Sym) (ρ ρ' : Env α),
      closedFrom T ms = true →
      (∀ y, y ∉ T → ρ y = ρ' y) →
      ∀ y, y ∉ T → y ∉ taint ms → run I (origOf ms) ρ y = run I (keptOf ms) ρ' y := by
  induction ms with
  | nil => exact fun T ρ ρ' _ h y hy _ => h y hy
  | cons m ms ih =>
    obtain ⟨s, b⟩ := m
    intro T ρ ρ' hc h y hy ht
    cases b with
    | true =>
      -- both programs execute `s`, which reads nothing of `T`
      simp only [closedFrom, Bool.and_eq_true, List.all_eq_true, not_contains_iff] at hc
      exact ih T (s.exec I ρ) (s.exec I ρ') hc.2
        (fun z hz => Stmt.exec_congr I (fun _ w hw => h w (hc.1 w hw)) (fun _ => h z hz)) y hy ht
    | false =>
      -- only the original executes `s`: from here on the runs may differ on `s.defs` too
      rw [taint, List.mem_append, not_or] at ht
      refine ih (s.defs ++ T) (s.exec I ρ) ρ' hc (fun z hz => ?_) y (List.not_mem_append ht.1 hy) ht.2
      rw [List.mem_append, not_or] at hz
      rw [Stmt.exec_of_not_mem_defs I ρ hz.1]
      exact h z hz.2

/-- The same for a mask accepted by `maskSafe`. -/
theorem mask_safe_sound {α : Type} (I : Interp α) (ss : List Stmt) (mask : List Bool)
    (hsafe : maskSafe ss mask = true) (hlen : mask.length = ss.length) (ρ : Env α) :
    ∀ y, y ∉ taint (ss.zip mask) → run I ss ρ y = run I (applyMask ss mask) ρ y := by
  have ho : origOf (ss.zip mask) = ss := List.map_fst_zip (Nat.le_of_eq hlen.symm)
  intro y hy
  have := closedFrom_sound I (ss.zip mask) [] ρ ρ hsafe (fun _ _ => rfl) y List.not_mem_nil hy
  rwa [ho] at this

/-- **`remove_symbol_definitions` never changes a remaining value**: for every statement list,
    symbol set and edited statement, every symbol not defined by a removed statement has the same
    final value in the reduced program (`removeMask_safe` supplies the certificate). -/
theorem remove_symbol_definitions_sound {α : Type} (I : Interp α) (ss : List Stmt)
    (symbols : List Sym) (i : Nat) (ρ : Env α) :
    ∀ y, y ∉ taint (ss.zip (removeMask ss symbols i)) →
      run I ss ρ y = run I (removeSymbolDefinitions ss symbols i) ρ y :=
  mask_safe_sound I ss _ (removeMask_safe ss symbols i) (length_removeMask ss symbols i) ρ

/-- No kept statement reads a symbol defined by an earlier removed statement (the
    certificate holds for every input). -/
theorem remove_symbol_definitions_no_dangling (ss : List Stmt) (symbols : List Sym) (i : Nat) :
    maskSafe ss (removeMask ss symbols i) = true := removeMask_safe ss symbols i

/-- The result of `remove_symbol_definitions` is a sub-list of the input. -/
theorem remove_defs_sublist (ss : List Stmt) (symbols : List Sym) (i : Nat) :
    (removeSymbolDefinitions ss symbols i).Sublist ss :=
  calc List.Sublist _ ((ss.zip (removeMask ss symbols i)).map (·.1)) := List.filter_sublist.map _
    _ = ss := List.map_fst_zip (Nat.le_of_eq (length_removeMask ss symbols i).symm)

-- non-vacuity: the (repaired) algorithm's mask on the F17 program is safe and keeps A = 1
example : removeMask [.assign "A" (.lit 1), .assign "B" (.sym "A"), .assign "C" (.lit 5),
    .assign "Y" (.sym "C")] ["A"] 3 = [true, true, true, true] := by decide +kernel
example : maskSafe [.assign "A" (.lit 1), .assign "B" (.sym "A"), .assign "C" (.lit 5),
    .assign "Y" (.sym "C")] [true, true, true, true] = true := by decide +kernel
-- and a case where something really is removed
example : removeMask [.assign "A" (.lit 1), .assign "B" (.lit 2), .assign "Y" (.sym "B")] ["A"] 2
    = [false, true, true] := by decide +kernel

/-- The mask that the pre-repair code produced for F17 (`A = 1` removed while
    `B = A` stays) is rejected by the certificate, and really changes `B`. -/
theorem remove_defs_prefix_user_witness :
    let ss : List Stmt := [.assign "A" (.lit 1), .assign "B" (.sym "A"), .assign "C" (.lit 5),
      .assign "Y" (.sym "C")]
    maskSafe ss [false, true, true, true] = false ∧
    (let I : Interp Int := ⟨id, fun _ xs => xs.foldl (· + ·) 0⟩
     run I ss (fun _ => 0) "B" ≠ run I (applyMask ss [false, true, true, true]) (fun _ => 0) "B") := by
  decide +kernel

/-- **Substituting a leaf behaves as a sequential program edit.**  If neither `x` nor any
    symbol of `t` is assigned by the (ODE-free) statement list, then running the substituted
    list equals running the original list in the environment where `x` has the value of `t`. -/
theorem subs_leaf_sound {α : Type} (I : Interp α) (x : Sym) (t : Expr) (ss : List Stmt) :
    (∀ s ∈ ss, s.isOde = false ∧ x ∉ s.defs ∧ ∀ z ∈ t.syms, z ∉ s.defs) →
    ∀ (ρ1 ρ2 : Env α), (∀ y, y ≠ x → ρ1 y = ρ2 y) → ρ2 x = eval I ρ1 t →
      ∀ y, y ≠ x → run I (substStmts x t ss) ρ1 y = run I ss ρ2 y := by
  induction ss with
  | nil => exact fun _ ρ1 ρ2 h _ => h
  | cons s ss ih =>
    intro hall ρ1 ρ2 hag hx
    obtain ⟨hode, hxs, hts⟩ := hall s List.mem_cons_self
    cases s with
    | ode a r => cases hode
    | assign v e =>
      have hvx : v ≠ x := fun h => hxs (List.mem_singleton.mpr h.symm)
      have hρ : ρ1.set x (eval I ρ1 t) = ρ2 := funext fun z => by
        by_cases hz : z = x
        · rw [hz, hx]; exact if_pos rfl
        · exact (if_neg hz).trans (hag z hz)
      simp only [substStmts, List.map_cons, substStmt, if_neg hvx, run_cons, Stmt.exec,
        Expr.eval_subst1, hρ]
      refine ih (fun u hu => hall u (List.mem_cons_of_mem _ hu)) _ _ (fun z hz => ?_) ?_
      · simp only [Env.set, hag z hz]
      · rw [Env.set, if_neg (Ne.symm hvx), hx]
        exact Expr.eval_congr I _ _ t fun z hz =>
          (if_neg fun h => hts z hz (List.mem_singleton.mpr h)).symm

/-- Once the last assignment has been replaced (`last = false`), no other assignment to `x`
    survives. -/
theorem reassignRev_none (x : Sym) (e : Expr) (rs : List Stmt) :
    (reassignRev x e rs false).filter (definesAssign x) = [] := by
  induction rs with
  | nil => rfl
  | cons s rs ih => cases h : definesAssign x s <;> simp [reassignRev, h, ih]

/-- `reassignRev` keeps every statement that is not an assignment to `x`, in order. -/
theorem reassignRev_others (x : Sym) (e : Expr) (rs : List Stmt) (last : Bool) :
    (reassignRev x e rs last).filter (fun s => !definesAssign x s)
      = rs.filter (fun s => !definesAssign x s) := by
  induction rs generalizing last with
  | nil => rfl
  | cons s rs ih =>
    -- the replacement inserted at the last assignment is itself filtered out
    have hx : definesAssign x (.assign x e) = true := beq_self_eq_true x
    cases h : definesAssign x s <;> cases last <;> simp [reassignRev, h, ih, hx]

theorem reassign_others (ss : List Stmt) (x : Sym) (e : Expr) :
    (reassign ss x e).filter (fun s => !definesAssign x s)
      = ss.filter (fun s => !definesAssign x s) := by
  unfold reassign
  rw [List.filter_reverse, reassignRev_others, ← List.filter_reverse, List.reverse_reverse]

end Pharmpy.C10
