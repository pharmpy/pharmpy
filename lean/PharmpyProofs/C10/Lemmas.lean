import PharmpyModel.C10.Model
/-
  The shared semantics: substitution lemma, evaluation reads only the symbols of an expression,
  a statement reads only its `rhs` and writes only its `defs`, `run` over `cons`/append.
-/
namespace Pharmpy
open Expr

theorem not_contains_iff {β : Type} [BEq β] [LawfulBEq β] {l : List β} {x : β} :
    (!l.contains x) = true ↔ x ∉ l := by
  rw [Bool.not_eq_true', Bool.eq_false_iff, ne_eq, List.contains_iff_mem]

theorem Expr.eval_subst {α : Type} (I : Interp α) (ρ : Env α) (σ : Sym → Option Expr) (e : Expr) :
    eval I ρ (subst σ e) =
      eval I (fun x => match σ x with | some t => eval I ρ t | none => ρ x) e := by
  induction e with
  | lit n => rfl
  | sym s => simp only [subst, eval]; cases σ s <;> rfl
  | f1 f a ih => simp only [subst, eval, ih]
  | f2 f a b iha ihb => simp only [subst, eval, iha, ihb]
  | f3 f a b c iha ihb ihc => simp only [subst, eval, iha, ihb, ihc]

theorem Expr.eval_subst1 {α : Type} (I : Interp α) (ρ : Env α) (x : Sym) (t e : Expr) :
    eval I ρ (subst1 x t e) = eval I (ρ.set x (eval I ρ t)) e := by
  rw [subst1, Expr.eval_subst]
  congr 1
  funext y
  by_cases h : y = x <;> simp only [Env.set, h, if_true, if_false]

theorem Expr.eval_congr {α : Type} (I : Interp α) (ρ ρ' : Env α) (e : Expr)
    (h : ∀ y ∈ e.syms, ρ y = ρ' y) : eval I ρ e = eval I ρ' e := by
  induction e with
  | lit n => rfl
  | sym s => exact h s (List.mem_singleton_self s)
  | f1 f a ih => simp only [eval, ih h]
  | f2 f a b iha ihb =>
    obtain ⟨ha, hb⟩ := List.forall_mem_append.mp h
    simp only [eval, iha ha, ihb hb]
  | f3 f a b c iha ihb ihc =>
    obtain ⟨hab, hc⟩ := List.forall_mem_append.mp h
    obtain ⟨ha, hb⟩ := List.forall_mem_append.mp hab
    simp only [eval, iha ha, ihb hb, ihc hc]

theorem Stmt.exec_of_not_mem_defs {α : Type} (I : Interp α) (ρ : Env α) {s : Stmt} {y : Sym}
    (h : y ∉ s.defs) : s.exec I ρ y = ρ y := by
  cases s with
  | assign x e => exact if_neg fun hyx => h (List.mem_singleton.mpr hyx)
  | ode a r => exact if_neg h

theorem Stmt.exec_congr {α : Type} (I : Interp α) {ρ ρ' : Env α} {s : Stmt} {y : Sym}
    (hr : y ∈ s.defs → ∀ z ∈ s.rhs, ρ z = ρ' z) (hy : y ∉ s.defs → ρ y = ρ' y) :
    s.exec I ρ y = s.exec I ρ' y := by
  by_cases hd : y ∈ s.defs
  · cases s with
    | assign x e =>
      have hyx : y = x := List.mem_singleton.mp hd
      exact (if_pos hyx).trans ((Expr.eval_congr I ρ ρ' e (hr hd)).trans (if_pos hyx).symm)
    | ode a r =>
      have hr : r.map ρ = r.map ρ' := List.map_congr_left (hr hd)
      exact (if_pos hd).trans ((congrArg _ hr).trans (if_pos hd).symm)
  · rw [Stmt.exec_of_not_mem_defs I ρ hd, Stmt.exec_of_not_mem_defs I ρ' hd]
    exact hy hd

theorem run_nil {α : Type} (I : Interp α) (ρ : Env α) : run I [] ρ = ρ := rfl

theorem run_cons {α : Type} (I : Interp α) (s : Stmt) (ss : List Stmt) (ρ : Env α) :
    run I (s :: ss) ρ = run I ss (s.exec I ρ) := rfl

theorem run_append {α : Type} (I : Interp α) (ss ts : List Stmt) (ρ : Env α) :
    run I (ss ++ ts) ρ = run I ts (run I ss ρ) :=
  List.foldl_append

theorem run_snoc {α : Type} (I : Interp α) (ss : List Stmt) (s : Stmt) (ρ : Env α) :
    run I (ss ++ [s]) ρ = s.exec I (run I ss ρ) :=
  run_append I ss [s] ρ

/-- Induction on lists from the right (core-only replacement for Mathlib's
    `List.reverseRecOn`). -/
theorem snoc_induction {β : Type} {P : List β → Prop} (nil : P [])
    (append_singleton : ∀ (l : List β) (a : β), P l → P (l ++ [a])) : ∀ l, P l := by
  have h : ∀ l : List β, P l.reverse := by
    intro l
    induction l with
    | nil => exact nil
    | cons a l ih => exact List.reverse_cons ▸ append_singleton _ a ih
  intro l
  exact List.reverse_reverse l ▸ h l.reverse

end Pharmpy
