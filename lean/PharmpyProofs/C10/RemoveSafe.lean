import PharmpyProofs.C10.Lemmas
/-
  The dependency graph of `remove_symbol_definitions`: edges go to smaller indices, so the
  one-pass `closure` is closed under successors; hence the mask computed by
  `remove_symbol_definitions` (as repaired) always passes the certificate `maskSafe`.
-/
namespace Pharmpy.C10
open Pharmpy

theorem edge_iff {ss : List Stmt} {i j : Nat} :
    edge ss i j = true ↔
      j < i ∧ ∃ si sj, ss[i]? = some si ∧ ss[j]? = some sj ∧ ∃ d ∈ sj.defs, d ∈ si.rhs := by
  unfold edge
  split
  · next si sj hi hj =>
    simp only [hi, hj, Bool.and_eq_true, decide_eq_true_eq, dependsOn, List.any_eq_true,
      List.contains_iff_mem, Option.some.injEq, exists_and_left, exists_eq_left']
  · next h =>
    exact ⟨nofun, fun ⟨_, si, sj, hi, hj, _⟩ => absurd hj (h si sj hi)⟩

theorem edge_lt {ss : List Stmt} {i j : Nat} (h : edge ss i j = true) : j < i :=
  (edge_iff.mp h).1

theorem edge_lt_len {ss : List Stmt} {i j : Nat} (h : edge ss i j = true) : i < ss.length := by
  obtain ⟨_, si, _, hi, _⟩ := edge_iff.mp h
  exact (List.getElem?_eq_some_iff.mp hi).1

theorem mem_succs {ss : List Stmt} {i j : Nat} : j ∈ succs ss i ↔ edge ss i j = true := by
  simp only [succs, List.mem_filter, List.mem_range]
  exact ⟨And.right, fun h => ⟨edge_lt h, h⟩⟩

/-- One step of the pass in `closure`. -/
def cstep (ss : List Stmt) (mark : List Nat) (u : Nat) : List Nat :=
  if mark.contains u then mark ++ succs ss u else mark

theorem closure_eq (ss : List Stmt) (seed : List Nat) :
    closure ss seed = (List.range ss.length).reverse.foldl (cstep ss) seed := rfl

theorem mem_cstep {ss : List Stmt} {mark : List Nat} {u x : Nat} :
    x ∈ cstep ss mark u ↔ x ∈ mark ∨ (u ∈ mark ∧ edge ss u x = true) := by
  unfold cstep
  split
  · next h => rw [List.mem_append, mem_succs, and_iff_right (List.contains_iff_mem.mp h)]
  · next h => exact ⟨.inl, fun h' => h'.elim id fun h' => absurd (List.contains_iff_mem.mpr h'.1) h⟩

theorem foldl_cstep_mono (ss : List Stmt) (us : List Nat) (mark : List Nat) (x : Nat) (h : x ∈ mark) :
    x ∈ us.foldl (cstep ss) mark := by
  induction us generalizing mark with
  | nil => exact h
  | cons u us ih => exact ih _ (mem_cstep.mpr (.inl h))

theorem foldl_cstep_new (ss : List Stmt) (us : List Nat) (mark : List Nat) (x : Nat)
    (h : x ∈ us.foldl (cstep ss) mark) : x ∈ mark ∨ ∃ u ∈ us, edge ss u x = true := by
  induction us generalizing mark with
  | nil => exact .inl h
  | cons u us ih =>
    rcases ih _ h with h1 | ⟨w, hw, he⟩
    · exact (mem_cstep.mp h1).imp_right fun h2 => ⟨u, List.mem_cons_self, h2.2⟩
    · exact .inr ⟨w, List.mem_cons_of_mem _ hw, he⟩

theorem foldl_cstep_closed (ss : List Stmt) :
    ∀ (us : List Nat) (mark : List Nat),
      us.Pairwise (· > ·) →
      ∀ u ∈ us, u ∈ us.foldl (cstep ss) mark → ∀ v, edge ss u v = true → v ∈ us.foldl (cstep ss) mark := by
  intro us
  induction us with
  | nil => exact fun _ _ _ hu => nomatch hu
  | cons a us ih =>
    intro mark hp u hu hum v hev
    obtain ⟨hpa, hpu⟩ := List.pairwise_cons.mp hp
    rcases List.mem_cons.mp hu with rfl | hu'
    · -- `u` is processed first; what is processed later is smaller and only marks still smaller
      -- nodes, so `u` is marked at the end only if it is marked now
      have hmark : u ∈ mark := by
        rcases foldl_cstep_new ss us _ u hum with h1 | ⟨w, hw, he⟩
        · exact (mem_cstep.mp h1).elim id fun h2 => absurd (edge_lt h2.2) (Nat.lt_irrefl u)
        · exact absurd (edge_lt he) (Nat.lt_asymm (hpa w hw))
      exact foldl_cstep_mono ss us _ v (mem_cstep.mpr (.inr ⟨hmark, hev⟩))
    · exact ih _ hpu u hu' hum v hev

theorem seed_subset_closure (ss : List Stmt) (seed : List Nat) (x : Nat) (h : x ∈ seed) :
    x ∈ closure ss seed :=
  closure_eq ss seed ▸ foldl_cstep_mono ss _ seed x h

theorem closure_closed (ss : List Stmt) (seed : List Nat) (u v : Nat)
    (hu : u ∈ closure ss seed) (he : edge ss u v = true) : v ∈ closure ss seed := by
  rw [closure_eq] at hu ⊢
  exact foldl_cstep_closed ss _ seed (List.pairwise_reverse.mpr List.pairwise_lt_range) u
    (List.mem_reverse.mpr (List.mem_range.mpr (edge_lt_len he))) hu v he

theorem mem_edges {ss : List Stmt} {u d : Nat} : (u, d) ∈ edges ss ↔ edge ss u d = true := by
  simp only [edges, List.mem_flatMap, List.mem_range, List.mem_map, Prod.mk.injEq]
  constructor
  · rintro ⟨_, _, _, hj, rfl, rfl⟩
    exact mem_succs.mp hj
  · exact fun h => ⟨u, edge_lt_len h, d, mem_succs.mpr h, rfl, rfl⟩

theorem mem_filter_not_contains {L M : List Nat} {x : Nat} :
    x ∈ L.filter (fun i => !M.contains i) ↔ x ∈ L ∧ x ∉ M := by
  rw [List.mem_filter, not_contains_iff]

/-- Graph-level safety: every user of a removed statement is removed too.  With `C` the
    candidates (none of them needed by the edited statement `i`) and `A` the closure of the
    candidates that have a user other than `i` outside `C`, the removed set is `C \ A`.  A user
    `k` of a removed `j` is not `i`, is a candidate (or it would pin `j` into `A`) and is not in
    `A` (or `j`, its successor, would be). -/
theorem removeSet_user_closed (ss : List Stmt) (symbols : List Sym) (i k j : Nat)
    (he : edge ss k j = true) (hj : j ∈ removeSet ss symbols i) : k ∈ removeSet ss symbols i := by
  revert hj
  unfold removeSet
  extract_lets _ cand keep C A0 A
  intro hj
  rw [mem_filter_not_contains] at hj ⊢
  obtain ⟨hjC, hjA⟩ := hj
  have hki : k ≠ i := fun h => (mem_filter_not_contains.mp hjC).2
    (seed_subset_closure ss _ j (mem_succs.mpr (h ▸ he)))
  have hkC : k ∈ C := Decidable.byContradiction fun hk =>
    hjA <| seed_subset_closure ss A0 j <| List.mem_filterMap.mpr ⟨(k, j), mem_edges.mpr he, by
      simp only [bne_iff_ne.mpr hki, List.contains_iff_mem.mpr hjC,
        Bool.eq_false_iff.mpr (mt List.contains_iff_mem.mp hk), Bool.not_false, Bool.and_self,
        if_true]⟩
  exact ⟨hkC, fun hk => hjA (closure_closed ss A0 k j hk he)⟩

theorem closedFrom_of_getElem (ms : List (Stmt × Bool)) :
    ∀ (T : List Sym),
      (∀ (k : Nat) (s : Stmt), ms[k]? = some (s, true) → ∀ y ∈ s.rhs,
        y ∉ T ∧ ∀ (j : Nat) (t : Stmt), j < k → ms[j]? = some (t, false) → y ∉ t.defs) →
      closedFrom T ms = true := by
  induction ms with
  | nil => exact fun _ _ => rfl
  | cons m ms ih =>
    obtain ⟨s, b⟩ := m
    intro T h
    have h' := fun k s' hk y hy => (h (k + 1) s' hk y hy).imp_right
      fun hr j t hjk hj => hr (j + 1) t (Nat.succ_lt_succ hjk) hj
    cases b with
    | true =>
      exact Bool.and_eq_true_iff.mpr
        ⟨List.all_eq_true.mpr fun y hy => not_contains_iff.mpr (h 0 s rfl y hy).1, ih T h'⟩
    | false =>
      exact ih (s.defs ++ T) fun k s' hk y hy =>
        ⟨List.not_mem_append ((h (k + 1) s' hk y hy).2 0 s (Nat.succ_pos k) rfl) (h' k s' hk y hy).1,
          (h' k s' hk y hy).2⟩

theorem length_removeMask (ss : List Stmt) (symbols : List Sym) (i : Nat) :
    (removeMask ss symbols i).length = ss.length := by
  rw [removeMask, List.length_map, List.length_range]

theorem getElem?_removeMask {ss : List Stmt} {symbols : List Sym} {i k : Nat} {b : Bool}
    (h : (removeMask ss symbols i)[k]? = some b) : b = false ↔ k ∈ removeSet ss symbols i := by
  simp only [removeMask, List.getElem?_map, Option.map_eq_some_iff] at h
  obtain ⟨a, ha, rfl⟩ := h
  obtain ⟨_, rfl⟩ := List.getElem?_eq_some_iff.mp ha
  rw [List.getElem_range, Bool.not_eq_false', List.contains_iff_mem]

/-- **`remove_symbol_definitions` is safe for every statement list, symbol set and statement**:
    the mask it computes always satisfies the certificate of `mask_safe_sound`. -/
theorem removeMask_safe (ss : List Stmt) (symbols : List Sym) (i : Nat) :
    maskSafe ss (removeMask ss symbols i) = true := by
  refine closedFrom_of_getElem _ [] fun k s hk y hy => ⟨List.not_mem_nil, fun j t hjk hj hyt => ?_⟩
  obtain ⟨hks, hkm⟩ := List.getElem?_zip_eq_some.mp hk
  obtain ⟨hjs, hjm⟩ := List.getElem?_zip_eq_some.mp hj
  -- `k` reads what `j` defines: an edge from a kept to a removed statement
  have he : edge ss k j = true := edge_iff.mpr ⟨hjk, s, t, hks, hjs, y, hyt, hy⟩
  have hkR := (getElem?_removeMask hkm).mpr
    (removeSet_user_closed ss symbols i k j he ((getElem?_removeMask hjm).mp rfl))
  exact nomatch hkR

end Pharmpy.C10
