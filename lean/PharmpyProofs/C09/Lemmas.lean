import PharmpyModel.C09.Model
namespace Pharmpy.C09
open Pharmpy Expr

theorem eval_subst {α : Type} (I : Interp α) (ρ : Env α) (σ : Sym → Option Expr) (e : Expr) :
    eval I ρ (subst σ e) =
      eval I (fun x => match σ x with | some t => eval I ρ t | none => ρ x) e := by
  induction e with
  | sym s => cases h : σ s <;> simp [subst, eval, h]
  | _ => simp_all [subst, eval]

theorem eval_congr {α : Type} (I : Interp α) (ρ ρ' : Env α) (e : Expr)
    (h : ∀ y ∈ e.syms, ρ y = ρ' y) : eval I ρ e = eval I ρ' e := by
  induction e <;> simp_all [eval, syms, or_imp, forall_and]

theorem run_append {α : Type} (I : Interp α) (s t : List Stmt) (ρ : Env α) :
    run I (s ++ t) ρ = run I t (run I s ρ) := List.foldl_append

theorem run_cons {α : Type} (I : Interp α) (s : Stmt) (t : List Stmt) (ρ : Env α) :
    run I (s :: t) ρ = run I t (s.exec I ρ) := rfl

theorem run_nil {α : Type} (I : Interp α) (ρ : Env α) : run I [] ρ = ρ := rfl

theorem run_not_def {α : Type} (I : Interp α) (ss : List Stmt) :
    ∀ (ρ : Env α) (x : Sym), (∀ s ∈ ss, x ∉ s.defs) → run I ss ρ x = ρ x := by
  intro ρ x h
  induction ss generalizing ρ with
  | nil => rfl
  | cons s t ih =>
    rw [run_cons, ih _ fun s' hs' => h s' (List.mem_cons_of_mem _ hs')]
    have hx := h s List.mem_cons_self
    cases s with
    | assign y e => exact if_neg fun hxy => hx (by simp [Stmt.defs, hxy])
    | ode a r => exact if_neg hx

/-- `ev` on literals, symbols and the operations the templates use, so that no proof unfolds `interpFn`. -/
@[simp] theorem ev_ops (F : Funs) (ρ : Env Rat) :
    (∀ n, ev F ρ (.lit n) = n) ∧ (∀ s, ev F ρ (.sym s) = ρ s) ∧
    ∀ a, ev F ρ (.f1 "exp" a) = F.exp (ev F ρ a) ∧ ev F ρ (.f1 "log" a) = F.log (ev F ρ a) ∧
    ev F ρ (.f1 "sign" a) = F.sign (ev F ρ a) ∧
    ∀ b, ev F ρ (.f2 "add" a b) = ev F ρ a + ev F ρ b ∧ ev F ρ (.f2 "mul" a b) = ev F ρ a * ev F ρ b ∧
      ev F ρ (.f2 "div" a b) = ev F ρ a / ev F ρ b ∧ ev F ρ (.f2 "pow" a b) = F.pow (ev F ρ a) (ev F ρ b) ∧
      ev F ρ (.f2 "eq" a b) = truth (ev F ρ a == ev F ρ b) ∧
      ev F ρ (.f2 "le" a b) = truth (decide (ev F ρ a ≤ ev F ρ b)) ∧
      ev F ρ (.f2 "gt" a b) = truth (decide (ev F ρ b < ev F ρ a)) ∧
      ∀ c, ev F ρ (.f3 "ite" c a b) = if ev F ρ c = 0 then ev F ρ b else ev F ρ a := by
  simp only [ev, Expr.eval, show (interp F).fn = interpFn F from rfl, implies_true, true_and]
  refine ⟨fun _ => rfl, fun a => ⟨?_, ?_, ?_, fun b => ⟨?_, ?_, ?_, ?_, ?_, ?_, ?_, fun c => ?_⟩⟩⟩ <;>
    rw [interpFn]

@[simp] theorem truth_eq_zero (b : Bool) : truth b = 0 ↔ b = false := by cases b <;> simp [truth]

/-- The key comparison as a proposition, so that `simp` decides it on string literals. -/
theorem lookup_cons_eq {β : Type} (k a : Sym) (v : β) (l : List (Sym × β)) :
    ((k, v) :: l).lookup a = if a = k then some v else l.lookup a := by
  rw [List.lookup_cons]
  cases h : a == k <;> simp_all

@[simp] theorem inst_eqs (σ : List (Sym × Expr)) :
    (∀ n, inst σ (.lit n) = .lit n) ∧ (∀ f a, inst σ (.f1 f a) = .f1 f (inst σ a)) ∧
    (∀ f a b, inst σ (.f2 f a b) = .f2 f (inst σ a) (inst σ b)) ∧
    (∀ f a b c, inst σ (.f3 f a b c) = .f3 f (inst σ a) (inst σ b) (inst σ c)) ∧
    (∀ s, inst [] (.sym s) = .sym s) ∧
    ∀ k v s, inst ((k, v) :: σ) (.sym s) = if s = k then v else inst σ (.sym s) := by
  refine ⟨fun _ => rfl, fun _ _ => rfl, fun _ _ _ => rfl, fun _ _ _ _ => rfl, fun _ => rfl, fun k v s => ?_⟩
  by_cases h : s = k <;> simp [inst, Expr.subst, lookup_cons_eq, h]

theorem ev_piecewise_cons (F : Funs) (ρ : Env Rat) (a b v : Expr) (rest : List (Expr × Expr)) :
    ev F ρ (piecewise ((eEq a b, v) :: rest)) =
      if ev F ρ a = ev F ρ b then ev F ρ v else ev F ρ (piecewise rest) := by
  simp [piecewise, eEq]

theorem ev_subst1 (F : Funs) (ρ ρ' : Env Rat) (x : Sym) (t e : Expr) (hx : ρ' x = ev F ρ t)
    (hρ : ∀ s, s ≠ x → ρ' s = ρ s) : ev F ρ (subst1 x t e) = ev F ρ' e := by
  refine (eval_subst _ ρ _ e).trans (congrArg (eval _ · e) (funext fun s => ?_))
  by_cases hs : s = x <;> simp [ev, hs, hx, hρ]

/-- The extended model's environment `ρ₁` simulates the original `ρ` under a renaming `m` (old eta ↦ new symbol):
    they agree off the new symbols, and each new symbol carries the value of the old one. -/
def Sim (m : List (Sym × Sym)) (ρ₁ ρ : Env Rat) : Prop :=
  (∀ y, y ∉ m.map Prod.snd → ρ₁ y = ρ y) ∧ (∀ o n, m.lookup o = some n → ρ₁ n = ρ o)

/-- A statement is compatible with the renaming: it neither defines nor reads a new symbol, never assigns a
    renamed (old) symbol, and an ODE system (whose rates the model does not rewrite) does not read one. -/
def StmtOk (m : List (Sym × Sym)) (s : Stmt) : Prop :=
  (∀ y ∈ s.defs, y ∉ m.map Prod.snd ∧ m.lookup y = none) ∧ (∀ y ∈ s.rhs, y ∉ m.map Prod.snd) ∧
  (s.isOde = true → ∀ y ∈ s.rhs, m.lookup y = none)

theorem lookup_mem_snd (m : List (Sym × Sym)) (o n : Sym) (h : m.lookup o = some n) : n ∈ m.map Prod.snd := by
  obtain ⟨l₁, l₂, rfl, -⟩ := List.lookup_eq_some_iff.mp h
  simp

theorem eval_rename (I : Interp Rat) (m : List (Sym × Sym)) (ρ₁ ρ : Env Rat) (hs : Sim m ρ₁ ρ) (e : Expr)
    (hfresh : ∀ y ∈ e.syms, y ∉ m.map Prod.snd) :
    eval I ρ₁ (subst (renameOf m) e) = eval I ρ e := by
  rw [eval_subst]
  apply eval_congr
  intro y hy
  simp only [renameOf]
  cases hl : m.lookup y with
  | none => exact hs.1 y (hfresh y hy)
  | some n => exact hs.2 y n hl

theorem sim_update (m : List (Sym × Sym)) (ρ₁ ρ : Env Rat) (hs : Sim m ρ₁ ρ) (P : Sym → Prop) [DecidablePred P]
    (w : Sym → Rat) (hP : ∀ o n, m.lookup o = some n → ¬P n ∧ ¬P o) :
    Sim m (fun y => if P y then w y else ρ₁ y) (fun y => if P y then w y else ρ y) :=
  ⟨fun y hy => by simp only [hs.1 y hy],
   fun o n hl => by simp only [if_neg (hP o n hl).1, if_neg (hP o n hl).2, hs.2 o n hl]⟩

theorem sim_step (I : Interp Rat) (m : List (Sym × Sym)) (s : Stmt) (hok : StmtOk m s) (ρ₁ ρ : Env Rat)
    (hs : Sim m ρ₁ ρ) : Sim m ((substStmt (renameOf m) s).exec I ρ₁) (s.exec I ρ) := by
  obtain ⟨hd, hr, -⟩ := hok
  have hpair : ∀ o n, m.lookup o = some n → n ∉ s.defs ∧ o ∉ s.defs := fun o n hl =>
    ⟨fun h => (hd n h).1 (lookup_mem_snd m o n hl), fun h => by simp [(hd o h).2] at hl⟩
  cases s with
  | assign x e =>
    show Sim m (ρ₁.set x (eval I ρ₁ (subst (renameOf m) e))) (ρ.set x (eval I ρ e))
    rw [eval_rename I m ρ₁ ρ hs e hr]
    exact sim_update m ρ₁ ρ hs (· = x) _ fun o n hl => by simpa [Stmt.defs] using hpair o n hl
  | ode a r =>
    show Sim m (fun y => if y ∈ a then I.fn ("ode:" ++ y) (r.map ρ₁) else ρ₁ y) _
    rw [show r.map ρ₁ = r.map ρ from List.map_congr_left fun z hz => hs.1 z (hr z hz)]
    exact sim_update m ρ₁ ρ hs (· ∈ a) _ hpair

theorem sim_run (I : Interp Rat) (m : List (Sym × Sym)) (ss : List Stmt) :
    ∀ (ρ₁ ρ : Env Rat), (∀ s ∈ ss, StmtOk m s) → Sim m ρ₁ ρ →
      Sim m (run I (ss.map (substStmt (renameOf m))) ρ₁) (run I ss ρ) := by
  intro ρ₁ ρ hok h
  induction ss generalizing ρ₁ ρ with
  | nil => exact h
  | cons s t ih =>
    exact ih _ _ (fun s' hs' => hok s' (List.mem_cons_of_mem _ hs'))
      (sim_step I m s (hok s List.mem_cons_self) ρ₁ ρ h)

theorem findLastAssign_go_append (p : Sym) : ∀ (a b : List Stmt) (i : Nat) (acc : Option Nat),
    findLastAssign.go p (a ++ b) i acc = findLastAssign.go p b (i + a.length) (findLastAssign.go p a i acc) := by
  intro a b i acc
  induction a generalizing i acc with
  | nil => rfl
  | cons s t ih =>
    cases s <;> simp only [List.cons_append, findLastAssign.go, List.length_cons, ih] <;> congr 1 <;> omega

theorem findLastAssign_go_of_no_assign (p : Sym) : ∀ (b : List Stmt) (i : Nat) (acc : Option Nat),
    (∀ s ∈ b, p ∉ s.defs) → findLastAssign.go p b i acc = acc := by
  intro b i acc h
  induction b generalizing i with
  | nil => rfl
  | cons s t ih =>
    have ht := ih (i + 1) fun s hs => h s (List.mem_cons_of_mem _ hs)
    cases s with
    | assign x e =>
      have hx : x ≠ p := fun hxp => h _ List.mem_cons_self (by simp [Stmt.defs, hxp])
      simpa only [findLastAssign.go, if_neg hx] using ht
    | ode => exact ht

/-- On a list split at an assignment of `p` after which nothing defines `p`, `findLastAssign` (pharmpy's
    `find_assignment_index`) returns the position of that assignment. -/
theorem findLastAssign_split (p : Sym) (pre post : List Stmt) (e : Expr) (hpost : ∀ s ∈ post, p ∉ s.defs) :
    findLastAssign (pre ++ .assign p e :: post) p = some pre.length := by
  rw [findLastAssign, findLastAssign_go_append]
  simp only [findLastAssign.go, if_true, Nat.zero_add]
  exact findLastAssign_go_of_no_assign p post _ _ hpost

theorem sum_replicate (n : Nat) (c : Rat) : (List.replicate n c).sum = (n : Rat) * c := by
  induction n with
  | zero => simp
  | succ k ih =>
    rw [List.replicate_succ, List.sum_cons, ih]
    push_cast
    grind

end Pharmpy.C09
