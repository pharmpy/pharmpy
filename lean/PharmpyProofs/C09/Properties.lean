import PharmpyProofs.C09.Lemmas
/-
  C09 — model extensions implement the documented formulas and are neutral at the reference.
  `Gen.*` are the templates translator T8 reads from pharmpy's source, `Doc.*` the documented formulas.  A theorem
  that evaluates expressions holds for every interpretation `F : Funs` of exp/log/pow/sign; the laws of these that it
  needs are hypotheses.
-/
namespace Pharmpy.C09
open Pharmpy Expr

/-- lin / exp / pow / piece_lin: the instantiated source template evaluates to the documented formula of
    theta, the covariate and the centring statistic. -/
theorem effect_matches_doc (F : Funs) (ρ : Env Rat) (a : CovArgs) (e : Expr) (he : effectExpr a = some e) :
    (a.kind = "lin" → ev F ρ e = Doc.lin (ρ (thetaName a 0)) (ρ a.cov) (ρ (medianName a))) ∧
    (a.kind = "exp" → ev F ρ e = Doc.exp F (ρ (thetaName a 0)) (ρ a.cov) (ρ (medianName a))) ∧
    (a.kind = "pow" → ev F ρ e = Doc.pow F (ρ (thetaName a 0)) (ρ a.cov) (ρ (medianName a))) ∧
    (a.kind = "piece_lin" →
      ev F ρ e = Doc.pieceLin (ρ (thetaName a 1)) (ρ (thetaName a 2)) (ρ a.cov) (ρ (medianName a))) := by
  and_intros <;> intro h <;> rw [effectExpr, h] at he <;> cases he <;>
    simp [Gen.effLin, Gen.effExp, Gen.effPow, Gen.effPieceLin, Doc.lin, Doc.exp, Doc.pow, Doc.pieceLin] <;>
    grind

theorem doc_effect_one_at_reference (F : Funs) (hexp : F.exp 0 = 1) (hpow : ∀ t, F.pow 1 t = 1)
    (θ θ' m : Rat) :
    Doc.lin θ m m = 1 ∧ Doc.pieceLin θ θ' m m = 1 ∧ Doc.exp F θ m m = 1 ∧ (m ≠ 0 → Doc.pow F θ m m = 1) := by
  simp only [Doc.lin, Doc.pieceLin, Doc.exp, Doc.pow, Rat.sub_self, Rat.mul_zero, Rat.add_zero, ite_self, hexp,
    true_and]
  intro hm
  rw [Rat.div_def, Rat.mul_inv_cancel m hm, hpow]

/-- The branch of the j-th other category fires when the covariate equals it and no earlier category. -/
theorem cat_branch_lookup (F : Funs) (ρ : Env Rat) (alt single : Bool) (cov : Sym) (tn : Nat → Sym) :
    ∀ (others : List Cat) (k0 j : Nat) (c : Expr),
      others[j]? = some (some c) → ρ cov = ev F ρ c →
      (∀ i, i < j → ∀ d, others[i]? = some (some d) → ρ cov ≠ ev F ρ d) →
      (∀ i, i < j → others[i]? = some none → ρ cov ≠ ρ "NaN") →
      ev F ρ (piecewise (catBranches alt single cov tn others k0))
        = ev F ρ (catValue alt single tn (k0 + ((others.take j).filter Option.isSome).length)) := by
  intro others k0 j c hj hc hne hnan
  induction others generalizing k0 j with
  | nil => simp at hj
  | cons o rest ih =>
    cases j with
    | zero =>
      obtain rfl : o = some c := by simpa using hj
      rw [catBranches, ev_piecewise_cons]
      exact if_pos hc
    | succ j' =>
      have hrest := fun k => ih k j' (by simpa using hj)
        (fun i hi d hd => hne (i + 1) (by omega) d (by simpa using hd))
        (fun i hi hd => hnan (i + 1) (by omega) (by simpa using hd))
      cases o with
      | none =>
        rw [catBranches, ev_piecewise_cons]
        exact (if_neg (hnan 0 (by omega) rfl)).trans (hrest k0)
      | some d =>
        rw [catBranches, ev_piecewise_cons]
        refine (if_neg (hne 0 (by omega) d rfl)).trans ((hrest (k0 + 1)).trans ?_)
        simp only [List.take_succ_cons, List.filter_cons, Option.isSome_some, if_true, List.length_cons]
        congr 2
        omega

/-- cat / cat2: value of a non-reference branch is the documented `1 + θ_k` / `θ_k`. -/
theorem cat_value_matches_doc (F : Funs) (ρ : Env Rat) (alt single : Bool) (tn : Nat → Sym) (k : Nat) :
    ev F ρ (catValue alt single tn k) = Doc.cat alt (ρ (tn (if single then 0 else k))) := by
  cases alt <;> cases single <;>
    simp [catValue, Gen.catSingle, Gen.cat2Single, Gen.catMulti, Gen.cat2Multi, Doc.cat]

/-- cat / cat2 are 1 at the reference (most common) category. -/
theorem cat_neutral_at_reference (F : Funs) (ρ : Env Rat) (alt : Bool) (cov : Sym) (ref : Expr)
    (others : List Cat) (tn : Nat → Sym) (href : ρ cov = ev F ρ ref) :
    ev F ρ (catTemplate alt cov ref others tn) = 1 := by
  rw [catTemplate, ev_piecewise_cons]
  exact if_pos href

/-- Every templated effect equals 1 at the reference value of the covariate
    (median for the continuous kinds, most common category for cat/cat2). -/
theorem effect_one_at_reference (F : Funs) (hexp : F.exp 0 = 1) (hpow : ∀ t, F.pow 1 t = 1)
    (ρ : Env Rat) (a : CovArgs) (e : Expr) (he : effectExpr a = some e)
    (href : if usesMedian a.kind then ρ a.cov = ρ (medianName a) else ρ a.cov = ev F ρ a.ref)
    (hm : a.kind = "pow" → ρ (medianName a) ≠ 0) :
    ev F ρ e = 1 := by
  have hdoc := effect_matches_doc F ρ a e he
  have hone := doc_effect_one_at_reference F hexp hpow
  unfold effectExpr at he
  split at he <;> cases he <;> rename_i hk <;> simp [usesMedian, hk] at href
  · rw [hdoc.1 hk, href]; exact (hone _ 0 _).1
  · rw [hdoc.2.1 hk, href]; exact (hone _ 0 _).2.2.1
  · rw [hdoc.2.2.1 hk, href]; exact (hone _ 0 _).2.2.2 (hm hk)
  · rw [hdoc.2.2.2 hk, href]; exact (hone _ _ _).2.1
  · exact cat_neutral_at_reference F ρ false _ _ _ _ href
  · exact cat_neutral_at_reference F ρ true _ _ _ _ href

/-- FULL statement ("the effect equals the neutral element of the operation at the reference"), proved for the
    multiplicative operation; for the additive one see `effect_neutral_at_reference_witness`. -/
theorem effect_neutral_at_reference_partial (F : Funs) (hexp : F.exp 0 = 1) (hpow : ∀ t, F.pow 1 t = 1)
    (ρ : Env Rat) (a : CovArgs) (e : Expr) (he : effectExpr a = some e)
    (href : if usesMedian a.kind then ρ a.cov = ρ (medianName a) else ρ a.cov = ev F ρ a.ref)
    (hm : a.kind = "pow" → ρ (medianName a) ≠ 0) (hop : a.op = "*") (p : Rat) :
    ev F ρ e = neutral a.op ∧ applyOp a.op p (ev F ρ e) = p := by
  rw [effect_one_at_reference F hexp hpow ρ a e he href hm]
  simp [neutral, applyOp, hop]

/-- The full statement of `effect_neutral_at_reference_partial` is false for the additive operation: every template
    is 1, not 0, at the reference, so `P + effect` is `P + 1` there. -/
theorem effect_neutral_at_reference_witness (F : Funs) (hexp : F.exp 0 = 1) (hpow : ∀ t, F.pow 1 t = 1)
    (ρ : Env Rat) (a : CovArgs) (e : Expr) (he : effectExpr a = some e)
    (href : if usesMedian a.kind then ρ a.cov = ρ (medianName a) else ρ a.cov = ev F ρ a.ref)
    (hm : a.kind = "pow" → ρ (medianName a) ≠ 0) (hop : a.op = "+") (p : Rat) :
    ev F ρ e ≠ neutral a.op ∧ applyOp a.op p (ev F ρ e) = p + 1 := by
  rw [effect_one_at_reference F hexp hpow ρ a e he href hm]
  simp [neutral, applyOp, hop]

example : effectExpr { param := "CL", cov := "WGT", kind := "pow", op := "*", median := .lit 70, ref := .lit 0,
                       others := [], cols := [] }
    = some (.f2 "pow" (.f2 "div" (.sym "WGT") (.sym "WGT_MEDIAN")) (.sym "POP_CLWGT")) := rfl

/-- each eta form of `add_iiv` is the documented function of the old expression and the new eta -/
theorem eta_matches_doc (F : Funs) (ρ : Env Rat) (orig : Expr) (eta : Sym) :
    ev F ρ (inst [("original", orig), ("eta_new", .sym eta)] Gen.etaAdd) = Doc.iivAdd (ev F ρ orig) (ρ eta) ∧
    ev F ρ (inst [("original", orig), ("eta_new", .sym eta)] Gen.etaProp) = Doc.iivProp (ev F ρ orig) (ρ eta) ∧
    ev F ρ (inst [("original", orig), ("eta_new", .sym eta)] (Gen.etaExp "mul")) = Doc.iivExp F (ev F ρ orig) (ρ eta) ∧
    ev F ρ (inst [("original", orig), ("eta_new", .sym eta)] (Gen.etaExp "add")) = Doc.iivExpAdd F (ev F ρ orig) (ρ eta) ∧
    ev F ρ (inst [("original", orig), ("eta_new", .sym eta)] Gen.etaLogit) = Doc.iivLogit F (ev F ρ orig) (ρ eta) := by
  simp [Gen.etaAdd, Gen.etaProp, Gen.etaExp, Gen.etaLogit, Doc.iivAdd, Doc.iivProp, Doc.iivExp, Doc.iivExpAdd,
    Doc.iivLogit]
  grind

/-- rescaled logit: with `phi = log(Θ/(1-Θ))` the new parameter is the documented function -/
theorem eta_relogit_matches_doc (F : Funs) (ρ : Env Rat) (orig : Expr) (eta phi : Sym)
    (hphi : ρ phi = F.log (ev F ρ orig / (1 - ev F ρ orig))) :
    ev F ρ (inst [("original", .sym phi), ("eta_new", .sym eta)] Gen.etaReLogit)
      = Doc.iivReLogit F (ev F ρ orig) (ρ eta) := by
  simp [Gen.etaReLogit, Doc.iivReLogit, hphi]
  grind

/-- FULL statement ("adding IIV leaves the parameter unchanged at eta = 0") holds for add, prop, exp(*); for the
    other forms see `eta_neutral_at_zero_witness`. -/
theorem eta_neutral_at_zero_partial (F : Funs) (hexp : F.exp 0 = 1) (Θ : Rat) :
    Doc.iivAdd Θ 0 = Θ ∧ Doc.iivProp Θ 0 = Θ ∧ Doc.iivExp F Θ 0 = Θ := by
  simp only [Doc.iivAdd, Doc.iivProp, Doc.iivExp, hexp, Rat.add_zero, Rat.mul_one, and_self]

/-- The full statement of `eta_neutral_at_zero_partial` fails for the other documented forms: at eta = 0 the logit
    form gives Θ/2, the rescaled logit 1/2 (whatever Θ), the additive exponential Θ + 1. -/
theorem eta_neutral_at_zero_witness (F : Funs) (hexp : F.exp 0 = 1) (Θ : Rat) :
    Doc.iivLogit F Θ 0 = Θ / 2 ∧ Doc.iivReLogit F Θ 0 = 1 / 2 ∧ Doc.iivExpAdd F Θ 0 = Θ + 1 := by
  simp only [Doc.iivLogit, Doc.iivReLogit, Doc.iivExpAdd, Rat.mul_zero, hexp, Rat.mul_one, and_true]
  grind

/-- Box-Cox, t-distribution and John–Draper transformed etas are 0 at eta = 0 (so every parameter is unchanged
    there), for every value of the shape parameter. -/
theorem eta_transformation_zero_at_zero (F : Funs) (hexp : F.exp 0 = 1) (hpow : ∀ t, F.pow 1 t = 1)
    (hsign : F.sign 0 = 0) (ρ : Env Rat) (e : TransEta) (h0 : ρ e.eta = 0) :
    ev F ρ (inst [("eta{i}", .sym e.eta), ("theta{i}", .sym e.theta)] Gen.transBoxcox) = 0 ∧
    ev F ρ (inst [("eta{i}", .sym e.eta), ("theta{i}", .sym e.theta)] Gen.transTdist) = 0 ∧
    ev F ρ (inst [("eta{i}", .sym e.eta), ("theta{i}", .sym e.theta)] Gen.transJohnDraper) = 0 := by
  -- t-distribution and John–Draper are products whose first factor (`eta`, `sign eta`) is 0
  have hmul : ∀ σ a b, ev F ρ (inst σ a) = 0 → ev F ρ (inst σ (.f2 "mul" a b)) = 0 := fun σ a b ha => by
    simp [ha]
  refine ⟨?_, hmul _ _ _ ?_, hmul _ _ _ ?_⟩
  · simp [Gen.transBoxcox, h0, hexp, hpow]
    grind
  · simp [h0]
  · simp [h0, hsign]

/-- `add_iov` and `transform_etas_*` produce `declarations ++ statements[eta ↦ new symbol]`.  If after the
    declarations every new symbol carries the value of the eta it replaces (`Sim`: at IOV etas = 0, at eta = 0 for the
    transformations), every other symbol ends with the value it has in the original model. -/
theorem extension_neutral (F : Funs) (m : List (Sym × Sym)) (decls ss : List Stmt) (ρ : Env Rat)
    (hok : ∀ s ∈ ss, StmtOk m s) (hdecl : Sim m (run (interp F) decls ρ) ρ) :
    ∀ x, x ∉ m.map Prod.snd →
      run (interp F) (decls ++ ss.map (substStmt (renameOf m))) ρ x = run (interp F) ss ρ x := by
  intro x hx
  rw [run_append]
  exact (sim_run (interp F) m ss _ _ hok hdecl).1 x hx

example : StmtOk [("ETA_CL", "ETAI1")] (.assign "CL" (.f2 "mul" (.sym "TVCL") (.f1 "exp" (.sym "ETA_CL")))) := by
  unfold StmtOk
  decide

/-- The declarations of one IOV eta: with every occasion eta equal to 0 and the occasion column equal to one of
    the categories, `IOV_i = 0` and `ETAI_i = eta`. -/
theorem iov_declarations_neutral (F : Funs) (ρ : Env Rat) (occ : Sym) :
    ∀ (cats : List Expr) (names : List Sym), (∀ n ∈ names, ρ n = 0) →
      (∃ c ∈ (cats.zip names).map Prod.fst, ev F ρ c = ρ occ) →
      ev F ρ (piecewise ((cats.zip names).map (fun (c, n) => (eEq c (.sym occ), .sym n)))) = 0 := by
  intro cats names hz hex
  have hz' : ∀ q ∈ cats.zip names, ρ q.2 = 0 := fun q hq => hz _ (List.of_mem_zip hq).2
  generalize cats.zip names = l at hz' hex ⊢
  induction l with
  | nil => simp at hex
  | cons q t ih =>
    obtain ⟨c, n⟩ := q
    rw [List.map_cons, ev_piecewise_cons]
    split
    · exact hz' _ List.mem_cons_self
    · rename_i hc
      obtain ⟨d, hd, hdv⟩ := hex
      rcases List.mem_cons.mp hd with rfl | hd
      · exact absurd hdv hc
      · exact ih (fun k hk => hz' k (List.mem_cons_of_mem _ hk)) ⟨d, hd, hdv⟩

/-- The right-hand side written by each error-model setter is the documented function of the prediction and the
    epsilons. -/
theorem error_model_shape (F : Funs) (ρ : Env Rat) (f ipred : Expr) (e1 e2 : Sym) :
    (errorY "additive" f ipred e1 e2).map (ev F ρ) = some (Doc.errAdditive (ev F ρ f) (ρ e1)) ∧
    (errorY "proportional" f ipred e1 e2).map (ev F ρ) = some (Doc.errProportional (ev F ρ f) (ρ e1)) ∧
    (errorY "combined" f ipred e1 e2).map (ev F ρ) = some (Doc.errCombined (ev F ρ f) (ρ e1) (ρ e2)) ∧
    (errorY "proportional-log" f ipred e1 e2).map (ev F ρ) = some (Doc.errProportionalLog F (ev F ρ f) (ρ e1)) ∧
    (errorY "combined-log" f ipred e1 e2).map (ev F ρ) = some (Doc.errCombinedLog F (ev F ρ f) (ρ e1) (ρ e2)) := by
  simp [errorY, Gen.errAdditive, Gen.errProp, Gen.errComb, Gen.errPropLog, Gen.errCombLog, Doc.errAdditive,
    Doc.errProportional, Doc.errCombined, Doc.errProportionalLog, Doc.errCombinedLog]

/-- With zero protection the proportional model is `f + IPREDADJ·ε` with `IPREDADJ = f` whenever `f ≠ 0`. -/
theorem error_model_zero_protection (F : Funs) (ρ : Env Rat) (f : Expr) (adj e1 : Sym)
    (hadj : ρ adj = ev F ρ (guardExpr f)) (hf : ev F ρ f ≠ 0) :
    (errorY "proportional-zp" f (.sym adj) e1 e1).map (ev F ρ) = some (Doc.errProportional (ev F ρ f) (ρ e1)) := by
  simp [errorY, Gen.errPropZP, Doc.errProportional, hadj, guardExpr, Gen.errGuard, hf]

/-- Dependence on each epsilon: `Y - f` is `ε`, `f·ε`, `f·ε₁ + ε₂`; in particular `Y = f` at ε = 0
    (which is what `remove_error_model` restores). -/
theorem error_model_eps_dependence (f ε₁ ε₂ : Rat) :
    Doc.errAdditive f ε₁ - f = ε₁ ∧ Doc.errProportional f ε₁ - f = f * ε₁ ∧
    Doc.errCombined f ε₁ ε₂ - f = f * ε₁ + ε₂ ∧
    Doc.errAdditive f 0 = f ∧ Doc.errProportional f 0 = f ∧ Doc.errCombined f 0 0 = f := by
  simp only [Doc.errAdditive, Doc.errProportional, Doc.errCombined]
  grind

/-- `remove_error_model` substitutes 0 for every epsilon in `Y`; evaluating the result is evaluating `Y` in the
    environment where the epsilons are 0. -/
theorem remove_error_subst (F : Funs) (ρ : Env Rat) (eps : List Sym) (y : Expr) :
    ev F ρ (y.subst (fun s => if s ∈ eps then some (.lit 0) else none))
      = ev F (fun s => if s ∈ eps then 0 else ρ s) y := by
  refine (eval_subst _ ρ _ y).trans ?_
  congr 1
  funext s
  by_cases h : s ∈ eps <;> simp [h]

/-- Where the epsilons are 0 the `Y` written by a natural-scale setter is the prediction again
    (`remove(ext(M)) ~ M`). -/
theorem remove_restores_error (F : Funs) (ρ : Env Rat) (f : Expr) (e1 e2 : Sym) (h1 : ρ e1 = 0) (h2 : ρ e2 = 0) :
    (errorY "additive" f f e1 e2).map (ev F ρ) = some (ev F ρ f) ∧
    (errorY "proportional" f f e1 e2).map (ev F ρ) = some (ev F ρ f) ∧
    (errorY "combined" f f e1 e2).map (ev F ρ) = some (ev F ρ f) := by
  have h := error_model_shape F ρ f f e1 e2
  have d := error_model_eps_dependence (ev F ρ f) 0 0
  simp only [h, h1, h2, d, and_self]

/-- `set_iiv_on_ruv`: the rewritten expression evaluates as the original one with **every** selected epsilon
    multiplied by `exp` of its eta. -/
theorem iiv_on_ruv_shape (F : Funs) : ∀ (ps : List (Sym × Sym)) (y : Expr) (ρ : Env Rat), PairsOk ps →
    ev F ρ (iivOnRuv y ps) = ev F (scaleEnv F ρ ps) y := by
  intro ps y ρ hok
  induction ps generalizing y with
  | nil => rfl
  | cons p t ih =>
    obtain ⟨e, η⟩ := p
    obtain ⟨he, hη, ht⟩ := hok
    rw [iivOnRuv, ih _ ht]
    refine ev_subst1 F _ _ e _ y ?_ fun s hs => ?_
    · simp [scaleEnv, iivFactor, Gen.iivOnRuv, he, hη]
    · simp [scaleEnv, lookup_cons_eq, hs]

/-- `set_iiv_on_ruv` leaves the value of the expression unchanged when all new etas are 0. -/
theorem iiv_on_ruv_neutral (F : Funs) (hexp : F.exp 0 = 1) (ps : List (Sym × Sym)) (y : Expr) (ρ : Env Rat)
    (hok : PairsOk ps) (h0 : ∀ η ∈ ps.map Prod.snd, ρ η = 0) :
    ev F ρ (iivOnRuv y ps) = ev F ρ y := by
  rw [iiv_on_ruv_shape F ps y ρ hok]
  congr 1
  funext s
  simp only [scaleEnv]
  cases hl : ps.lookup s with
  | none => rfl
  | some η =>
    have := h0 η (lookup_mem_snd ps s η hl)
    simp [this, hexp]

/-- On a combined error model **both** terms are scaled: `Y = f + f·ε₁·e^{η₁} + ε₂·e^{η₂}`
    (with `same_eta` the two etas are the same symbol). -/
theorem iiv_on_ruv_combined (F : Funs) (ρ : Env Rat) (f : Expr) (e1 e2 η1 η2 : Sym) (y : Expr)
    (hy : errorY "combined" f f e1 e2 = some y) (hne : e1 ≠ e2)
    (hη : η1 ≠ e1 ∧ η1 ≠ e2 ∧ η2 ≠ e1 ∧ η2 ≠ e2) (hf : e1 ∉ f.syms ∧ e2 ∉ f.syms) :
    ev F ρ (iivOnRuv y [(e1, η1), (e2, η2)])
      = Doc.errCombined (ev F ρ f) (ρ e1 * F.exp (ρ η1)) (ρ e2 * F.exp (ρ η2)) := by
  have hok : PairsOk [(e1, η1), (e2, η2)] := by simp [PairsOk, hne, hη.2.1]
  have hs := (error_model_shape F (scaleEnv F ρ [(e1, η1), (e2, η2)]) f f e1 e2).2.2.1
  rw [hy, Option.map_some, Option.some.injEq] at hs
  have hfe : ev F (scaleEnv F ρ [(e1, η1), (e2, η2)]) f = ev F ρ f :=
    eval_congr _ _ _ f fun s hs' => by
      have h1 : s ≠ e1 := fun h => hf.1 (h ▸ hs')
      have h2 : s ≠ e2 := fun h => hf.2 (h ▸ hs')
      simp [scaleEnv, lookup_cons_eq, h1, h2]
  rw [iiv_on_ruv_shape F _ y ρ hok, hs, hfe]
  simp [scaleEnv, lookup_cons_eq, hne.symm]

/-- `set_time_varying_error_model`: before the cutoff every epsilon is multiplied by theta, after it `Y` is unchanged. -/
theorem time_varying_shape (F : Funs) (theta : Sym) : ∀ (es : List Sym) (y : Expr) (ρ : Env Rat),
    es.Nodup → theta ∉ es →
    ev F ρ (tvScaled theta y es) = ev F (fun s => if s ∈ es then ρ s * ρ theta else ρ s) y := by
  intro es y ρ hnd hth
  induction es generalizing y with
  | nil => simp [tvScaled]
  | cons e t ih =>
    obtain ⟨het, hnd'⟩ := List.nodup_cons.mp hnd
    obtain ⟨hte, hth'⟩ := not_or.mp (mt List.mem_cons.mpr hth)
    rw [tvScaled, ih _ hnd' hth']
    refine ev_subst1 F _ _ e _ y ?_ fun s hs => ?_
    · simp [tvFactor, Gen.timeVarying, het, hth']
    · simp [hs]

theorem time_varying_after_cutoff (F : Funs) (ρ : Env Rat) (y cond : Expr) (es : List Sym) (theta : Sym)
    (hc : ev F ρ cond = 0) : ev F ρ (timeVarying y es theta cond) = ev F ρ y := by
  simp [timeVarying, hc]

theorem allometry_matches_doc (F : Funs) (ρ : Env Rat) (p theta : Sym) (x z : Expr) :
    ev F ρ (allometryExpr p x z theta) = Doc.allometry F (ρ p) (ev F ρ x) (ev F ρ z) (ρ theta) := by
  simp [allometryExpr, Gen.allometry, Doc.allometry]

/-- at the reference weight the parameter is unchanged, for every exponent -/
theorem allometry_neutral_at_ref_weight (F : Funs) (hpow : ∀ t, F.pow 1 t = 1) (p z t : Rat) (hz : z ≠ 0) :
    Doc.allometry F p z z t = p := by
  rw [Doc.allometry, Rat.div_def, Rat.mul_inv_cancel z hz, hpow, Rat.mul_one]

/-- `add_allometry` acts on the **last** assignment of `p` (any earlier ones in `pre`, none in `post`): the new
    statement goes right after it, and the final value of `p` is the documented `P·(X/Z)^T` of the **final** value `p`
    had before the extension (X, Z, T read at that point). -/
theorem allometry_acts_on_last_assignment (F : Funs) (ρ : Env Rat) (pre post : List Stmt) (p θ : Sym) (e x z : Expr)
    (hpost : ∀ s ∈ post, p ∉ s.defs) :
    addAllometry (pre ++ .assign p e :: post) p x z θ
        = some (pre ++ .assign p e :: .assign p (allometryExpr p x z θ) :: post) ∧
    run (interp F) (pre ++ .assign p e :: post) ρ p = run (interp F) (pre ++ [.assign p e]) ρ p ∧
    run (interp F) (pre ++ .assign p e :: .assign p (allometryExpr p x z θ) :: post) ρ p
        = Doc.allometry F (run (interp F) (pre ++ [.assign p e]) ρ p)
            (ev F (run (interp F) (pre ++ [.assign p e]) ρ) x) (ev F (run (interp F) (pre ++ [.assign p e]) ρ) z)
            (run (interp F) (pre ++ [.assign p e]) ρ θ) := by
  refine ⟨?_, ?_, ?_⟩
  · have hlen : (pre ++ [Stmt.assign p e]).length = pre.length + 1 := by simp
    rw [addAllometry, findLastAssign_split p pre post e hpost, List.append_cons]
    simp only [Option.bind_eq_bind, Option.bind_some, List.take_left' hlen, List.drop_left' hlen]
    simp
  · rw [List.append_cons, run_append, run_not_def (interp F) post _ p hpost]
  · rw [List.append_cons, run_append, run_cons, run_not_def (interp F) post _ p hpost]
    exact (if_pos rfl).trans (allometry_matches_doc F _ p θ x z)

/-- Acting on the FIRST assignment instead is wrong as soon as a later re-assignment is not multiplicative:
    for `CL = T; CL = CL + A` the documented result is `(T + A)·(W/Z)^θ`, the first-assignment variant gives
    `T·(W/Z)^θ + A` (here 4 versus 3). -/
theorem allometry_first_assignment_witness (F : Funs) (hpow : ∀ a, F.pow a 1 = a) :
    let ss : List Stmt := [.assign "CL" (.sym "T"), .assign "CL" (.f2 "add" (.sym "CL") (.sym "A"))]
    let ρ : Env Rat := fun s => if s = "W" then 2 else 1
    (addAllometry ss "CL" (.sym "W") (.sym "Z") "TH").map (fun r => run (interp F) r ρ "CL") = some 4 ∧
    (addAllometryFirst ss "CL" (.sym "W") (.sym "Z") "TH").map (fun r => run (interp F) r ρ "CL") = some 3 := by
  intro ss ρ
  constructor <;>
    simp [ss, addAllometry, findLastAssign, findLastAssign.go, addAllometryFirst, List.findIdx?_cons, run, Stmt.exec,
      Env.set, allometry_matches_doc, Doc.allometry, ρ, hpow] <;>
    grind

/-- a well-formed chain: every flow is `length / MDT` -/
def WFChain (mdt : Sym) (rs : List Rate) : Prop := ∀ r ∈ rs, r = ⟨rs.length, mdt⟩

theorem wfChain_iff (mdt : Sym) (rs : List Rate) : WFChain mdt rs ↔ rs = newChain rs.length mdt := by
  simp [WFChain, newChain, List.eq_replicate_iff]

theorem wfChain_newChain (n : Nat) (mdt : Sym) : WFChain mdt (newChain n mdt) := by
  simp [WFChain, newChain]

theorem length_updateNumerators (d : Bool) (rs : List Rate) : (updateNumerators d rs).length = rs.length := by
  cases d <;> simp [updateNumerators]

theorem updateNumerators_replicate (k : Nat) (r : Rate) :
    updateNumerators true (List.replicate k r) = newChain k r.denom := by
  simp [updateNumerators, newChain]

theorem setTransits_length (rs : List Rate) (n : Nat) (mdt : Sym) (depot : Bool) :
    (setTransits rs n mdt depot).length = n := by
  grind [setTransits, length_updateNumerators, shrinkChain, extendChain, newChain]

/-- Shrinking or extending a well-formed chain keeps one common rate, and `_update_numerators` then resets every
    numerator to the new length. -/
theorem setTransits_wf (rs : List Rate) (n : Nat) (mdt : Sym) (depot : Bool) (hwf : WFChain mdt rs)
    (hdet : depot = true ∨ n ≠ 1) : setTransits rs n mdt depot = newChain n mdt := by
  have hd : (depot || n != 1) = true := by simpa using hdet
  rw [wfChain_iff] at hwf
  generalize rs.length = m at hwf
  subst hwf
  simp only [setTransits, hd, newChain, List.length_replicate]
  split
  · subst m; rfl
  split
  · rfl
  rename_i h0
  split
  · have hk : min (m - (m - n)) m = n := by omega
    rw [shrinkChain, List.length_replicate, List.take_replicate, updateNumerators_replicate, hk, newChain]
  · have hk : m + (n - m) = n := by omega
    simp only [extendChain, List.getLast?_replicate, if_neg h0, List.replicate_append_replicate,
      updateNumerators_replicate, hk, newChain]

/-- FULL statement: `set_transit_compartments` keeps every chain rate equal to `n / MDT`, whatever the previous
    number of transits — proved when the model has a depot or n ≠ 1; otherwise see `transit_rate_mdt_witness`. -/
theorem transit_rate_mdt_partial (rs : List Rate) (n : Nat) (mdt : Sym) (depot : Bool) (hwf : WFChain mdt rs)
    (hdet : depot = true ∨ n ≠ 1) :
    WFChain mdt (setTransits rs n mdt depot) := by
  rw [setTransits_wf rs n mdt depot hwf hdet]
  exact wfChain_newChain n mdt

/-- The full statement of `transit_rate_mdt_partial` fails when the model has no depot and n = 1: reducing a chain
    of 5 to one transit in a model without depot leaves the rate `5/MDT` (the remaining compartment is not
    recognised as a transit), so the mean transit time is `MDT/5`, not `MDT`. -/
theorem transit_rate_mdt_witness :
    setTransits (List.replicate 5 ⟨5, "MDT"⟩) 1 "MDT" false = [⟨5, "MDT"⟩] ∧
    ¬ WFChain "MDT" (setTransits (List.replicate 5 ⟨5, "MDT"⟩) 1 "MDT" false) := by
  refine ⟨by decide, ?_⟩
  intro h
  have := h ⟨5, "MDT"⟩ (by decide)
  simp [setTransits_length] at this

/-- `transit_rate_mdt_partial` iterated: the chain is well-formed after every history of calls starting from a model
    without transits (never asking for exactly one transit unless the model has a depot). -/
theorem transit_rate_mdt_history (mdt : Sym) (depot : Bool) (ns : List Nat) (hns : depot = true ∨ ∀ n ∈ ns, n ≠ 1) :
    WFChain mdt (ns.foldl (fun rs n => setTransits rs n mdt depot) []) := by
  suffices h : ∀ rs, WFChain mdt rs → WFChain mdt (ns.foldl (fun rs n => setTransits rs n mdt depot) rs) from
    h [] (wfChain_newChain 0 mdt)
  induction ns with
  | nil => exact fun rs h => h
  | cons n t ih =>
    exact fun rs h => ih (hns.imp_right fun h' k hk => h' k (List.mem_cons_of_mem _ hk)) _
      (transit_rate_mdt_partial rs n mdt depot h (hns.imp_right fun h' => h' n List.mem_cons_self))

/-- The mean transit time of a well-formed non-empty chain is `MDT`. -/
theorem transit_mean_time (ρ : Env Rat) (mdt : Sym) (rs : List Rate) (hwf : WFChain mdt rs) (hne : rs ≠ [])
    (hm : ρ mdt ≠ 0) : meanTransitTime ρ rs = ρ mdt := by
  have hlen : (rs.length : Rat) ≠ 0 := by simpa using hne
  rw [(wfChain_iff mdt rs).mp hwf, meanTransitTime, newChain, List.map_replicate, sum_replicate, rateValue]
  push_cast
  grind

/-- the rate written into the model is the source template `n / mdt_symb` -/
theorem transit_rate_expr (F : Funs) (ρ : Env Rat) (r : Rate) : ev F ρ (rateExpr r) = rateValue ρ r := by
  simp [rateExpr, Gen.transitRate, rateValue]

example : setTransits (setTransits [] 2 "MDT" false) 4 "MDT" false = List.replicate 4 ⟨4, "MDT"⟩ := by decide
example : WFChain "MDT" [⟨2, "MDT"⟩, ⟨2, "MDT"⟩] := wfChain_newChain 2 "MDT"

/-- the loop `for eps in epsilons: expr = expr.subs({eps: ruv_prop})` evaluates as the expression with **every**
    epsilon of the list carrying the value of the new proportional epsilon -/
theorem subst_eps_eval (F : Funs) (p : Sym) : ∀ (es : List Sym) (e : Expr) (ρ : Env Rat), p ∉ es →
    ev F ρ (substEps p e es) = ev F (epsTo ρ es p) e := by
  intro es e ρ hp
  induction es generalizing e with
  | nil => simp [substEps, (funext fun s => by simp [epsTo] : epsTo ρ [] p = ρ)]
  | cons x t ih =>
    have hp' : p ∉ t := fun h => hp (List.mem_cons_of_mem _ h)
    rw [substEps, ih _ hp']
    refine ev_subst1 F _ _ x _ e ?_ fun s hs => ?_
    · simp [epsTo, hp']
    · simp [epsTo, hs]

theorem ev_combAddTerm (F : Funs) (ρ : Env Rat) (pre hasEta : Bool) (a η θ : Sym) :
    ev F ρ (combAddTerm pre hasEta a η θ) =
      ρ a * (if pre then ρ θ else 1) * (if hasEta then F.exp (ρ η) else 1) := by
  cases pre <;> cases hasEta <;> simp [combAddTerm, eMul]

/-- `set_combined_error_model` on a time-varying model: each branch is the old one with every old epsilon set to
    the proportional one, plus the additive epsilon times the modifiers in force (`theta` only before the cutoff,
    `exp(eta)` in BOTH branches with IIV on RUV). -/
theorem combined_on_time_varying_eval (F : Funs) (ρ : Env Rat) (e0 e1 cond : Expr) (es : List Sym) (p a η θ : Sym)
    (hasEta : Bool) (hp : p ∉ es) :
    ev F ρ (combinedOnTimeVarying e0 e1 cond es p a hasEta η θ) =
      if ev F ρ cond = 0 then ev F (epsTo ρ es p) e1 + ρ a * (if hasEta then F.exp (ρ η) else 1)
      else ev F (epsTo ρ es p) e0 + ρ a * ρ θ * (if hasEta then F.exp (ρ η) else 1) := by
  simp only [combinedOnTimeVarying, eAdd, ev_ops, subst_eps_eval F p es _ ρ hp, ev_combAddTerm,
    if_true, Bool.false_eq_true, if_false, Rat.mul_one]

/-- "The observation depends on the prediction and on each epsilon as the named error model does", for
    `set_combined_error_model` after `set_time_varying_error_model` and optionally `set_iiv_on_ruv` on a proportional
    model: if the old branches are the documented `f + f·ε·θ·[exp η]` and `f + f·ε·[exp η]` and `f` does not read `ε`,
    the new `Y` is `f + (f·ε_p + ε_a)·s` with the SAME `s` on both epsilons: `θ·[exp η]` before the cutoff, `[exp η]` after. -/
theorem combined_after_modifiers_shape (F : Funs) (ρ : Env Rat) (f e0 e1 cond : Expr) (ε p a η θ : Sym)
    (hasEta : Bool) (hp : p ≠ ε) (hθ : θ ≠ ε) (hη : η ≠ ε)
    (h0 : ∀ ρ', ev F ρ' e0 = ev F ρ' f + ev F ρ' f * ρ' ε * (ρ' θ * (if hasEta then F.exp (ρ' η) else 1)))
    (h1 : ∀ ρ', ev F ρ' e1 = ev F ρ' f + ev F ρ' f * ρ' ε * (if hasEta then F.exp (ρ' η) else 1))
    (hf : ev F (epsTo ρ [ε] p) f = ev F ρ f) :
    ev F ρ (combinedOnTimeVarying e0 e1 cond [ε] p a hasEta η θ) =
      Doc.errCombinedScaled (ev F ρ f) (ρ p) (ρ a)
        ((if ev F ρ cond = 0 then 1 else ρ θ) * (if hasEta then F.exp (ρ η) else 1)) := by
  rw [combined_on_time_varying_eval F ρ e0 e1 cond [ε] p a η θ hasEta (by simp [hp]), h0, h1, hf]
  simp only [epsTo, List.mem_singleton, ↓reduceIte, if_neg hθ, if_neg hη, Doc.errCombinedScaled]
  split <;> grind

/-- at eta = 0 after the cutoff the result is the plain combined error model -/
theorem combined_after_modifiers_reference (F : Funs) (hexp : F.exp 0 = 1) (f ε₁ ε₂ : Rat) (hasEta : Bool) :
    Doc.errCombinedScaled f ε₁ ε₂ (1 * (if hasEta then F.exp 0 else 1)) = Doc.errCombined f ε₁ ε₂ := by
  simp only [Doc.errCombinedScaled, Doc.errCombined, hexp, ite_self, Rat.mul_one, Rat.add_assoc]

-- non-vacuity: hypothesis `h0` of `combined_after_modifiers_shape` (case `hasEta = true`) holds for
-- `F + F*EPS_1*(time_varying*exp(ETA_RV1))`
example (F : Funs) (ρ' : Env Rat) :
    ev F ρ' (.f2 "add" (.sym "F") (.f2 "mul" (.f2 "mul" (.sym "F") (.sym "EPS_1")) (.f2 "mul" (.sym "time_varying") (.f1 "exp" (.sym "ETA_RV1")))))
      = ev F ρ' (.sym "F") + ev F ρ' (.sym "F") * ρ' "EPS_1" * (ρ' "time_varying" * (if true then F.exp (ρ' "ETA_RV1") else 1)) := by
  simp

end Pharmpy.C09
