import PharmpyModel.C14.Admid
/-
  C14 — get_admid: the forward-fill loop restarts at the first record of another individual, so it
  is local to a run of records of one individual, where it is the per-individual walk.
-/
namespace Pharmpy.C14

/-- at a record of another individual, and at the very first record, the loop takes the record's own
    route -/
theorem admStep_restart (s : Int × Nat) (r : ARow) (h : s.1 ≠ r.id ∨ s = (r.id, r.own)) :
    admStep s r = ((r.id, r.own), r.own) := by
  unfold admStep
  rcases h with h | rfl
  · rw [if_neg fun e => h (beq_iff_eq.mp e)]
  · rw [if_pos (beq_self_eq_true r.id)]
    split <;> rfl

theorem admStep_id (s : Int × Nat) (r : ARow) : (admStep s r).1.1 = r.id := by
  by_cases h : s.1 = r.id
  · unfold admStep
    rw [if_pos (beq_iff_eq.mpr h)]
    split <;> exact h
  · rw [admStep_restart s r (Or.inl h)]

/-- state of the loop after the records `a` -/
def admState (s : Int × Nat) (a : List ARow) : Int × Nat := a.foldl (fun s r => (admStep s r).1) s

theorem admLoop_append (s : Int × Nat) (a b : List ARow) :
    admLoop s (a ++ b) = admLoop s a ++ admLoop (admState s a) b := by
  induction a generalizing s with
  | nil => rfl
  | cons r a ih =>
    rw [List.cons_append, admLoop, admLoop, ih]
    rfl

theorem admLoop_length (s : Int × Nat) (rs : List ARow) : (admLoop s rs).length = rs.length := by
  induction rs generalizing s with
  | nil => rfl
  | cons r rs ih => rw [admLoop, List.length_cons, List.length_cons, ih]

theorem admFill_local (a b : List ARow)
    (hb : a.getLast?.map (·.id) ≠ b.head?.map (·.id)) (ha : a ≠ []) (hb0 : b ≠ []) :
    admFill (a ++ b) = admFill a ++ admFill b := by
  match a, b, ha, hb0 with
  | r0 :: t, r :: rs, _, _ =>
    -- after `r0 :: t` the loop is at the individual of its last record
    have hst : (admState (r0.id, r0.own) (r0 :: t)).1 ≠ r.id := by
      obtain ⟨a', l, hl⟩ := (List.eq_nil_or_concat (r0 :: t)).resolve_left (List.cons_ne_nil _ _)
      rw [List.concat_eq_append] at hl
      rw [hl, List.getLast?_concat] at hb
      rw [hl, admState, List.foldl_append, List.foldl_cons, List.foldl_nil, admStep_id]
      exact fun e => hb (congrArg some e)
    -- so at `r` it restarts, as it does at the first record of a dataset
    have hr : ∀ s, s.1 ≠ r.id ∨ s = (r.id, r.own) →
        admLoop s (r :: rs) = r.own :: admLoop (r.id, r.own) rs := fun s h => by
      rw [admLoop, admStep_restart s r h]
    exact (admLoop_append _ (r0 :: t) (r :: rs)).trans
      (congrArg _ ((hr _ (Or.inl hst)).trans (hr _ (Or.inr rfl)).symm))

theorem admLoop_const (i : Int) (cur : Nat) (rs : List ARow) (h : ∀ x ∈ rs, x.id = i) :
    admLoop (i, cur) rs = indWalk cur rs := by
  induction rs generalizing cur with
  | nil => rfl
  | cons r rs ih =>
    have hrs : ∀ x ∈ rs, x.id = i := fun x hx => h x (List.mem_cons_of_mem _ hx)
    rw [admLoop, indWalk, admStep, if_pos (beq_iff_eq.mpr (h r List.mem_cons_self).symm)]
    split
    · exact congrArg _ (ih _ hrs)
    · exact congrArg _ (ih _ hrs)

theorem admFill_const (b : List ARow) (h : ConstId b) : admFill b = indAdmid b := by
  match b, h with
  | r0 :: rs, h => exact admLoop_const r0.id r0.own (r0 :: rs) (List.forall_mem_cons.mpr ⟨rfl, h⟩)

theorem ConstId.ne_nil {b : List ARow} (h : ConstId b) : b ≠ [] := by
  match b, h with
  | _ :: _, _ => exact List.cons_ne_nil _ _

theorem GoodBlocks.head {c : List ARow} {rest : List (List ARow)} (h : GoodBlocks (c :: rest)) :
    ConstId c := by
  match rest, h with
  | [], h => exact h
  | _ :: _, h => exact h.1

theorem admFill_blocks (bs : List (List ARow)) (h : GoodBlocks bs) :
    admFill bs.flatten = bs.flatMap indAdmid := by
  induction bs with
  | nil => rfl
  | cons b rest ih =>
    rw [List.flatten_cons, List.flatMap_cons, ← admFill_const b h.head]
    match rest, h, ih with
    | [], _, _ => rw [List.flatten_nil, List.append_nil, List.flatMap_nil, List.append_nil]
    | c :: rest, ⟨hb, hbc, hrest⟩, ih =>
      obtain ⟨x, xs, rfl⟩ := List.exists_cons_of_ne_nil hrest.head.ne_nil
      rw [← ih hrest]
      exact admFill_local b _ hbc hb.ne_nil (List.cons_ne_nil x _)

end Pharmpy.C14
