import PharmpyProofs.C14.DoseidLemmas
/-
  C14 — `expand_additional_doses`: the expanded dataset is a permutation of the exploded rows.
  `add_time_after_dose`: a row of `addTad` is a record of the expanded dataset with the records around it.
-/
namespace Pharmpy.C14

theorem ratSum_replicate (c : Rat) (n : Nat) : ratSum (List.replicate n c) = c * (n : Rat) := by
  induction n with
  | zero => exact (Rat.mul_zero c).symm
  | succ n ih =>
    rw [List.replicate_succ, ratSum_cons, ih, Rat.natCast_add, Rat.mul_add, Rat.add_comm]
    exact congrArg (c * (n : Rat) + ·) (Rat.mul_one c).symm

theorem explodeRow_map_amt (r : Rec) :
    (explodeRow r).map (·.amt) = List.replicate (r.addl + 1) r.amt := by
  unfold explodeRow
  split
  · rename_i h
    rw [beq_iff_eq.mp h]
    rfl
  · rw [List.map_map]
    exact List.map_const'.trans (congrArg (List.replicate · r.amt) List.length_range)

theorem explodeRow_length (r : Rec) : (explodeRow r).length = r.addl + 1 := by
  rw [← List.length_map (f := (·.amt)), explodeRow_map_amt, List.length_replicate]

theorem explodeRow_amt (r : Rec) :
    ratSum ((explodeRow r).map (·.amt)) = r.amt * ((r.addl : Rat) + 1) := by
  rw [explodeRow_map_amt, ratSum_replicate, Rat.natCast_add]
  rfl

theorem explodeRow_filter (r : Rec) (hr : r.expanded = false) :
    (explodeRow r).filter (fun x => !x.expanded) = [r] := by
  unfold explodeRow
  split
  · rw [List.filter_cons, hr]
    rfl
  · have h0 : ({ r with time := r.ii * ((0 : Nat) : Rat) + r.time, expanded := (0 : Nat) != 0 } : Rec)
        = r := by
      cases r
      cases hr
      exact congrArg (Rec.mk _ _ · _ _ _ _ _ _ _) ((congrArg (· + _) (Rat.mul_zero _)).trans (Rat.zero_add _))
    rw [List.range_succ_eq_map, List.map_cons, h0, List.filter_cons, hr, List.map_map]
    exact congrArg (r :: ·) (List.filter_eq_nil_iff.mpr fun a ha => by
      obtain ⟨x, _, rfl⟩ := List.mem_map.mp ha
      exact fun h => nomatch h)

theorem exploded_map_fst (cfg : Cfg) (ds : List Rec) :
    (exploded cfg ds).map (·.1) = ds.flatMap explodeRow := by
  have h : ∀ p : Rec × Nat,
      ((explodeRow p.1).map (fun x => (x, p.2))).map (·.1) = explodeRow p.1 := fun p => by
    rw [List.map_map]
    exact List.map_id _
  rw [exploded, List.map_flatMap]
  simp only [h]
  rw [← List.flatMap_map Prod.fst explodeRow, zipMap, zipMapAux_map_fst]

theorem expandRg_perm (cfg : Cfg) (ds : List Rec) : (expandRg cfg ds).Perm (exploded cfg ds) := by
  unfold expandRg
  dsimp only
  split
  · rw [expandGroups, List.flatMap_map]
    exact groupby_perm (fun p : Rec × Nat => (p.1.id, p.2)) keyLe
      (g := fun l => l.mergeSort timeLe) (fun l => List.mergeSort_perm l _) _
  · exact .refl _

theorem expand_perm (cfg : Cfg) (ds : List Rec) (h : cfg.hasAddl = true) :
    (expand cfg ds).Perm (ds.flatMap explodeRow) := by
  rw [expand, if_pos h, ← exploded_map_fst cfg ds]
  exact (expandRg_perm cfg ds).map _

/-- a row of `addTad` sits at a split of the expanded dataset; the rows before it, among which its
    dose period is looked up, are the records before it with their dose ids -/
theorem mem_addTad {cfg : Cfg} {ds : List Rec} {p : Rec × Rat} (hp : p ∈ addTad cfg ds) :
    ∃ a r b, expand cfg ds = a ++ r :: b ∧
      p = (r, tadAt (zipMap (fun p r' q => (r', doseidAt cfg p r' (q ++ r :: b))) a)
        (r, doseidAt cfg a r b)) := by
  obtain ⟨x, hx, rfl⟩ := List.mem_map.mp hp
  obtain ⟨i, _, hxi⟩ := List.mem_flatMap.mp (List.mem_filter.mp hx).1
  have hx := (List.mem_filter.mp (List.mem_mergeSort.mp hxi)).1
  rw [tadRows, getDoseid, zip_zipMap] at hx
  obtain ⟨A, q, B, hsplit, rfl⟩ := mem_zipMap hx
  obtain ⟨a, r, b, hl, rfl, rfl⟩ := zipMapAux_split (pre := []) hsplit
  exact ⟨a, r, b, hl, rfl⟩

theorem tadRows_map_fst (cfg : Cfg) (ds : List Rec) :
    (tadRows cfg ds).map (fun q => q.1.1) = expand cfg ds := by
  have h : (tadRows cfg ds).map (fun q => q.1.1) = ((tadRows cfg ds).map Prod.fst).map Prod.fst :=
    (List.map_map ..).symm
  rw [h, tadRows, zipMap, zipMapAux_map_fst, getDoseid, zip_zipMap, zipMap, zipMapAux_map_fst]

theorem doseidAt_lt_of_dose (cfg : Cfg) (a1 a2 : List Rec) (x r : Rec) (post1 b : List Rec)
    (hid : x.id = r.id) (hr : r.amt > 0) :
    doseidAt cfg a1 x post1 < doseidAt cfg (a1 ++ x :: a2) r b := by
  have hflag : ∀ y : Rec, 0 ≤ flag y := fun y => by
    unfold flag
    split <;> omega
  have hsum : ∀ l : List Rec, 0 ≤ intSum (l.map flag) := by
    intro l
    induction l with
    | nil => exact Int.le_refl 0
    | cons y l ih =>
      rw [List.map_cons, intSum_cons]
      exact Int.add_nonneg (hflag y) ih
  have hsx : sameId r x = true := beq_iff_eq.mpr hid
  have hfun : sameId x = sameId r := funext fun y => by rw [sameId, sameId, hid]
  have h1 := doseidAt_le_cumOf cfg a1 x post1
  have h2 := hsum (a2.filter (sameId r))
  have h3 := hflag x
  have h4 : flag r = 1 := if_pos hr
  rw [doseidAt_of_dose cfg hr, cumOf, List.filter_append, List.filter_cons, if_pos hsx,
    List.map_append, List.map_cons, intSum_append, intSum_cons, h4]
  rw [cumOf, hfun] at h1
  omega

end Pharmpy.C14
