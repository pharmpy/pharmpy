import PharmpyProofs.C14.ExpandTadLemmas
import PharmpyProofs.C14.AdmidLemmas
import PharmpyProofs.C14.BaselineLemmas
/-
  C14 — Dataset derivations agree with record-by-record event semantics: the property theorems,
  for every record list and every column configuration.
-/
namespace Pharmpy.C14

/-- On every dataset without reset events whose individuals are in chronological order and have at
    most one dose record per time stamp, `get_doseid` (as repaired by 183fc9b) is the
    per-individual walk — in particular for a record tied with the first dose of ANY individual. -/
theorem doseid_eq_walk_partial (cfg : Cfg) (ds : List Rec) (h : Regular cfg ds) :
    getDoseid cfg ds = walkDoseid cfg ds := by
  obtain ⟨hp, hc, hdd⟩ := h
  have hp' : ∀ x ∈ ds, 0 ≤ x.amt ∧ resetFlag cfg x = false := fun x hx => by
    have := List.all_eq_true.mp hp x hx
    rwa [Bool.and_eq_true, decide_eq_true_eq, Bool.not_eq_true'] at this
  apply getDoseid_eq_walk_of_nondose
  rintro a r b rfl hd
  exact doseidAt_nondose cfg a r b ⟨fun x hx => (hp' x hx).1, fun x hx => (hp' x hx).2, hc, hdd⟩ hd

/-- For EVERY dataset (reset events, ties, any order of times): at each dose record
    `get_doseid` is the walk (the number of doses of the individual so far). -/
theorem doseid_eq_walk_at_doses (cfg : Cfg) (ds : List Rec) :
    ∀ p ∈ ds.zip ((getDoseid cfg ds).zip (walkDoseid cfg ds)), p.1.amt > 0 → p.2.1 = p.2.2 := by
  intro p hp hd
  rw [walkDoseid_eq, getDoseid, zipMap, zipMap, zipMapAux_zip, zip_zipMapAux] at hp
  obtain ⟨a, r, b, _, rfl⟩ := mem_zipMapAux hp
  exact doseidAt_dose cfg a r b hd

/-- On every dataset in which no record other than a dose follows a dose record of its individual
    at the same time stamp — reset events, SS, non-chronological times, negative amounts all
    allowed — `get_doseid` is the walk. -/
theorem doseid_eq_walk_noties (cfg : Cfg) (ds : List Rec) (h : NoTie ds) :
    getDoseid cfg ds = walkDoseid cfg ds :=
  getDoseid_eq_walk_of_nondose fun a r b hs hd => doseidAt_notie cfg a r b (hs ▸ h) hd

/-- non-vacuity of `NoTie`: resets with restarting time, two individuals -/
example :
    let ds := [mkRec 0 1 0 10 1, mkRec 1 1 2 0, mkRec 2 1 3 0 3, mkRec 3 1 0 5 4, mkRec 4 1 1 0, mkRec 5 2 1 0,
               mkRec 6 2 3 7 1, mkRec 7 2 4 0]
    NoTie ds ∧ getDoseid cfgEvid ds = [1, 1, 1, 2, 2, 0, 1, 1] := by
  decide +kernel

/-- F11 (repaired by 183fc9b): two individuals with identical records get identical dose ids, the
    record tied with the first dose stays in dose period 1; the dataset is `Regular`. -/
theorem doseid_first_row_fixed :
    let ds := [mkRec 0 1 0 10, mkRec 1 1 0 0, mkRec 2 1 1 0, mkRec 3 2 0 10, mkRec 4 2 0 0, mkRec 5 2 1 0]
    Regular cfgDose ds ∧ getDoseid cfgDose ds = [1, 1, 1, 1, 1, 1] ∧ walkDoseid cfgDose ds = [1, 1, 1, 1, 1, 1] := by
  decide +kernel

/-- a tie that spans two reset groups is decremented once per group -/
theorem doseid_reset_tie_witness :
    let ds := [mkRec 0 1 0 10 1, mkRec 1 1 5 0, mkRec 2 1 5 10 1, mkRec 3 1 5 0, mkRec 4 1 5 0 3, mkRec 5 1 5 0]
    getDoseid cfgEvid ds = [1, 1, 2, 1, 1, 1] ∧ walkDoseid cfgEvid ds = [1, 1, 2, 1, 2, 2] := by
  decide +kernel

/-- a record between two dose records of one time stamp is compared with the later dose -/
theorem doseid_between_doses_witness :
    let ds := [mkRec 0 1 0 10, mkRec 1 1 5 10, mkRec 2 1 5 0, mkRec 3 1 5 10, mkRec 4 1 6 0]
    getDoseid cfgDose ds = [1, 2, 2, 3, 3] ∧ walkDoseid cfgDose ds = [1, 2, 1, 3, 3] := by
  decide +kernel

/-- non-vacuity: a regular dataset with ties on which the tie rule fires for two individuals -/
example :
    let ds := [mkRec 0 1 0 10, mkRec 1 1 0 0, mkRec 2 1 12 10, mkRec 3 1 12 0, mkRec 4 3 1 5, mkRec 5 3 2 0,
               mkRec 6 3 2 5, mkRec 7 3 2 0]
    Regular cfgDose ds ∧ getDoseid cfgDose ds = [1, 1, 2, 1, 1, 1, 2, 1] := by
  decide +kernel

/-- time after dose is never negative when the (expanded) records of every individual are in
    chronological order -/
theorem tad_nonneg (cfg : Cfg) (ds : List Rec) (hc : Chrono (expand cfg ds)) :
    ∀ p ∈ addTad cfg ds, 0 ≤ p.2 := by
  intro p hp
  obtain ⟨a, r, b, hl, rfl⟩ := mem_addTad hp
  unfold tadAt
  split
  · -- the row found is an earlier record of the same individual
    rename_i q hq
    have hqa : q.1 ∈ a := by
      have := List.mem_map_of_mem (f := Prod.fst) (List.mem_of_find?_eq_some hq)
      rwa [zipMap, zipMapAux_map_fst] at this
    have hprop := List.find?_some hq
    dsimp only at hprop
    have hid : r.id = q.1.id := (beq_iff_eq.mp (Bool.and_eq_true_iff.mp hprop).1).symm
    rw [hl] at hc
    exact (Rat.le_iff_sub_nonneg _ _).mp ((List.pairwise_append.mp hc).2.2 q.1 hqa r List.mem_cons_self hid)
  · exact Rat.le_refl

/-- time after dose is zero at every dose record, for every dataset -/
theorem tad_zero_at_dose (cfg : Cfg) (ds : List Rec) :
    ∀ p ∈ addTad cfg ds, isDose p.1 = true → p.2 = 0 := by
  intro p hp hd
  obtain ⟨a, r, b, hl, rfl⟩ := mem_addTad hp
  -- no earlier record of the individual has the dose id of a dose record
  have hnone : ∀ q ∈ zipMap (fun p r' q => (r', doseidAt cfg p r' (q ++ r :: b))) a,
      ¬ (q.1.id == r.id && q.2 == doseidAt cfg a r b) = true := by
    intro q hq hc
    obtain ⟨a1, y, a2, rfl, rfl⟩ := mem_zipMap hq
    obtain ⟨hid, hdose⟩ := Bool.and_eq_true_iff.mp hc
    exact Int.ne_of_lt (doseidAt_lt_of_dose cfg a1 a2 y r _ b (beq_iff_eq.mp hid) (of_decide_eq_true hd))
      (beq_iff_eq.mp hdose)
  unfold tadAt
  rw [List.find?_eq_none.mpr hnone]

/-- frame: the returned records are exactly the (non-expanded) records, each with all its
    values — as a multiset; the order is NOT kept (records are regrouped by ascending id and
    stable-sorted by dose id) -/
theorem tad_frame_records (cfg : Cfg) (ds : List Rec) :
    ((addTad cfg ds).map (·.1)).Perm ((expand cfg ds).filter (fun r => !r.expanded)) := by
  have hsorted := groupby_perm (fun q : (Rec × Int) × Rat => q.1.1.id) (fun a b => decide (a ≤ b))
    (g := fun l => l.mergeSort (fun a b => decide (a.1.2 ≤ b.1.2))) (fun l => List.mergeSort_perm l _)
    (tadRows cfg ds)
  have h := (hsorted.map (fun q => q.1.1)).filter (fun r => !r.expanded)
  rw [tadRows_map_fst, List.filter_map] at h
  rw [addTad, List.map_map]
  exact h

/-- every original record is kept exactly once with all its fields unchanged -/
theorem expand_preserves_records (cfg : Cfg) (ds : List Rec) (h : cfg.hasAddl = true)
    (hne : ∀ r ∈ ds, r.expanded = false) :
    ((expand cfg ds).filter (fun r => !r.expanded)).Perm ds := by
  refine ((expand_perm cfg ds h).filter _).trans ?_
  rw [List.filter_flatMap]
  clear h
  induction ds with
  | nil => exact .refl _
  | cons r ds ih =>
    rw [List.flatMap_cons, explodeRow_filter r (hne r List.mem_cons_self)]
    exact (ih fun x hx => hne x (List.mem_cons_of_mem _ hx)).cons r

/-- the total administered amount: Σ AMT after = Σ AMT·(ADDL+1) before -/
theorem expand_total_amount (cfg : Cfg) (ds : List Rec) (h : cfg.hasAddl = true) :
    ratSum ((expand cfg ds).map (·.amt)) = ratSum (ds.map (fun r => r.amt * ((r.addl : Rat) + 1))) := by
  rw [ratSum_perm ((expand_perm cfg ds h).map _)]
  clear h
  induction ds with
  | nil => rfl
  | cons r ds ih =>
    rw [List.flatMap_cons, List.map_append, ratSum_append, ih, explodeRow_amt, List.map_cons, ratSum_cons]

theorem expand_record_count (cfg : Cfg) (ds : List Rec) (h : cfg.hasAddl = true) :
    (expand cfg ds).length = ((ds.map (fun r => r.addl + 1)).sum) := by
  rw [(expand_perm cfg ds h).length_eq, List.length_flatMap]
  exact congrArg List.sum (List.map_congr_left fun r _ => explodeRow_length r)

/-- without ADDL/II columns the dataset is returned unchanged -/
theorem expand_without_addl (cfg : Cfg) (ds : List Rec) (h : cfg.hasAddl = false) :
    expand cfg ds = ds := by
  rw [expand, h]
  rfl

/-- derived series are aligned with the records (one value per record, record order) -/
theorem derived_column_frame (cfg : Cfg) (ds : List Rec) :
    (getDoseid cfg ds).length = ds.length ∧ (getMdv cfg ds).length = ds.length ∧
      (getEvid cfg ds).length = ds.length := by
  refine ⟨zipMapAux_length _ [] _, List.length_map _, ?_⟩
  unfold getEvid
  split
  · exact List.length_map _
  · exact List.length_map _

/-- MDV is 0/1; EVID is the event column when there is one and MDV otherwise -/
theorem mdv_evid_rules (cfg : Cfg) (ds : List Rec) :
    (∀ v ∈ getMdv cfg ds, v = 0 ∨ v = 1) ∧
      (cfg.hasEvid = true → getEvid cfg ds = ds.map (·.evid)) ∧
      (cfg.hasEvid = false → getEvid cfg ds = getMdv cfg ds) := by
  refine ⟨fun v hv => ?_, fun h => ?_, fun h => ?_⟩
  · obtain ⟨r, _, rfl⟩ := List.mem_map.mp hv
    exact mdvOf_zero_or_one cfg r
  · rw [getEvid, if_pos h]
  · rw [getEvid, h]
    rfl

/-- the observation records are exactly the records with MDV = 0, in record order -/
theorem observations_eq_mdv_zero (cfg : Cfg) (ds : List Rec) :
    getObservations cfg ds = ds.filter (fun r => mdvOf cfg r == 0) :=
  List.filter_congr fun r _ => isObs_eq cfg r

/-- the per-individual observation counts add up to the number of observations -/
theorem nobs_per_individual_total (cfg : Cfg) (ds : List Rec) :
    ((nObsPerInd cfg ds).map (·.2)).sum = nObs cfg ds := by
  have h := groupby_perm (fun r : Rec => r.id) (fun a b => decide (a ≤ b)) (g := id) (fun _ => .refl _)
    (getObservations cfg ds)
  rw [nObsPerInd, nObs, List.map_map, ← h.length_eq, List.length_flatMap]
  rfl

/-- locality: at a boundary between two individuals the administration ids of the whole dataset are
    those of the two parts computed on their own — no state crosses the boundary -/
theorem admid_local (c : ACfg) (a b : List ERec)
    (hb : a.getLast?.map (·.id) ≠ b.head?.map (·.id)) (ha : a ≠ []) (hb0 : b ≠ []) :
    getAdmid c (a ++ b) = getAdmid c a ++ getAdmid c b := by
  unfold getAdmid
  split
  · exact List.map_append
  · rw [admRows, List.map_append]
    refine admFill_local _ _ ?_ (mt List.map_eq_nil_iff.mp ha) (mt List.map_eq_nil_iff.mp hb0)
    rwa [List.getLast?_map, List.head?_map, Option.map_map, Option.map_map]

/-- for every decomposition of the records into runs of one individual each (neighbouring runs of
    different individuals) `get_admid` is the concatenation of the per-individual walks -/
theorem admid_eq_walk (c : ACfg) (ds : List ERec) (bs : List (List ARow)) (h : GoodBlocks bs)
    (hds : admRows c ds = bs.flatten) (hadm : c.hasAdm = false) :
    getAdmid c ds = bs.flatMap indAdmid := by
  rw [getAdmid, if_neg (hadm ▸ Bool.false_ne_true), hds]
  exact admFill_blocks bs h

/-- the ADMID series has one entry per record -/
theorem admid_frame (c : ACfg) (ds : List ERec) : (getAdmid c ds).length = ds.length := by
  unfold getAdmid
  split
  · exact List.length_map _
  · match ds with
    | [] => rfl
    | r :: rs => exact (admLoop_length _ _).trans (List.length_map _)

/-- `get_cmt` is total (05d598c) and a per-record map: one value per record, and the value of a
    record does not depend on any other record -/
theorem cmt_local (c : ACfg) (a b : List ERec) : getCmt c (a ++ b) = getCmt c a ++ getCmt c b :=
  List.map_append

theorem cmt_frame (c : ACfg) (ds : List ERec) : (getCmt c ds).length = ds.length := List.length_map _

/-- per-record rules of `get_cmt` without compartment column: from EVID, doses (EVID 1, 4) go to the
    dose compartment and everything else to 0; from an admid column, observations are in the central
    compartment — for every model, also one that doses only into DEPOT -/
theorem cmt_rules (c : ACfg) (r : ERec) (h : c.hasCmt = false) :
    (c.hasAdm = false → isDoseEv r.evid = true → cmtOf c r = c.doseCmt) ∧
    (c.hasAdm = false → r.evid ≤ 3 → isDoseEv r.evid = false → cmtOf c r = 0) ∧
    (c.hasAdm = true → r.evid = 0 → cmtOf c r = c.central) := by
  -- without admid column the compartment is read off EVID through the table of `evidCmt`
  have hev : c.hasAdm = false → cmtOf c r = evidCmt c r.evid := fun ha => by
    rw [cmtOf, h, ha]
    rfl
  refine ⟨fun ha hd => ?_, fun ha h3 hd => ?_, fun ha e => ?_⟩
  · rw [hev ha]
    rcases Bool.or_eq_true_iff.mp hd with e | e
    all_goals
      rw [beq_iff_eq.mp e]
      rfl
  · rw [hev ha]
    obtain ⟨h1, h4⟩ := Bool.or_eq_false_iff.mp hd
    have : r.evid = 0 ∨ r.evid = 2 ∨ r.evid = 3 := by
      have := beq_eq_false_iff_ne.mp h1
      omega
    rcases this with e | e | e
    all_goals
      rw [e]
      rfl
  · rw [cmtOf, h, ha, e]
    rfl

/-- 208e5ef: an EVID 4 (reset and dose) record carries its own route and makes it the last used one
    (before the repair this dataset gave `[0, 0, 0]`) -/
theorem admid_evid4_fixed :
    getAdmid ⟨false, false, 1, 1, true, none, [(1, 1)]⟩ [⟨1, 0, 0, 0⟩, ⟨1, 4, 0, 0⟩, ⟨1, 0, 0, 0⟩] = [0, 1, 1] := by
  decide +kernel

/-- non-vacuity of `admid_eq_walk`: two individuals, the second starts with a pre-dose sample -/
example :
    let c : ACfg := ⟨false, false, 1, 1, true, none, [(1, 1)]⟩
    let ds : List ERec := [⟨1, 1, 0, 0⟩, ⟨1, 0, 0, 0⟩, ⟨2, 0, 0, 0⟩, ⟨2, 1, 0, 0⟩, ⟨2, 0, 0, 0⟩]
    GoodBlocks [(admRows c ds).take 2, (admRows c ds).drop 2] ∧ getAdmid c ds = [1, 1, 0, 1, 1] := by
  refine ⟨?_, by decide +kernel⟩
  simp [GoodBlocks, ConstId, admRows]

/-- a baseline is the FIRST RECORD of its individual — the record itself, whatever is missing in it -/
theorem baselines_first_record (ds : List CRec) (r : CRec) (h : r ∈ baselines ds) :
    (recordsOf r.id ds).head? = some r :=
  (firstsAux_first (fun x : CRec => x.id) [] ds r h).2

/-- every baseline is a record of the dataset, unchanged, and the baselines are in record order -/
theorem baselines_records_kept (ds : List CRec) : (baselines ds).Sublist ds :=
  firstsAux_sublist (fun x : CRec => x.id) [] ds

/-- exactly one baseline / id per individual -/
theorem ids_one_per_individual (ds : List CRec) :
    (getIds ds).Nodup ∧ ∀ r ∈ ds, r.id ∈ getIds ds :=
  ⟨firstsAux_nodup (fun x : CRec => x.id) [] ds,
    fun r hr => firstsAux_complete (fun x : CRec => x.id) [] ds r hr List.not_mem_nil⟩

/-- every individual has its first record as baseline -/
theorem baseline_of_every_individual (ds : List CRec) (r : CRec) (hr : r ∈ ds) :
    ∃ b ∈ baselines ds, b.id = r.id ∧ (recordsOf r.id ds).head? = some b := by
  have := (ids_one_per_individual ds).2 r hr
  simp only [getIds, List.mem_map] at this
  obtain ⟨b, hb, hid⟩ := this
  exact ⟨b, hb, hid, hid ▸ baselines_first_record ds b hb⟩

/-- locality: the baselines of two groups of individuals side by side are those of each group alone -/
theorem baselines_local (a b : List CRec) (h : ∀ x ∈ a, ∀ y ∈ b, x.id ≠ y.id) :
    baselines (a ++ b) = baselines a ++ baselines b :=
  firstsAux_local (fun x : CRec => x.id) [] a b h

/-- a column is reported time varying iff two records of one individual carry two different
    non-missing values (missing values are no values) -/
theorem time_varying_iff (j : Nat) (ds : List CRec) :
    timeVarying j ds = true ↔
      ∃ x ∈ ds, ∃ y ∈ ds, x.id = y.id ∧ ∃ a b, cell j x = some a ∧ cell j y = some b ∧ a ≠ b := by
  unfold timeVarying
  rw [List.any_eq_true]
  constructor
  · rintro ⟨i, _, hi⟩
    obtain ⟨a, b, ha, hb, hne⟩ := (nunique_gt_one _).mp (of_decide_eq_true hi)
    obtain ⟨x, hx, hxi, hxa⟩ := mem_map_recordsOf.mp ha
    obtain ⟨y, hy, hyi, hyb⟩ := mem_map_recordsOf.mp hb
    exact ⟨x, hx, y, hy, hxi.trans hyi.symm, a, b, hxa, hyb, hne⟩
  · rintro ⟨x, hx, y, hy, hid, a, b, hxa, hyb, hne⟩
    exact ⟨x.id, (ids_one_per_individual ds).2 x hx, decide_eq_true ((nunique_gt_one _).mpr
      ⟨a, b, mem_map_recordsOf.mpr ⟨x, hx, rfl, hxa⟩, mem_map_recordsOf.mpr ⟨y, hy, hid.symm, hyb⟩, hne⟩)⟩

/-- 7f08375: the per-individual observation counts count RECORDS (a missing DV included) and add up to
    the number of observation records -/
theorem nobs_count_total (obs : List (Int × Option Rat)) :
    ((nObsPerCount obs).map (·.2)).sum = obs.length := by
  rw [nObsPerCount, List.map_map]
  exact sum_length_filter (fun p : Int × Option Rat => p.1)
    ((List.mergeSort_perm _ _).nodup_iff.mpr (nodup_firsts_id _))
    fun x hx => List.mem_mergeSort.mpr (mem_firsts_id.mpr (List.mem_map_of_mem hx))

/-- 5109c1d: without covariate columns nothing is time varying (and the call is total) -/
theorem time_varying_no_covariates (ds : List CRec) : listTimeVarying [] ds = [] := rfl

/-- missing values in a first record stay missing: the baseline is not completed from later records -/
theorem baselines_missing_witness :
    baselines [⟨0, 3, [none, some 30]⟩, ⟨1, 3, [some 70, some 30]⟩, ⟨2, 1, [some 60, none]⟩, ⟨3, 3, [some 71, none]⟩]
      = [⟨0, 3, [none, some 30]⟩, ⟨2, 1, [some 60, none]⟩] := by
  decide +kernel

end Pharmpy.C14
