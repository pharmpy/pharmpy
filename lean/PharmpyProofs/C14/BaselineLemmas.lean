import PharmpyModel.C14.Baseline
/-
  C14 — `firstsAux` (the first element of every key: baselines, ids, distinct values), and the
  count of distinct values behind the time-varying test.
-/
namespace Pharmpy.C14

section firsts
variable {α κ : Type} [BEq κ] [LawfulBEq κ] (key : α → κ)

theorem firstsAux_cons (seen : List κ) (r : α) (rs : List α) :
    firstsAux key seen (r :: rs) =
      if key r ∈ seen then firstsAux key seen rs else r :: firstsAux key (key r :: seen) rs := by
  rw [firstsAux]
  simp only [List.contains_iff_mem]

theorem firstsAux_sublist (seen : List κ) (l : List α) : (firstsAux key seen l).Sublist l := by
  induction l generalizing seen with
  | nil => exact List.Sublist.slnil
  | cons r rs ih =>
    rw [firstsAux_cons]
    split
    · exact (ih seen).cons r
    · exact (ih _).cons_cons r

theorem firstsAux_congr (s1 s2 : List κ) (l : List α)
    (h : ∀ x ∈ l, s1.contains (key x) = s2.contains (key x)) :
    firstsAux key s1 l = firstsAux key s2 l := by
  induction l generalizing s1 s2 with
  | nil => rfl
  | cons r rs ih =>
    have hrs : ∀ x ∈ rs, s1.contains (key x) = s2.contains (key x) :=
      fun x hx => h x (List.mem_cons_of_mem _ hx)
    rw [firstsAux, firstsAux, h r List.mem_cons_self, ih s1 s2 hrs,
      ih (key r :: s1) (key r :: s2) fun x hx => by rw [List.contains_cons, List.contains_cons, hrs x hx]]

theorem firstsAux_local (seen : List κ) (a b : List α) (h : ∀ x ∈ a, ∀ y ∈ b, key x ≠ key y) :
    firstsAux key seen (a ++ b) = firstsAux key seen a ++ firstsAux key seen b := by
  induction a generalizing seen with
  | nil => rfl
  | cons r a ih =>
    have ha : ∀ x ∈ a, ∀ y ∈ b, key x ≠ key y := fun x hx => h x (List.mem_cons_of_mem _ hx)
    rw [List.cons_append, firstsAux_cons, firstsAux_cons]
    split
    · exact ih seen ha
    · -- the key of `r` does not occur in `b`
      rw [ih _ ha, firstsAux_congr key (key r :: seen) seen b fun y hy => by
        rw [List.contains_cons, beq_false_of_ne (Ne.symm (h r List.mem_cons_self y hy)), Bool.false_or]]
      rfl

theorem firstsAux_first (seen : List κ) (l : List α) (x : α) (hx : x ∈ firstsAux key seen l) :
    key x ∉ seen ∧ (l.filter (fun y => key y == key x)).head? = some x := by
  induction l generalizing seen with
  | nil => exact nomatch hx
  | cons r rs ih =>
    rw [firstsAux_cons] at hx
    rw [List.filter_cons]
    split at hx
    · rename_i h1
      obtain ⟨hs, hh⟩ := ih seen hx
      rw [if_neg fun e => hs ((eq_of_beq e : key r = key x) ▸ h1)]
      exact ⟨hs, hh⟩
    · rename_i h1
      rcases List.mem_cons.mp hx with rfl | hx
      · rw [if_pos (beq_self_eq_true _)]
        exact ⟨h1, rfl⟩
      · obtain ⟨hs, hh⟩ := ih _ hx
        rw [if_neg fun e => hs (List.mem_cons.mpr (Or.inl (eq_of_beq e).symm))]
        exact ⟨fun hm => hs (List.mem_cons_of_mem _ hm), hh⟩

theorem firstsAux_nodup (seen : List κ) (l : List α) : ((firstsAux key seen l).map key).Nodup := by
  induction l generalizing seen with
  | nil => exact List.nodup_nil
  | cons r rs ih =>
    rw [firstsAux_cons]
    split
    · exact ih seen
    · refine List.nodup_cons.mpr ⟨fun hm => ?_, ih _⟩
      obtain ⟨x, hx, e⟩ := List.mem_map.mp hm
      exact (firstsAux_first key _ rs x hx).1 (e ▸ List.mem_cons_self)

theorem firstsAux_complete (seen : List κ) (l : List α) (x : α) (hx : x ∈ l) (hs : key x ∉ seen) :
    key x ∈ (firstsAux key seen l).map key := by
  induction l generalizing seen with
  | nil => exact nomatch hx
  | cons r rs ih =>
    rw [firstsAux_cons]
    by_cases e : key x = key r
    · rw [if_neg (e ▸ hs), List.map_cons, e]
      exact List.mem_cons_self
    · have hx' : x ∈ rs := (List.mem_cons.mp hx).resolve_left fun h => e (h ▸ rfl)
      split
      · exact ih seen hx' hs
      · exact List.mem_cons_of_mem _ (ih _ hx' fun hm => (List.mem_cons.mp hm).elim e hs)

end firsts

theorem mem_firsts_id {α : Type} [BEq α] [LawfulBEq α] {l : List α} {a : α} :
    a ∈ firstsAux id [] l ↔ a ∈ l :=
  ⟨fun h => (firstsAux_sublist id [] l).subset h, fun h => by
    have := firstsAux_complete id [] l a h List.not_mem_nil
    rwa [List.map_id] at this⟩

theorem nodup_firsts_id {α : Type} [BEq α] [LawfulBEq α] (l : List α) : (firstsAux id [] l).Nodup := by
  have := firstsAux_nodup id [] l
  rwa [List.map_id] at this

theorem nodup_length_gt_one {α : Type} {l : List α} (h : l.Nodup) :
    l.length > 1 ↔ ∃ a ∈ l, ∃ b ∈ l, a ≠ b := by
  match l, h with
  | [], _ => exact ⟨fun h => (nomatch h), fun ⟨_, ha, _⟩ => (nomatch ha)⟩
  | [x], _ =>
    refine ⟨fun h => absurd h (Nat.lt_irrefl 1), fun ⟨a, ha, b, hb, hne⟩ => ?_⟩
    exact absurd ((List.mem_singleton.mp ha).trans (List.mem_singleton.mp hb).symm) hne
  | a :: b :: t, h =>
    refine ⟨fun _ => ⟨a, List.mem_cons_self, b, List.mem_cons_of_mem _ List.mem_cons_self, ?_⟩,
      fun _ => Nat.succ_lt_succ (Nat.succ_pos _)⟩
    exact fun e => (List.nodup_cons.mp h).1 (e ▸ List.mem_cons_self)

theorem nunique_gt_one (vals : List (Option Rat)) :
    nunique vals > 1 ↔ ∃ a b, some a ∈ vals ∧ some b ∈ vals ∧ a ≠ b := by
  have hm : ∀ a, a ∈ dedupR (vals.filterMap id) ↔ some a ∈ vals := fun a => by
    rw [dedupR, mem_firsts_id, List.mem_filterMap]
    exact ⟨fun ⟨x, hx, e⟩ => e ▸ hx, fun h => ⟨_, h, rfl⟩⟩
  rw [nunique, nodup_length_gt_one (l := dedupR _) (nodup_firsts_id _)]
  exact ⟨fun ⟨a, ha, b, hb, hne⟩ => ⟨a, b, (hm a).mp ha, (hm b).mp hb, hne⟩,
    fun ⟨a, b, ha, hb, hne⟩ => ⟨a, (hm a).mpr ha, b, (hm b).mpr hb, hne⟩⟩

theorem mem_map_recordsOf {j : Nat} {i : Int} {ds : List CRec} {v : Option Rat} :
    v ∈ (recordsOf i ds).map (cell j) ↔ ∃ x ∈ ds, x.id = i ∧ cell j x = v := by
  rw [List.mem_map]
  exact ⟨fun ⟨x, hx, e⟩ => ⟨x, (List.mem_filter.mp hx).1, beq_iff_eq.mp (List.mem_filter.mp hx).2, e⟩,
    fun ⟨x, hx, hi, e⟩ => ⟨x, List.mem_filter.mpr ⟨hx, beq_iff_eq.mpr hi⟩, e⟩⟩

end Pharmpy.C14
