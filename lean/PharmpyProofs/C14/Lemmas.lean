import PharmpyModel.C14.Model
/-
  C14 — what the derivations share: grouping by key (`groupby`), the row-wise map with context
  (`zipMap`), `dedup`, sums, the MDV cascade, the record literals of the witnesses.
-/
namespace Pharmpy.C14

section groupby
variable {α κ : Type} [BEq κ] [LawfulBEq κ]

/-- `g` is what is done to each group (a sort); it only has to permute it -/
theorem flatMap_filter_perm_filter (key : α → κ) {g : List α → List α} (hg : ∀ l, (g l).Perm l)
    (xs : List α) {ks : List κ} (hnd : ks.Nodup) :
    (ks.flatMap (fun k => g (xs.filter (fun x => key x == k)))).Perm
      (xs.filter (fun x => ks.contains (key x))) := by
  induction ks with
  | nil => simp
  | cons k ks ih =>
    obtain ⟨hk, hnd⟩ := List.nodup_cons.mp hnd
    -- the rows with a key in `k :: ks`, split into those with key `k` and the others
    have hsplit := List.filter_append_perm (fun x => key x == k)
      (xs.filter (fun x => (k :: ks).contains (key x)))
    have h1 : ∀ x, (key x == k && (k :: ks).contains (key x)) = (key x == k) := by
      intro x
      cases h : key x == k <;> simp [h]
    have h2 : ∀ x, (!(key x == k) && (k :: ks).contains (key x)) = ks.contains (key x) := by
      intro x
      by_cases h : key x = k
      · simpa [h] using hk
      · simp [h]
    simp only [List.filter_filter, h1, h2] at hsplit
    exact ((hg _).append (ih hnd)).trans hsplit

theorem flatMap_filter_perm (key : α → κ) {g : List α → List α} (hg : ∀ l, (g l).Perm l)
    {xs : List α} {ks : List κ} (hnd : ks.Nodup) (hall : ∀ x ∈ xs, key x ∈ ks) :
    (ks.flatMap (fun k => g (xs.filter (fun x => key x == k)))).Perm xs := by
  have h := flatMap_filter_perm_filter key hg xs hnd
  rwa [List.filter_eq_self.mpr (fun x hx => List.contains_iff_mem.mpr (hall x hx))] at h

theorem sum_length_filter (key : α → κ) {xs : List α} {ks : List κ} (hnd : ks.Nodup)
    (hall : ∀ x ∈ xs, key x ∈ ks) :
    (ks.map (fun k => (xs.filter (fun x => key x == k)).length)).sum = xs.length := by
  rw [← (flatMap_filter_perm key (g := id) (fun _ => .refl _) hnd hall).length_eq, List.length_flatMap]
  rfl

end groupby

theorem zipMapAux_append {α β : Type} (f : List α → α → List α → β) (pre a b : List α) :
    zipMapAux f pre (a ++ b) =
      zipMapAux (fun p r q => f p r (q ++ b)) pre a ++ zipMapAux f (pre ++ a) b := by
  induction a generalizing pre with
  | nil => simp only [zipMapAux, List.nil_append, List.append_nil]
  | cons r a ih => simp only [zipMapAux, List.cons_append, ih, List.append_assoc, List.nil_append]

theorem zipMapAux_eq_map {α β : Type} (g : α → β) (pre l : List α) :
    zipMapAux (fun _ r _ => g r) pre l = l.map g := by
  induction l generalizing pre with
  | nil => rfl
  | cons x l ih => simp only [zipMapAux, List.map_cons, ih]

section zipMap
variable {α β γ : Type}

theorem zipMapAux_length (f : List α → α → List α → β) (pre l : List α) :
    (zipMapAux f pre l).length = l.length := by
  induction l generalizing pre with
  | nil => rfl
  | cons r post ih => simp only [zipMapAux, List.length_cons, ih]

theorem zipMapAux_split {f : List α → α → List α → β} {pre l : List α}
    {A B : List β} {y : β} (h : zipMapAux f pre l = A ++ y :: B) :
    ∃ a r b, l = a ++ r :: b ∧ y = f (pre ++ a) r b ∧
      A = zipMapAux (fun p r' q => f p r' (q ++ r :: b)) pre a := by
  have hn : A.length < l.length := by
    have := congrArg List.length h
    rw [zipMapAux_length, List.length_append, List.length_cons] at this
    omega
  -- split `l` where `y` stands and read the two parts off `zipMapAux_append`
  have hl : l = l.take A.length ++ l[A.length] :: l.drop (A.length + 1) := by
    rw [List.getElem_cons_drop, List.take_append_drop]
  rw [hl, zipMapAux_append, zipMapAux] at h
  obtain ⟨h1, h2⟩ := List.append_inj h
    (by rw [zipMapAux_length, List.length_take_of_le (Nat.le_of_lt hn)])
  exact ⟨_, _, _, hl, (List.cons.inj h2).1.symm, h1.symm⟩

theorem mem_zipMapAux {f : List α → α → List α → β} {pre l : List α} {y : β}
    (h : y ∈ zipMapAux f pre l) : ∃ a r b, l = a ++ r :: b ∧ y = f (pre ++ a) r b := by
  obtain ⟨A, B, hAB⟩ := List.append_of_mem h
  obtain ⟨a, r, b, hl, hy, _⟩ := zipMapAux_split hAB
  exact ⟨a, r, b, hl, hy⟩

theorem mem_zipMap {f : List α → α → List α → β} {l : List α} {y : β}
    (h : y ∈ zipMap f l) : ∃ a r b, l = a ++ r :: b ∧ y = f a r b :=
  mem_zipMapAux (pre := []) h

theorem zipMapAux_congr {f g : List α → α → List α → β} {pre l : List α}
    (h : ∀ a r b, l = a ++ r :: b → f (pre ++ a) r b = g (pre ++ a) r b) :
    zipMapAux f pre l = zipMapAux g pre l := by
  induction l generalizing pre with
  | nil => rfl
  | cons x l ih =>
    have h0 := h [] x l rfl
    rw [List.append_nil] at h0
    rw [zipMapAux, zipMapAux, h0, ih]
    intro a r b hl
    have := h (x :: a) r b (by rw [hl]; rfl)
    rwa [List.append_assoc]

theorem zipMapAux_map_fst (h : List α → α → List α → β) (pre l : List α) :
    (zipMapAux (fun p r q => (r, h p r q)) pre l).map Prod.fst = l := by
  induction l generalizing pre with
  | nil => rfl
  | cons x l ih => rw [zipMapAux, List.map_cons, ih]

theorem zipMapAux_zip (f : List α → α → List α → β) (g : List α → α → List α → γ)
    (pre l : List α) :
    (zipMapAux f pre l).zip (zipMapAux g pre l) = zipMapAux (fun p r q => (f p r q, g p r q)) pre l := by
  induction l generalizing pre with
  | nil => rfl
  | cons x l ih => simp only [zipMapAux, List.zip_cons_cons, ih]

theorem zip_zipMapAux (f : List α → α → List α → β) (pre l : List α) :
    l.zip (zipMapAux f pre l) = zipMapAux (fun p r q => (r, f p r q)) pre l := by
  have h := zipMapAux_zip (fun _ r _ => r) f pre l
  rwa [zipMapAux_eq_map, List.map_id'] at h

theorem zip_zipMap (f : List α → α → List α → β) (l : List α) :
    l.zip (zipMap f l) = zipMap (fun p r q => (r, f p r q)) l := zip_zipMapAux f [] l

end zipMap

theorem mem_dedup {α : Type} [DecidableEq α] {a : α} {l : List α} : a ∈ dedup l ↔ a ∈ l := by
  induction l with
  | nil => exact Iff.rfl
  | cons x l ih =>
    rw [dedup, List.mem_cons]
    split
    · rename_i hx
      exact ih.trans ⟨Or.inr, fun h => h.elim (fun e => e ▸ hx) id⟩
    · rw [List.mem_cons, ih]

theorem nodup_dedup {α : Type} [DecidableEq α] (l : List α) : (dedup l).Nodup := by
  induction l with
  | nil => exact List.nodup_nil
  | cons x l ih =>
    rw [dedup]
    split
    · exact ih
    · rename_i hx
      exact List.nodup_cons.mpr ⟨fun h => hx (mem_dedup.mp h), ih⟩

/-- pandas `groupby(key)`, each group rearranged by `g` -/
theorem groupby_perm {α κ : Type} [DecidableEq κ] [BEq κ] [LawfulBEq κ] (key : α → κ) (le : κ → κ → Bool)
    {g : List α → List α} (hg : ∀ l, (g l).Perm l) (xs : List α) :
    (((dedup (xs.map key)).mergeSort le).flatMap fun k => g (xs.filter fun x => key x == k)).Perm xs :=
  flatMap_filter_perm key hg ((List.mergeSort_perm _ _).nodup_iff.mpr (nodup_dedup _))
    fun _ hx => List.mem_mergeSort.mpr (mem_dedup.mpr (List.mem_map_of_mem hx))

/-! `intSum`, `ratSum` are `List.sum` written as a fold. -/

theorem ratSum_cons (x : Rat) (a : List Rat) : ratSum (x :: a) = x + ratSum a := rfl

theorem ratSum_append (a b : List Rat) : ratSum (a ++ b) = ratSum a + ratSum b :=
  List.sum_append

theorem ratSum_perm {a b : List Rat} (h : a.Perm b) : ratSum a = ratSum b :=
  h.foldr_eq' (fun x _ y _ z => Rat.add_left_comm y x z) 0

theorem intSum_cons (x : Int) (a : List Int) : intSum (x :: a) = x + intSum a := rfl

theorem intSum_append (a b : List Int) : intSum (a ++ b) = intSum a + intSum b :=
  List.sum_append_int

theorem mdvOf_eq_ite (cfg : Cfg) (r : Rec) : mdvOf cfg r = if isObs cfg r then 0 else 1 := by
  obtain ⟨hd, he, hs, hm, ha⟩ := cfg
  cases hm
  · cases he
    · cases hd
      · rfl
      · rfl
    · rfl
  · rfl

theorem mdvOf_zero_or_one (cfg : Cfg) (r : Rec) : mdvOf cfg r = 0 ∨ mdvOf cfg r = 1 := by
  rw [mdvOf_eq_ite]
  split
  · exact Or.inl rfl
  · exact Or.inr rfl

theorem isObs_eq (cfg : Cfg) (r : Rec) : isObs cfg r = (mdvOf cfg r == 0) := by
  rw [mdvOf_eq_ite]
  cases isObs cfg r <;> rfl

/-- record literal for witnesses: label, id, time, amount, EVID (other columns zero) -/
def mkRec (lab : Nat) (id : Int) (time amt : Rat) (evid : Nat := 0) : Rec :=
  { lab := lab, id := id, time := time, amt := amt, evid := evid, ss := 0, addl := 0, ii := 0,
    mdv := 0, expanded := false }
def cfgDose : Cfg := ⟨true, false, false, false, false⟩
def cfgEvid : Cfg := ⟨true, true, false, false, false⟩

end Pharmpy.C14
