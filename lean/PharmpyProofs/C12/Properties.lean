import PharmpyProofs.C12.ModelLemmas
import PharmpyProofs.C12.CanonLemmas
/-
  C12 — serialisation round trips and the `ModelHash` pre-image, for the model in `PharmpyModel/C12`.
  `c : Codec E M` is the expression/matrix printer-parser pair (`sympy.srepr` / `parse_expr`), `c.Lawful`
  its round-trip law (monitored on the real sympy for every generated expression).
-/
namespace Pharmpy.C12

section
variable {E M : Type} [DecidableEq E] {c : Codec E M}

omit [DecidableEq E] in
theorem from_to_dict_dose (h : c.Lawful) (d : Dose E) : Dose.fromDict c (d.toDict c) = some d :=
  Dose.from_to h d

omit [DecidableEq E] in
theorem from_to_dict_compartment (h : c.Lawful) (k : Compartment E) :
    Compartment.fromDict c (k.toDict c) = some k :=
  Compartment.from_to h k

/-- `CompartmentalSystem`: any number of compartments and flows, any insertion order. -/
theorem from_to_dict_compartmental_system (h : c.Lawful) (s : CompSys E) (hwf : s.g.WF) :
    CompSys.fromDict c (s.toDict c) = some s :=
  CompSys.from_to h s hwf

theorem from_to_dict_statements (h : c.Lawful) (ss : List (Stmt E)) (hg : ∀ s ∈ ss, s.Good) :
    Statements.fromDict c (Statements.toDict c ss) = some ss :=
  Statements.from_to h ss hg

theorem from_to_dict_parameters (ps : List Parameter) :
    Parameters.fromDict (Parameters.toDict ps) = some ps :=
  Parameters.from_to ps

omit [DecidableEq E] in
theorem from_to_dict_random_variables (h : c.Lawful) (r : RandomVariables E M) :
    RandomVariables.fromDict c (r.toDict c) = some r :=
  RandomVariables.from_to h r

/-- `ExecutionSteps` (true since /repo 118f2d1: derivatives are written as names and rebuilt as symbols) -/
theorem from_to_dict_steps (ss : List (Step E)) :
    Steps.fromDict (E := E) (Steps.toDict ss) = some ss :=
  Steps.from_to ss

/-- `DataInfo`: everything but the path, which `to_dict` deliberately does not write. -/
theorem from_to_dict_datainfo (di : DataInfo) :
    DataInfo.fromDict di.toDict = some { di with path := none } :=
  DataInfo.from_to di

/-- `initial_individual_estimates`: `pd.DataFrame(**split)` of `df.to_dict(orient='split')` gives the
    frame back.  Since /repo 31739c1 the dict has string keys only, so this is also the round trip
    through the JSON text. -/
theorem from_to_dict_individual_estimates (ie : IE) (hwf : ie.WF) : IE.fromDict ie.toDict = some ie :=
  IE.from_to ie hwf

/-- string keys only (before 31739c1 the integer index labels were keys, which JSON turns into strings) -/
theorem individual_estimates_keys (ie : IE) : ie.toDict.keys = ["index", "columns", "data"] := rfl

/-- `Model`: the content comes back; name, description and dataset path are reset. -/
theorem from_to_dict (h : c.Lawful) (m : Model E M) (hg : m.Good) :
    Model.fromDict c (m.toDict c) = some m.blank :=
  Model.from_to h m hg

/-- re-serialising a reloaded model gives the same dict (hence the same hash) -/
theorem to_dict_stable (h : c.Lawful) (m : Model E M) (hg : m.Good) :
    (Model.fromDict c (m.toDict c)).map (Model.toDict c) = some (m.toDict c) := by
  rw [Model.from_to h m hg]
  simp [Model.toDict_blank]

variable {R : Type}

/-- name, description and dataset path occur neither in the pre-image nor in `to_dict` -/
theorem encode_ignores_metadata (rd : R → Nat) (dumps : Json → String) (ds : Dataset R) (m : Model E M)
    (name description : String) (path : Option String) :
    encode c rd dumps ds { m with name := name, description := description,
                                  datainfo := { m.datainfo with path := path } }
      = encode c rd dumps ds m := by
  simp [encode, Model.blank]

theorem to_dict_ignores_metadata (m : Model E M) (name description : String) (path : Option String) :
    Model.toDict c { m with name := name, description := description,
                            datainfo := { m.datainfo with path := path } } = m.toDict c := by
  simp [Model.toDict, DataInfo.toDict]

/-- the pre-image determines the dataset and the model content -/
theorem encode_injective (h : c.Lawful) (rd : R → Nat) (dumps : Json → String)
    (hrd : ∀ a b, rd a = rd b → a = b) (hdumps : ∀ a b, dumps a = dumps b → a = b)
    (ds ds' : Dataset R) (m m' : Model E M) (hg : m.Good) (hg' : m'.Good)
    (heq : encode c rd dumps ds m = encode c rd dumps ds' m') :
    ds = ds' ∧ m.blank = m'.blank := by
  obtain ⟨rows, cols, idx, dts⟩ := ds
  obtain ⟨rows', cols', idx', dts'⟩ := ds'
  simp only [encode, datasetChunks, List.append_assoc, List.cons_append, List.nil_append] at heq
  obtain ⟨h1, rfl, h3⟩ := rows_append_inj rd _ _ _ _ _ _ heq
  cases (List.map_inj_right hrd).1 h1
  simp only [List.cons.injEq, Chunk.text.injEq, and_true] at h3
  obtain ⟨rfl, rfl, hd⟩ := h3
  -- both blanked models are what `from_dict` makes of one and the same dict (`Good` does not look at
  -- the blanked fields, and blanking twice is blanking once)
  have e := Model.from_to h m.blank hg
  rw [hdumps _ _ hd, Model.from_to h m'.blank hg', Model.blank_blank, Model.blank_blank] at e
  exact ⟨rfl, (Option.some.inj e).symm⟩

/-- The numeric leaf encoder as an explicit hypothesis: `json.dumps` is a structural printer `dumpsS`
    after `mapFlt num`, `num` the text written for a float (`float.__repr__` is injective: it
    round-trips; checked leaf by leaf on every generated model). -/
theorem encode_injective_leaf (h : c.Lawful) (rd : R → Nat) (num : Flt → String) (dumpsS : Json → String)
    (hrd : ∀ a b, rd a = rd b → a = b) (hnum : ∀ a b, num a = num b → a = b)
    (hS : ∀ a b, dumpsS a = dumpsS b → a = b)
    (ds ds' : Dataset R) (m m' : Model E M) (hg : m.Good) (hg' : m'.Good)
    (heq : encode c rd (fun j => dumpsS (j.mapFlt num)) ds m = encode c rd (fun j => dumpsS (j.mapFlt num)) ds' m') :
    ds = ds' ∧ m.blank = m'.blank :=
  encode_injective h rd _ hrd (fun a b hab => Json.mapFlt_inj num hnum a b (hS _ _ hab)) ds ds' m m' hg hg' heq

/-- The hypothesis is necessary: if `num` sends two floats to one text (rounding, say), two models that
    differ in one individual estimate have the same pre-image. -/
theorem encode_lossy_leaf_collision (rd : R → Nat) (num : Flt → String) (dumpsS : Json → String)
    (a b : Flt) (hab : a ≠ b) (hnum : num a = num b) (ds : Dataset R) (m : Model E M) :
    let ma := { m with initialIndividualEstimates := some { index := [.int 1], columns := ["ETA_1"], data := [[.flt a]] } }
    let mb := { m with initialIndividualEstimates := some { index := [.int 1], columns := ["ETA_1"], data := [[.flt b]] } }
    ma.blank ≠ mb.blank ∧
    encode c rd (fun j => dumpsS (j.mapFlt num)) ds ma = encode c rd (fun j => dumpsS (j.mapFlt num)) ds mb := by
  constructor
  · intro h
    have := congrArg (fun x => x.initialIndividualEstimates.map (fun ie => ie.data.map (fun r => r.map Json.floats))) h
    simp [Model.blank, Json.floats] at this
    exact hab this
  · simp [encode, Model.blank, Model.toDict, ieOptToDict, IE.toDict, Json.mapFlt, Json.mapFltObj, Json.mapFltList, hnum]

/-- the key is a function of content and data only -/
theorem encode_congr (rd : R → Nat) (dumps : Json → String) (ds : Dataset R) (m m' : Model E M)
    (hm : m.blank = m'.blank) : encode c rd dumps ds m = encode c rd dumps ds m' := by
  simp [encode, hm]

end

theorem witness_systems_wf : wSys1.g.WF ∧ wSys2.g.WF := by
  constructor <;> decide

/-- Finding F4: the unrestricted statement (content-equal models have equal pre-images) is false:
    CENTRAL-then-PERIPHERAL and PERIPHERAL-then-CENTRAL are `==` but their `to_dict` differ. -/
theorem encode_not_canonical_witness :
    wSys1.eqv wSys2 = true ∧ wSys1.toDict strCodec ≠ wSys2.toDict strCodec := by
  constructor
  · decide
  · intro h
    have h' := congrArg (fun j => (j.get? "compartments").bind
      (fun a => a.asArr?.map (fun l => l.map (fun k => (k.get? "name").bind Json.asStr?)))) h
    revert h'
    decide

/-- Before 118f2d1 `to_dict` wrote `str(tuple)` and `from_dict` passed the value through: what came
    back as `derivatives` was not what was stored. -/
theorem from_to_dict_steps_pre_repair_witness :
    derivsToJsonPre pyTupleStr wStep.derivatives ≠ derivsToJson wStep.derivatives := by
  simp [derivsToJsonPre, derivsToJson, wStep]

section
variable {E M : Type} [DecidableEq E] {c : Codec E M}

/-- The intended repair: emitted in canonical order (`CompSys.canon`) two `==` systems serialise
    identically, whatever the insertion orders of nodes and edges were. -/
theorem encode_repaired_canonical (s1 s2 : CompSys E) (h1 : s1.g.NamesDistinct) (h2 : s2.g.NamesDistinct)
    (h : s1.eqv s2 = true) : s1.canon.toDict c = s2.canon.toDict c := by
  simp only [CompSys.eqv, Bool.and_eq_true, decide_eq_true_eq] at h
  have hg := canon_eq_of_eqv s1.g s2.g h1 h2 h.2
  simp [CompSys.canon, CompSys.toDict, hg, h.1]

/-- The code as it is: `==` systems serialise identically when both already are in canonical order. -/
theorem encode_canonical_partial (s1 s2 : CompSys E) (h1 : s1.g.NamesDistinct) (h2 : s2.g.NamesDistinct)
    (hc1 : s1.canon = s1) (hc2 : s2.canon = s2) (h : s1.eqv s2 = true) : s1.toDict c = s2.toDict c := by
  have := encode_repaired_canonical (c := c) s1 s2 h1 h2 h
  rwa [hc1, hc2] at this

/-- The repaired key is a function of content: two `==` models (`Model.SameContent`) on one dataset have
    the same repaired pre-image, whatever the construction order of their compartmental systems was. -/
theorem encode_repaired_canonical_model {R : Type} (rd : R → Nat) (dumps : Json → String) (ds : Dataset R)
    (m m' : Model E M) (h : m.SameContent m') :
    encodeRepaired c rd dumps ds m = encodeRepaired c rd dumps ds m' := by
  obtain ⟨hs, hrest⟩ := h
  have hmap : m.statements.map Stmt.canon = m'.statements.map Stmt.canon :=
    stmts_canon_eq _ _ hs
  have : m.canonical.blank = m'.canonical.blank := by
    simp only [Model.canonical, Model.blank, Model.mk.injEq] at hrest ⊢
    simp [hmap, hrest]
  simp [encodeRepaired, encode, this]

end

/-- the repair removes the F4 witness -/
theorem encode_repaired_canonical_on_witness : wSys1.canon.toDict strCodec = wSys2.canon.toDict strCodec :=
  encode_repaired_canonical wSys1 wSys2 (by decide) (by decide) encode_not_canonical_witness.1

/-- `EstimationStep._canonicalize_derivatives` does not depend on the order of the arguments inside
    each derivative: `σ` rearranges every derivative arbitrarily. -/
theorem canonicalize_derivatives_inner_invariant (σ : List String → List String) (hσ : ∀ d, (σ d).Perm d)
    (ds : List (List String)) : canonDerivs (ds.map σ) = canonDerivs ds := by
  have hany : (ds.map σ).any List.isEmpty = ds.any List.isEmpty := by
    simp only [List.any_map, Function.comp_def, (hσ _).isEmpty_eq]
  rw [canonDerivs, canonDerivs, map_sortNames_map σ hσ, hany]

/-- Nor on the order of the list of derivatives, provided no two derivatives share their first (sorted)
    argument: the code sorts on `str(der[0])` only. -/
theorem canonicalize_derivatives_outer_invariant_partial (ds ds' : List (List String)) (hp : ds.Perm ds')
    (hnd : ((ds.map sortNames).map List.head?).Nodup) : canonDerivs ds = canonDerivs ds' := by
  rw [canonDerivs, canonDerivs, hp.any_eq,
    isort_eq_of_perm headLe (keyLe_trans _) (keyLe_total _) _ _ (hp.map sortNames)
      (keyLe_antisymm_on List.head? _ hnd)]

/-- Without the side condition it is false: d/dEPS_1 and d²/(dEPS_1 dETA_1), what the default
    `add_derivative(model)` requests, stay in the order in which they were given. -/
theorem canonicalize_derivatives_outer_false_witness :
    [["EPS_1"], ["EPS_1", "ETA_1"]].Perm [["EPS_1", "ETA_1"], ["EPS_1"]] ∧
    canonDerivs [["EPS_1"], ["EPS_1", "ETA_1"]] ≠ canonDerivs [["EPS_1", "ETA_1"], ["EPS_1"]] := by
  constructor
  · exact List.Perm.swap _ _ _
  · decide

theorem canonicalize_derivatives_idempotent (ds r : List (List String)) (h : canonDerivs ds = some r) :
    canonDerivs r = some r := by
  unfold canonDerivs at h
  split at h
  · cases h
  · rename_i hne
    cases h
    have hany : (isort headLe (ds.map sortNames)).any List.isEmpty = ds.any List.isEmpty := by
      simp only [(perm_isort headLe _).any_eq, List.any_map, Function.comp_def, sortNames_isEmpty]
    rw [canonDerivs, hany, if_neg hne, map_sortNames_isort,
      isort_idem headLe (keyLe_trans _) (keyLe_total _)]

/-- the repair (outer sort on the whole sorted name tuple) is invariant under permuting the list and
    every inner tuple -/
theorem canonicalize_derivatives_repaired_invariant (σ : List String → List String) (hσ : ∀ d, (σ d).Perm d)
    (ds ds' : List (List String)) (hp : ds.Perm ds') :
    canonDerivsRepaired (ds.map σ) = canonDerivsRepaired ds' := by
  rw [canonDerivsRepaired, canonDerivsRepaired, map_sortNames_map σ hσ]
  exact isort_eq_of_perm lexLe decLe_trans decLe_total _ _ (hp.map sortNames) fun a _ b _ => decLe_antisymm a b

theorem canonicalize_derivatives_repaired_idempotent (ds : List (List String)) :
    canonDerivsRepaired (canonDerivsRepaired ds) = canonDerivsRepaired ds := by
  show isort lexLe ((isort lexLe (ds.map sortNames)).map sortNames) = isort lexLe (ds.map sortNames)
  rw [map_sortNames_isort, isort_idem lexLe decLe_trans decLe_total]

-- the hypotheses above can be met on non-trivial inputs
example : canonDerivs [["ETA_2"], ["ETA_1", "EPS_1"]] = canonDerivs [["EPS_1", "ETA_1"], ["ETA_2"]] := by decide

example : strCodec.Lawful := ⟨fun _ => rfl, fun _ => rfl⟩

example : CompSys.fromDict strCodec (wSys2.toDict strCodec) = some wSys2 :=
  from_to_dict_compartmental_system ⟨fun _ => rfl, fun _ => rfl⟩ wSys2 witness_systems_wf.2

example : (Stmt.ode wSys1).Good := witness_systems_wf.1

example : Steps.fromDict (E := String) (Steps.toDict [.est wStep]) = some [.est wStep] :=
  from_to_dict_steps [.est wStep]

end Pharmpy.C12
