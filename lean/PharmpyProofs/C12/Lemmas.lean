import PharmpyModel.C12.Spec
/-
  C12 — `from_dict ∘ to_dict` of every component that holds no graph.  Each `toDict` builds a literal
  `.obj [(k₁, v₁), …]` and each `fromDict` reads it key by key: the `simp` lemmas at the top walk one
  entry down such a literal, and what is left of a round trip is deciding that two key strings differ.
-/
namespace Pharmpy.C12

theorem allSome_map {α β : Type} (f : α → β) (g : β → Option α) (xs : List α)
    (h : ∀ a ∈ xs, g (f a) = some a) : allSome g (xs.map f) = some xs := by
  induction xs with
  | nil => rfl
  | cons a as ih =>
    simp only [List.map_cons, allSome, h a List.mem_cons_self, ih fun b hb => h b (List.mem_cons_of_mem a hb)]

-- stated with `if k = k'` rather than `==`, so that `simp` settles the key comparisons of a dict literal by deciding `=` on string literals
@[simp] theorem Json.get?_cons (k k' : String) (v : Json) (r : List (String × Json)) :
    (Json.obj ((k', v) :: r)).get? k = if k = k' then some v else (Json.obj r).get? k := by
  by_cases h : k = k'
  · simp [Json.get?, List.lookup, h]
  · simp [Json.get?, List.lookup, h, beq_eq_false_iff_ne.2 h]

@[simp] theorem kw_cons (k k' : String) (v dflt : Json) (r : List (String × Json)) :
    kw (.obj ((k', v) :: r)) k dflt = if k = k' then v else kw (.obj r) k dflt := by
  by_cases h : k = k' <;> simp [kw, h]

@[simp] theorem Json.asStr?_str (s : String) : (Json.str s).asStr? = some s := rfl
@[simp] theorem Json.asInt?_int (n : Int) : (Json.int n).asInt? = some n := rfl
@[simp] theorem Json.asBool?_bool (b : Bool) : (Json.bool b).asBool? = some b := rfl
@[simp] theorem Json.asArr?_arr (xs : List Json) : (Json.arr xs).asArr? = some xs := rfl
@[simp] theorem Json.asObj?_obj (kvs : List (String × Json)) : (Json.obj kvs).asObj? = some kvs := rfl
@[simp] theorem Json.keys_obj (kvs : List (String × Json)) : (Json.obj kvs).keys = kvs.map Prod.fst := rfl
@[simp] theorem allSome_asStr? (xs : List String) : allSome Json.asStr? (xs.map .str) = some xs :=
  allSome_map _ _ xs fun _ _ => rfl
@[simp] theorem allSome_asArr? (xs : List (List Json)) : allSome Json.asArr? (xs.map .arr) = some xs :=
  allSome_map _ _ xs fun _ _ => rfl

@[simp] theorem onlyKeys_of_keys {d : Json} {allowed : List String} (h : d.keys = allowed) :
    onlyKeys d allowed = true := by
  simp [onlyKeys, h]

attribute [simp] deStr getStr getInt getArr

section
variable {E M : Type} {c : Codec E M}

theorem deOptStr_of_get? (h : c.Lawful) {d : Json} {k : String} {o : Option E}
    (hk : d.get? k = some (serOpt c o)) : deOptStr c d k = some o := by
  cases o <;> simp [deOptStr, hk, serOpt, h.rt]

theorem deOptStr_serOpt (h : c.Lawful) (k : String) (o : Option E) (kvs : List (String × Json))
    (hk : kvs.lookup k = some (serOpt c o)) : deOptStr c (.obj kvs) k = some o :=
  deOptStr_of_get? h hk

theorem Bolus.from_to (h : c.Lawful) (b : Bolus E) : Bolus.fromDict c (b.toDict c) = some b := by
  simp [Bolus.fromDict, Bolus.toDict, h.rt]

theorem serOpt_eq_null (o : Option E) : serOpt c o = .null ↔ o = none := by
  cases o <;> simp [serOpt]

theorem Infusion.toDict_rate (i : Infusion E) : (i.toDict c).get? "rate" = some (serOpt c i.rate) := by
  simp [Infusion.toDict]

theorem Infusion.toDict_duration (i : Infusion E) : (i.toDict c).get? "duration" = some (serOpt c i.duration) := by
  simp [Infusion.toDict]

theorem Infusion.from_to (h : c.Lawful) (i : Infusion E) : Infusion.fromDict c (i.toDict c) = some i := by
  rw [Infusion.fromDict, deOptStr_of_get? h i.toDict_rate, deOptStr_of_get? h i.toDict_duration]
  simp [Infusion.toDict, h.rt]

theorem Infusion.fromDict_some {d : Json} {i : Infusion E} (h : Infusion.fromDict c d = some i) :
    deOptStr c d "rate" = some i.rate ∧ deOptStr c d "duration" = some i.duration := by
  simp only [Infusion.fromDict, Option.bind_eq_bind, Option.bind_eq_some_iff, Option.some.injEq] at h
  obtain ⟨_, _, _, _, r, hr, d, hd, rfl⟩ := h
  exact ⟨hr, hd⟩

-- for a tagged union, first let the component lemma act on the folded dict, then read the tag off the unfolded one
theorem Dose.from_to (h : c.Lawful) (d : Dose E) : Dose.fromDict c (d.toDict c) = some d := by
  cases d with
  | bolus b =>
    simp [Dose.fromDict, Dose.toDict, Bolus.from_to h]
    simp [Bolus.toDict]
  | infusion i =>
    simp [Dose.fromDict, Dose.toDict, Infusion.from_to h]
    simp [Infusion.toDict]

theorem Compartment.from_to (h : c.Lawful) (k : Compartment E) :
    Compartment.fromDict c (k.toDict c) = some k := by
  -- `doses` is written as `null` when empty
  rcases k with ⟨_, _, _ | _, _, _, _⟩ <;>
    simp [-List.map_cons, Compartment.fromDict, Compartment.toDict, h.rt, allSome_map, Dose.from_to h]

@[simp] theorem Parameter.from_to (p : Parameter) : Parameter.fromDict p.toDict = some p := by
  simp [Parameter.fromDict, Parameter.toDict]

theorem Parameters.from_to (ps : List Parameter) : Parameters.fromDict (Parameters.toDict ps) = some ps := by
  simp [Parameters.fromDict, Parameters.toDict, allSome_map]

@[simp] theorem VarLevel.from_to (l : VarLevel) : VarLevel.fromDict l.toDict = some l := by
  rcases l with ⟨_, _, _ | _⟩ <;> simp [VarLevel.fromDict, VarLevel.toDict, optStr]

@[simp] theorem Hierarchy.from_to (ls : List VarLevel) : Hierarchy.fromDict (Hierarchy.toDict ls) = some ls := by
  simp [Hierarchy.fromDict, Hierarchy.toDict, allSome_map]

theorem Dist.from_to (h : c.Lawful) (d : Dist E M) : Dist.fromDict c (d.toDict c) = some d := by
  cases d <;> simp [Dist.fromDict, Dist.toDict, h.rt, h.rtM]

theorem RandomVariables.from_to (h : c.Lawful) (r : RandomVariables E M) :
    RandomVariables.fromDict c (r.toDict c) = some r := by
  simp [RandomVariables.fromDict, RandomVariables.toDict, allSome_map, Dist.from_to h]

@[simp] theorem SimStep.from_to (s : SimStep) : SimStep.fromDict s.toDict = some s := by
  simp [SimStep.fromDict, SimStep.toDict]

@[simp] theorem derivs_from_to (ds : List (List String)) : derivsOfJson (derivsToJson ds) = some ds :=
  allSome_map _ derivOfJson ds fun d _ => allSome_asStr? d

@[simp] theorem EstStep.from_to (s : EstStep E) : EstStep.fromDict s.toDict = some s := by
  simp [EstStep.fromDict, EstStep.toDict, estKeys]

theorem Step.from_to (s : Step E) : Step.fromDict s.toDict = some s := by
  cases s with
  | est e =>
    simp [Step.fromDict, Step.toDict]
    simp [EstStep.toDict]
  | sim e =>
    simp [Step.fromDict, Step.toDict]
    simp [SimStep.toDict]

theorem Steps.from_to (ss : List (Step E)) : Steps.fromDict (E := E) (Steps.toDict ss) = some ss := by
  simp [Steps.fromDict, Steps.toDict, allSome_map, Step.from_to]

@[simp] theorem ColumnInfo.from_to (k : ColumnInfo) : ColumnInfo.fromDict k.toDict = some k := by
  simp [ColumnInfo.fromDict, ColumnInfo.toDict]

theorem DataInfo.from_to (di : DataInfo) : DataInfo.fromDict di.toDict = some { di with path := none } := by
  simp [DataInfo.fromDict, DataInfo.toDict, allSome_map]

theorem IE.from_to (ie : IE) (hwf : ie.WF) : IE.fromDict ie.toDict = some ie := by
  simpa [IE.fromDict, IE.toDict, IE.WF] using hwf

theorem ieOpt_from_to (o : Option IE) (hwf : ∀ ie, o = some ie → ie.WF) :
    ieOptFromDict (ieOptToDict o) = some o :=
  match o with
  | none => rfl
  | some ie => congrArg (Option.map some) (IE.from_to ie (hwf ie rfl))

end

-- `mapFlt` keeps the constructor: images of different constructors differ (`cases h`), and on equal
-- ones the claim is injectivity of the constructor, with `hnum` at a float and recursion below `arr`/`obj`
mutual
theorem Json.mapFlt_inj (num : Flt → String) (hnum : ∀ a b, num a = num b → a = b) :
    ∀ (a b : Json), a.mapFlt num = b.mapFlt num → a = b
  | .null, b => by cases b <;> intro h <;> cases h <;> rfl
  | .bool x, b => by cases b <;> intro h <;> cases h <;> rfl
  | .int x, b => by cases b <;> intro h <;> cases h <;> rfl
  | .flt x, b => by
    cases b with
    | flt y => exact fun h => congrArg _ (hnum _ _ (Json.flt.inj h))
    | _ => intro h; cases h
  | .str x, b => by cases b <;> intro h <;> cases h <;> rfl
  | .arr xs, b => by
    cases b with
    | arr ys => exact fun h => congrArg _ (Json.mapFltList_inj num hnum xs ys (Json.arr.inj h))
    | _ => intro h; cases h
  | .obj kvs, b => by
    cases b with
    | obj kvs' => exact fun h => congrArg _ (Json.mapFltObj_inj num hnum kvs kvs' (Json.obj.inj h))
    | _ => intro h; cases h
theorem Json.mapFltList_inj (num : Flt → String) (hnum : ∀ a b, num a = num b → a = b) :
    ∀ (a b : List Json), Json.mapFltList num a = Json.mapFltList num b → a = b
  | [], [] => fun _ => rfl
  | [], _ :: _ => fun h => nomatch h
  | _ :: _, [] => fun h => nomatch h
  | x :: xs, y :: ys => fun h =>
    have ⟨h1, h2⟩ := List.cons.inj h
    congr (congrArg _ (Json.mapFlt_inj num hnum x y h1)) (Json.mapFltList_inj num hnum xs ys h2)
theorem Json.mapFltObj_inj (num : Flt → String) (hnum : ∀ a b, num a = num b → a = b) :
    ∀ (a b : List (String × Json)), Json.mapFltObj num a = Json.mapFltObj num b → a = b
  | [], [] => fun _ => rfl
  | [], (_, _) :: _ => fun h => nomatch h
  | (_, _) :: _, [] => fun h => nomatch h
  | (k, v) :: r, (k', v') :: r' => fun h => by
    have ⟨h1, h2⟩ := List.cons.inj h
    have ⟨h3, h4⟩ := Prod.mk.inj h1
    rw [h3, Json.mapFlt_inj num hnum v v' h4, Json.mapFltObj_inj num hnum r r' h2]
end

end Pharmpy.C12
