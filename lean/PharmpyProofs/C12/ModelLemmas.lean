import PharmpyProofs.C12.Lemmas
/-
  C12 — `CompartmentalSystem.from_dict ∘ to_dict`: re-adding the nodes and then the edges, in the order
  `to_dict` lists them, rebuilds the ordered dict of dicts.  The graph under construction is cut as
  `pre ++ (u, done) :: rest`: `pre` is rebuilt, `done` is what `adj[u]` has so far.  Adding edges never
  changes the node list, so the side conditions speak of it alone.  Then statements and the model.
-/
namespace Pharmpy.C12
section
variable {E M : Type} [DecidableEq E] {c : Codec E M}

abbrev Adj (E : Type) := List (Node E × E)

def keysOf (g : Graph E) : List (Node E) := g.map Prod.fst

theorem Graph.hasNode_iff (g : Graph E) (n : Node E) : g.hasNode n = true ↔ n ∈ g.map Prod.fst := by
  simp [Graph.hasNode]

theorem Graph.addNode_of_mem (g : Graph E) (n : Node E) (h : n ∈ g.map Prod.fst) : g.addNode n = g :=
  if_pos ((Graph.hasNode_iff g n).2 h)

theorem Graph.addNode_of_not_mem (g : Graph E) (n : Node E) (h : n ∉ g.map Prod.fst) :
    g.addNode n = g ++ [(n, [])] :=
  if_neg fun hh => h ((Graph.hasNode_iff g n).1 hh)

theorem adjSet_of_not_mem (ss : Adj E) (v : Node E) (r : E) (h : v ∉ ss.map Prod.fst) :
    adjSet ss v r = ss ++ [(v, r)] := by
  induction ss with
  | nil => rfl
  | cons p ps ih =>
    rw [List.map_cons, List.mem_cons, not_or] at h
    rw [adjSet, if_neg (Ne.symm h.1), ih h.2, List.cons_append]

theorem not_mem_of_nodup_middle {α : Type} {a : α} {l₁ l₂ : List α} (h : (l₁ ++ a :: l₂).Nodup) :
    a ∉ l₁ ∧ a ∉ l₂ :=
  have ⟨_, h2, h3⟩ := List.nodup_append.1 h
  ⟨fun ha => h3 a ha a List.mem_cons_self rfl, (List.nodup_cons.1 h2).1⟩

/-- `add_edge(u, v)` between present nodes, `v` not yet a successor of `u`: the edge goes to the end of `adj[u]` -/
theorem Graph.addEdge_known (pre rest : Graph E) (u v : Node E) (r : E) (done : Adj E)
    (hk : (pre.map Prod.fst ++ u :: rest.map Prod.fst).Nodup)
    (hv : v ∈ pre.map Prod.fst ++ u :: rest.map Prod.fst) (hvd : v ∉ done.map Prod.fst) :
    Graph.addEdge (pre ++ (u, done) :: rest) u v r = pre ++ (u, done ++ [(v, r)]) :: rest := by
  have hks : (pre ++ (u, done) :: rest).map Prod.fst = pre.map Prod.fst ++ u :: rest.map Prod.fst := by
    rw [List.map_append, List.map_cons]
  have hid (l : Graph E) (hl : u ∉ l.map Prod.fst) :
      l.map (fun p => if p.1 = u then (p.1, adjSet p.2 v r) else p) = l :=
    (List.map_congr_left fun p hp => if_neg fun (e : p.1 = u) => hl (e ▸ List.mem_map_of_mem hp)).trans (List.map_id' l)
  have ⟨h1, h2⟩ := not_mem_of_nodup_middle hk
  rw [Graph.addEdge, Graph.addNode_of_mem _ u (hks ▸ List.mem_append_right _ List.mem_cons_self),
    Graph.addNode_of_mem _ v (hks ▸ hv)]
  show List.map _ _ = _
  rw [List.map_append, List.map_cons, if_pos rfl, hid pre h1, hid rest h2, adjSet_of_not_mem _ _ _ hvd]

abbrev stepEdge (g : Graph E) (e : Node E × Node E × E) : Graph E := g.addEdge e.1 e.2.1 e.2.2

theorem foldl_adj (pre rest : Graph E) (u : Node E)
    (hk : (pre.map Prod.fst ++ u :: rest.map Prod.fst).Nodup) :
    ∀ (ss done : Adj E), ((done ++ ss).map Prod.fst).Nodup →
      (∀ q ∈ ss, q.1 ∈ pre.map Prod.fst ++ u :: rest.map Prod.fst) →
      (ss.map (fun q => (u, q.1, q.2))).foldl stepEdge (pre ++ (u, done) :: rest)
        = pre ++ (u, done ++ ss) :: rest := by
  intro ss
  induction ss with
  | nil => intro done _ _; rw [List.append_nil]; rfl
  | cons q qs ih =>
    obtain ⟨v, r⟩ := q
    intro done hnd hmem
    have hvd : v ∉ done.map Prod.fst := by
      rw [List.map_append, List.map_cons] at hnd
      exact (not_mem_of_nodup_middle hnd).1
    rw [List.map_cons, List.foldl_cons, stepEdge,
      Graph.addEdge_known pre rest u v r done hk (hmem _ List.mem_cons_self) hvd,
      ih (done ++ [(v, r)]) (by rwa [List.append_assoc]) (fun q hq => hmem q (List.mem_cons_of_mem _ hq)),
      List.append_assoc]
    rfl

def edgesOf (g : Graph E) : List (Node E × Node E × E) :=
  g.flatMap (fun p => p.2.map (fun q => (p.1, q.1, q.2)))

theorem foldl_graph (ks : List (Node E)) (hks : ks.Nodup) : ∀ (post pre : Graph E),
    (pre ++ post).map Prod.fst = ks →
    (∀ p ∈ post, (p.2.map Prod.fst).Nodup ∧ ∀ q ∈ p.2, q.1 ∈ ks) →
    (edgesOf post).foldl stepEdge (pre ++ post.map (fun p => (p.1, []))) = pre ++ post := by
  intro post
  induction post with
  | nil => intro pre _ _; rfl
  | cons p ps ih =>
    obtain ⟨u, ss⟩ := p
    intro pre hk hwf
    have hk' : pre.map Prod.fst ++ u :: (ps.map (fun p => (p.1, ([] : Adj E)))).map Prod.fst = ks := by
      rw [← hk, List.map_append, List.map_cons, List.map_map]; rfl
    have ⟨hss, hmem⟩ := hwf _ List.mem_cons_self
    have := ih (pre ++ [(u, ss)]) (by rw [← hk, List.append_assoc]; rfl)
      (fun p hp => hwf p (List.mem_cons_of_mem _ hp))
    rw [List.append_assoc] at this
    rw [edgesOf, List.flatMap_cons, List.foldl_append, List.map_cons, foldl_adj pre _ u (hk' ▸ hks) ss [] hss (hk' ▸ hmem)]
    exact this.trans (List.append_assoc pre [(u, ss)] ps)

theorem foldl_addNodes (ns : List (Node E)) (acc : Graph E) (hout : Node.output ∈ acc.map Prod.fst)
    (hnd : (acc.map Prod.fst ++ ns).Nodup) :
    ns.foldl Graph.addComp acc = acc ++ ns.map (fun n => (n, [])) := by
  induction ns generalizing acc with
  | nil => exact (List.append_nil acc).symm
  | cons n ns ih =>
    have hn := (not_mem_of_nodup_middle hnd).1
    have hstep : acc.addComp n = acc ++ [(n, [])] := by
      cases n with
      | output => exact absurd hout hn
      | comp k => exact Graph.addNode_of_not_mem acc _ hn
    rw [List.foldl_cons, hstep, ih _ (by rw [List.map_append]; exact List.mem_append_left _ hout)
      (by rwa [List.map_append, List.append_assoc]), List.append_assoc]
    rfl

/-- the loop over `d['compartments']` -/
theorem foldl_addComp_nodes (g : Graph E) (hnd : (g.map Prod.fst).Nodup)
    (hhead : (g.map Prod.fst).head? = some .output) :
    g.nodes.foldl Graph.addComp Graph.builderInit = g.map (fun p => (p.1, [])) := by
  cases g with
  | nil => cases hhead
  | cons p g' =>
    obtain ⟨n, ss⟩ := p
    cases (Option.some.inj hhead : n = .output)
    have := foldl_addNodes (g'.map Prod.fst) Graph.builderInit List.mem_cons_self hnd
    rw [List.map_map] at this
    exact this

theorem pyIndex_idxOf {α : Type} [DecidableEq α] {a : α} {l : List α} (h : a ∈ l) :
    pyIndex l (l.idxOf a : Int) = some a := by
  have hlt := List.idxOf_lt_length_of_mem h
  simp [pyIndex, List.getElem?_eq_getElem hlt]

omit [DecidableEq E] in
theorem Node.from_to (h : c.Lawful) (n : Node E) : Node.fromDict c (n.toDict c) = some n := by
  cases n with
  | output => simp [Node.fromDict, Node.toDict]
  | comp k =>
    simp [Node.fromDict, Node.toDict, Compartment.from_to h]
    simp [Compartment.toDict]

theorem edge_from_to (h : c.Lawful) {comps : List (Node E)} {u v : Node E}
    (hu : u ∈ comps) (hv : v ∈ comps) (r : E) :
    edgeFromJson c comps (edgeJson c (comps.idxOf u, comps.idxOf v, r)) = some (u, v, r) := by
  simp [edgeJson, edgeFromJson, pyIndex_idxOf hu, pyIndex_idxOf hv, h.rt]

theorem edges_from_to (h : c.Lawful) (g : Graph E)
    (hmem : ∀ p ∈ g, ∀ q ∈ p.2, q.1 ∈ g.map Prod.fst) :
    allSome (edgeFromJson c g.nodes) (g.edgeTriples.map (edgeJson c)) = some (edgesOf g) := by
  have hrw : g.edgeTriples.map (edgeJson c)
      = (edgesOf g).map (fun e => edgeJson c (g.nodes.idxOf e.1, g.nodes.idxOf e.2.1, e.2.2)) := by
    simp only [Graph.edgeTriples, edgesOf, List.map_flatMap, List.map_map, Function.comp_def]
  rw [hrw]
  refine allSome_map _ _ _ fun e he => ?_
  obtain ⟨p, hp, he⟩ := List.mem_flatMap.1 he
  obtain ⟨q, hq, rfl⟩ := List.mem_map.1 he
  exact edge_from_to h (List.mem_map_of_mem hp) (hmem p hp q hq) q.2

theorem CompSys.from_to (h : c.Lawful) (s : CompSys E) (hwf : s.g.WF) :
    CompSys.fromDict c (s.toDict c) = some s := by
  obtain ⟨hnd, hhead, hadj⟩ := hwf
  have hbuild := foldl_graph _ hnd s.g [] rfl hadj
  simp [CompSys.fromDict, CompSys.toDict, h.rt, allSome_map, Node.from_to h,
    edges_from_to h s.g fun p hp => (hadj p hp).2, foldl_addComp_nodes s.g hnd hhead]
  exact congrArg (CompSys.mk · s.t) hbuild

theorem Stmt.from_to (h : c.Lawful) (s : Stmt E) (hg : s.Good) : Stmt.fromDict c (s.toDict c) = some s := by
  cases s with
  | assign sy ex =>
    simp [Stmt.fromDict, Stmt.toDict, h.rt]
  | ode cs =>
    simp [Stmt.fromDict, Stmt.toDict, CompSys.from_to h cs hg]
    simp [CompSys.toDict]

theorem Statements.from_to (h : c.Lawful) (ss : List (Stmt E)) (hg : ∀ s ∈ ss, s.Good) :
    Statements.fromDict c (Statements.toDict c ss) = some ss := by
  simp [Statements.fromDict, Statements.toDict, allSome_map _ _ ss fun s hs => Stmt.from_to h s (hg s hs)]

theorem Model.from_to (h : c.Lawful) (m : Model E M) (hg : m.Good) :
    Model.fromDict c (m.toDict c) = some m.blank := by
  have hobs := allSome_map (fun (p : E × E) => (c.ser p.1, Json.str (c.ser p.2))) (obsPairOf c)
    m.observationTransformation fun p _ => by simp [obsPairOf, h.rt]
  simp [Model.fromDict, Model.toDict, hobs, ieOpt_from_to _ hg.2, Parameters.from_to, RandomVariables.from_to h,
    Statements.from_to h _ hg.1, Steps.from_to, DataInfo.from_to, Model.blank]

theorem Model.toDict_blank (m : Model E M) : m.blank.toDict c = m.toDict c := rfl

omit [DecidableEq E] in
theorem Model.blank_blank (m : Model E M) : m.blank.blank = m.blank := rfl

theorem rows_append_inj {R : Type} (f : R → Nat) (xs ys : List R) (s s' : String) (r r' : List Chunk)
    (h : xs.map (fun x => Chunk.row (f x)) ++ Chunk.text s :: r
      = ys.map (fun x => Chunk.row (f x)) ++ Chunk.text s' :: r') :
    xs.map f = ys.map f ∧ s = s' ∧ r = r' := by
  induction xs generalizing ys with
  | nil =>
    cases ys with
    | nil => cases h; exact ⟨rfl, rfl, rfl⟩
    | cons y ys => cases h
  | cons x xs ih =>
    cases ys with
    | nil => cases h
    | cons y ys =>
      have ⟨h1, h2⟩ := List.cons.inj h
      have ⟨h3, h4⟩ := ih ys h2
      exact ⟨by rw [List.map_cons, List.map_cons, Chunk.row.inj h1, h3], h4⟩

end
end Pharmpy.C12
