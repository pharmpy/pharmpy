import PharmpyProofs.C12.Lemmas
/-
  C12 — round trip and separation of dicts for the doses reached through `Infusion.create` and `subs`.
  `f : E → E` is `Expr.subs(substitutions)`: any function, in particular one sending a symbol to the
  integer expression 0.  `truthy : E → Bool` is `Expr.__bool__` (`expr != 0`).
-/
namespace Pharmpy.C12

section
variable {E M : Type} {c : Codec E M}

/-- different doses, different dicts (hence different keys) -/
theorem to_dict_injective_dose (h : c.Lawful) (a b : Dose E) (heq : a.toDict c = b.toDict c) : a = b :=
  Option.some.inj ((Dose.from_to h a).symm.trans ((congrArg _ heq).trans (Dose.from_to h b)))

theorem to_dict_injective_compartment (h : c.Lawful) (a b : Compartment E) (heq : a.toDict c = b.toDict c) :
    a = b :=
  Option.some.inj ((Compartment.from_to h a).symm.trans ((congrArg _ heq).trans (Compartment.from_to h b)))

/-- an infusion given by its rate and one given by its duration never share a dict, whatever the two
    expressions are -/
theorem to_dict_separates_rate_from_duration (a a' : E) (n n' : Int) (r d : E) :
    Infusion.toDict c { amount := a, admid := n, rate := some r, duration := none }
      ≠ Infusion.toDict c { amount := a', admid := n', rate := none, duration := some d } := by
  simp [Infusion.toDict, serOpt]

/-- `create` wants exactly one of rate / duration and stores the fields as given -/
theorem infusion_create_spec (a : E) (n : Int) (r d : Option E) :
    Infusion.create a n r d
      = if r.isSome != d.isSome then some { amount := a, admid := n, rate := r, duration := d } else none := by
  cases r <;> cases d <;> simp [Infusion.create]

theorem infusion_create_wf (a : E) (n : Int) (r d : Option E) (i : Infusion E)
    (hc : Infusion.create a n r d = some i) : i.WF = true := by
  cases r <;> cases d <;> simp [Infusion.create] at hc <;> subst hc <;> simp [Infusion.WF]

/-- `subs` keeps the invariant and keeps *which* of rate / duration is given, for every substitution -/
theorem infusion_subs_wf (f : E → E) (i i' : Infusion E) (hs : i.subs f = some i') :
    i'.WF = true ∧ i'.rate.isSome = i.rate.isSome := by
  rcases i with ⟨_, _, _ | _, _ | _⟩ <;> simp [Infusion.subs] at hs <;> subst hs <;> simp [Infusion.WF]

theorem infusion_subs_total (f : E → E) (i : Infusion E) (hwf : i.WF = true) : (i.subs f).isSome = true := by
  rcases i with ⟨_, _, _ | _, _ | _⟩ <;> simp_all [Infusion.subs, Infusion.WF]

/-- the round trip holds for every dose reached by a substitution (also one that turns the rate into 0) -/
theorem from_to_dict_dose_subs (h : c.Lawful) (f : E → E) (d d' : Dose E) (_hs : d.subs f = some d') :
    Dose.fromDict c (d'.toDict c) = some d' :=
  Dose.from_to h d'

/-- in the dict of the substituted infusion the rate is `null` exactly when the original had no rate:
    the value the substitution produces plays no role -/
theorem infusion_subs_to_dict_presence (f : E → E) (i i' : Infusion E) (hs : i.subs f = some i') :
    ((i'.toDict c).get? "rate" = some .null ↔ i.rate = none) ∧
    ((i'.toDict c).get? "duration" = some .null ↔ i.rate ≠ none) := by
  have ⟨hwf, hr⟩ := infusion_subs_wf f i i' hs
  simp only [Infusion.toDict_rate, Infusion.toDict_duration, Option.some.injEq, serOpt_eq_null, ne_eq,
    ← Option.not_isSome_iff_eq_none, ← hr]
  -- what is left relates the Booleans `i'.rate.isSome` and `i'.duration.isSome`, which differ by `WF`
  revert hwf
  unfold Infusion.WF
  generalize i'.rate.isSome = b1
  generalize i'.duration.isSome = b2
  revert b1 b2
  decide

/-- `to_dict` is the instance of `toDictBy` that tests presence, not value -/
theorem to_dict_by_presence (i : Infusion E) : Infusion.toDictBy c (fun _ => true) i = i.toDict c := by
  rcases i with ⟨_, _, _ | _, _ | _⟩ <;> simp [Infusion.toDictBy, Infusion.toDict, serOptBy, serOpt]

/-- A value test that is false on some `z` (for `Expr.__bool__`: the integer 0) makes two different
    infusions share one dict, hence one `ModelHash`, ... -/
theorem to_dict_value_test_collision (truthy : E → Bool) (z : E) (hz : truthy z = false) (a : E) (n : Int) :
    Infusion.toDictBy c truthy { amount := a, admid := n, rate := some z, duration := none }
      = Infusion.toDictBy c truthy { amount := a, admid := n, rate := none, duration := some z }
    ∧ ({ amount := a, admid := n, rate := some z, duration := none } : Infusion E)
      ≠ { amount := a, admid := n, rate := none, duration := some z } := by
  simp [Infusion.toDictBy, serOptBy, hz]

/-- ... and breaks the round trip on both of them. -/
theorem to_dict_value_test_not_roundtrip (truthy : E → Bool) (z : E) (hz : truthy z = false) (a : E) (n : Int)
    (i : Infusion E) (hi : i = { amount := a, admid := n, rate := some z, duration := none } ∨
                           i = { amount := a, admid := n, rate := none, duration := some z }) :
    Infusion.fromDict c (Infusion.toDictBy c truthy i) ≠ some i := by
  intro hf
  have ⟨hr, hd⟩ := Infusion.fromDict_some hf
  rcases hi with rfl | rfl
  · simp [Infusion.toDictBy, serOptBy, hz, deOptStr, Json.get?_cons] at hr
  · simp [Infusion.toDictBy, serOptBy, hz, deOptStr, Json.get?_cons] at hd
end

example : Infusion.create "AMT" 1 none (some "D1") = some ⟨"AMT", 1, none, some "D1"⟩ := by decide

example : (Infusion.subs (fun e => if e = "D1" then "0" else e) ⟨"AMT", 1, none, some "D1"⟩)
    = some ⟨"AMT", 1, none, some "0"⟩ := by decide

example : Infusion.create "AMT" 1 (some "R1") (some "D1") = none := by decide

end Pharmpy.C12
