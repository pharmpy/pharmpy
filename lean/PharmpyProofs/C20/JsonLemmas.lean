import PharmpyModel.C20.Json
/-
  C20 — records as association lists with pairwise different keys; JSON names of index levels.
-/
namespace Pharmpy.C20

variable {α : Type}

theorem lookupKey_cons_ne (k k' : Str) (v : α) (r : List (Str × α)) (h : k' ≠ k) :
    lookupKey k ((k', v) :: r) = lookupKey k r := by
  simp [lookupKey, h]

theorem lookupKey_cons_eq (k : Str) (v : α) (r : List (Str × α)) :
    lookupKey k ((k, v) :: r) = some v := by
  simp [lookupKey]

theorem map_lookup_zip (ks : List Str) (vs : List α) (rest : List (Str × α)) (hnd : ks.Nodup)
    (hl : vs.length = ks.length) :
    ks.map (fun k => lookupKey k (ks.zip vs ++ rest)) = vs.map some := by
  induction ks generalizing vs with
  | nil => cases vs with
    | nil => rfl
    | cons v vs => simp at hl
  | cons k ks ih =>
    cases vs with
    | nil => simp at hl
    | cons v vs =>
      have hnd' := List.nodup_cons.mp hnd
      simp only [List.zip_cons_cons, List.cons_append, List.map_cons, lookupKey_cons_eq]
      congr 1
      rw [← ih vs hnd'.2 (by simpa using hl)]
      apply List.map_congr_left
      intro k' hk'
      exact lookupKey_cons_ne k' k v _ (fun e => hnd'.1 (e ▸ hk'))

theorem lookupKey_skip (k : Str) (ks1 : List Str) (vs1 : List α) (rest : List (Str × α)) (h : k ∉ ks1) :
    lookupKey k (ks1.zip vs1 ++ rest) = lookupKey k rest := by
  induction ks1 generalizing vs1 with
  | nil => simp
  | cons a ks1 ih =>
    cases vs1 with
    | nil => simp
    | cons v vs1 =>
      simp only [List.zip_cons_cons, List.cons_append]
      rw [lookupKey_cons_ne k a v _ (fun e => h (by simp [e]))]
      exact ih vs1 (fun hm => h (by simp [hm]))

theorem lookup_record (ks1 ks2 : List Str) (v1 v2 : List α) (hnd : (ks1 ++ ks2).Nodup)
    (h1 : v1.length = ks1.length) (h2 : v2.length = ks2.length) :
    ks1.map (fun k => lookupKey k (ks1.zip v1 ++ ks2.zip v2)) = v1.map some
      ∧ ks2.map (fun k => lookupKey k (ks1.zip v1 ++ ks2.zip v2)) = v2.map some := by
  obtain ⟨n1, n2, hdis⟩ := List.nodup_append.mp hnd
  refine ⟨map_lookup_zip _ _ _ n1 h1, ?_⟩
  rw [← map_lookup_zip ks2 v2 [] n2 h2]
  refine List.map_congr_left fun k hk => ?_
  rw [List.append_nil]
  exact lookupKey_skip k _ _ _ fun hm => hdis k hm k hk rfl

theorem map_zip_fst {β γ δ : Type} (xs : List β) (ys : List γ) (f : β → δ)
    (h : xs.length = ys.length) : (xs.zip ys).map (fun r => f r.1) = xs.map f := by
  conv => rhs; rw [← List.map_fst_zip (Nat.le_of_eq h), List.map_map]
  rfl

theorem map_zip_snd {β γ δ : Type} (xs : List β) (ys : List γ) (f : γ → δ)
    (h : xs.length = ys.length) : (xs.zip ys).map (fun r => f r.2) = ys.map f := by
  conv => rhs; rw [← List.map_snd_zip (Nat.le_of_eq h.symm), List.map_map]
  rfl

theorem filter_not_contains (pk cols : List Str) (hdis : ∀ c ∈ cols, c ∉ pk) :
    (pk ++ cols).filter (fun f => !pk.contains f) = cols := by
  rw [List.filter_append, List.filter_eq_nil_iff.mpr (by simp), List.nil_append]
  exact List.filter_eq_self.mpr (by simpa using hdis)

theorem jsonNamesFrom_length (single : Bool) (k : Nat) (ns : List (Option Str)) :
    (jsonNamesFrom single k ns).length = ns.length := by
  induction ns generalizing k with
  | nil => rfl
  | cons n ns ih => simp [jsonNamesFrom, ih]

theorem restore_jsonNamesFrom (single : Bool) (k : Nat) (ns : List (Option Str))
    (hn : ∀ n ∈ ns, ∀ s, n = some s → isReserved single s = false) :
    (jsonNamesFrom single k ns).map (restoreName single) = ns := by
  induction ns generalizing k with
  | nil => rfl
  | cons n ns ih =>
    rw [jsonNamesFrom, List.map_cons, ih (k + 1) fun m hm => hn m (List.mem_cons_of_mem _ hm)]
    congr 1
    cases n with
    | none => cases single <;> simp [restoreName, isReserved, levelName, levelLit, List.isPrefixOf]
    | some s => simp [restoreName, levelName, hn (some s) List.mem_cons_self s rfl]
end Pharmpy.C20
