import PharmpyProofs.C20.Lemmas
import PharmpyModel.C20.Spec
/-
  C20 — the fixed-width layout read back: tokenising rendered fields, rows and headers, and the
  two readers on lines whose token lists form a rectangle.
-/
namespace Pharmpy.C20
open Pharmpy.C20.Spec

/-- Empty, or starting with a blank. -/
def WsStart (r : Str) : Prop := r = [] ∨ ∃ r', r = ' ' :: r'

theorem wsStart_nil : WsStart [] := Or.inl rfl
theorem wsStart_blank (r : Str) : WsStart (' ' :: r) := Or.inr ⟨r, rfl⟩

theorem blanks_succ (k : Nat) : blanks (k + 1) = ' ' :: blanks k := rfl

theorem wsStart_blanks_append (k : Nat) (r : Str) (h : 1 ≤ k ∨ WsStart r) : WsStart (blanks k ++ r) := by
  cases k with
  | zero => exact h.resolve_left (by omega)
  | succ k => exact wsStart_blank _

theorem splitWs_blank (r : Str) : splitWs (' ' :: r) = splitWs r := by
  simp [splitWs, isWs]

theorem splitWs_blanks (k : Nat) (r : Str) : splitWs (blanks k ++ r) = splitWs r := by
  induction k with
  | zero => rfl
  | succ k ih => rw [blanks_succ, List.cons_append, splitWs_blank, ih]

theorem isToken_cons {c : Char} {t : Str} (h : isToken (c :: t) = true) :
    isWs c = false ∧ (t = [] ∨ isToken t = true) := by
  simp only [isToken, List.isEmpty_cons, Bool.not_false, Bool.true_and, List.all_cons, Bool.and_eq_true,
    Bool.not_eq_eq_eq_not, Bool.not_true] at h
  refine ⟨h.1, ?_⟩
  cases t with
  | nil => exact Or.inl rfl
  | cons d t' => exact Or.inr h.2

theorem splitWs_token (t r : Str) (ht : isToken t = true) (hr : WsStart r) :
    splitWs (t ++ r) = t :: splitWs r := by
  induction t with
  | nil => cases ht
  | cons c t ih =>
    obtain ⟨hc, ht'⟩ := isToken_cons ht
    rcases ht' with rfl | ht'
    · rcases hr with rfl | ⟨r', rfl⟩ <;> simp [splitWs, hc, show isWs ' ' = true from rfl]
    · cases t with
      | nil => cases ht'
      | cons d t' =>
        have ih' : splitWs (d :: (t' ++ r)) = (d :: t') :: splitWs r := ih ht'
        show splitWs (c :: d :: (t' ++ r)) = _
        rw [splitWs]
        simp only [hc, (isToken_cons ht').1, Bool.false_eq_true, if_false, ih']

theorem renderField_fits (c : Col) (tok r : Str) (h : fitsField c tok = true) :
    WsStart (renderField c tok ++ r)
      ∧ (WsStart r → splitWs (renderField c tok ++ r) = tok :: splitWs r) := by
  obtain ⟨w, al⟩ := c
  simp only [fitsField, Bool.and_eq_true] at h
  obtain ⟨htok, hw⟩ := h
  cases al with
  | right =>
    have hw' : 1 ≤ w - tok.length := by have : tok.length < w := by simpa using hw
                                        omega
    simp only [renderField, padLeft, List.append_assoc]
    exact ⟨wsStart_blanks_append _ _ (Or.inl hw'), fun hr => by rw [splitWs_blanks, splitWs_token _ _ htok hr]⟩
  | left =>
    simp only [renderField, padRight, List.cons_append, List.append_assoc]
    exact ⟨wsStart_blank _, fun hr => by
      rw [splitWs_blank, splitWs_token _ _ htok (wsStart_blanks_append _ _ (Or.inr hr)), splitWs_blanks]⟩

theorem renderRow_fits : ∀ (cols : List Col) (toks : List Str), fitsRow cols toks = true →
    WsStart (renderRow cols toks) ∧ splitWs (renderRow cols toks) = toks
      ∧ toks.length = cols.length
  | [], [], _ => ⟨wsStart_nil, rfl, rfl⟩
  | [], _ :: _, h | _ :: _, [], h => by cases h
  | c :: cs, t :: ts, h => by
    simp only [fitsRow, Bool.and_eq_true] at h
    obtain ⟨hws, hsplit, hlen⟩ := renderRow_fits cs ts h.2
    obtain ⟨h1, h2⟩ := renderField_fits c t (renderRow cs ts) h.1
    exact ⟨h1, by rw [renderRow, h2 hws, hsplit], by rw [List.length_cons, hlen, List.length_cons]⟩

theorem splitWs_renderRecords (t : RefTable)
    (h : ∀ r ∈ t.rows, fitsRow t.cols (r.map renderCell) = true) :
    (renderRecords t).map splitWs = t.rows.map (·.map renderCell) := by
  rw [renderRecords, List.map_map]
  exact List.map_congr_left fun r hr => (renderRow_fits _ _ (h r hr)).2.1

theorem renderedRows_length (t : RefTable)
    (h : ∀ r ∈ t.rows, fitsRow t.cols (r.map renderCell) = true) :
    ∀ r ∈ t.rows.map (·.map renderCell), r.length = t.cols.length := by
  intro r hr
  obtain ⟨r0, hr0, rfl⟩ := List.mem_map.mp hr
  exact (renderRow_fits _ _ (h r0 hr0)).2.2

theorem splitWs_headerGo (w : Nat) : ∀ (names : List Str), headerOk w names = true →
    splitWs (headerGo w names) = names
  | [], h => by cases h
  | [n], h => by simpa [headerGo, splitWs] using splitWs_token n [] h wsStart_nil
  | n :: m :: rest, h => by
    simp only [headerOk, Bool.and_eq_true, decide_eq_true_eq] at h
    obtain ⟨⟨hn, hlen⟩, hrest⟩ := h
    rw [headerGo, padRight, List.append_assoc,
      splitWs_token n _ hn (wsStart_blanks_append _ _ (Or.inl (by omega))), splitWs_blanks,
      splitWs_headerGo w (m :: rest) hrest]

theorem splitWs_renderHeader (w : Nat) (names : List Str) (h : headerOk w names = true) :
    splitWs (renderHeader w names) = names := by
  rw [renderHeader, splitWs_blank, splitWs_headerGo w names h]

theorem headerOk_ne_nil (w : Nat) (names : List Str) (h : headerOk w names = true) : names ≠ [] := by
  rintro rfl; cases h

section rect
variable {rows : List (List Str)} {n : Nat} (hlen : ∀ r ∈ rows, r.length = n)
include hlen

theorem filter_nonempty_of_length (hn : 0 < n) : rows.filter (fun t => !t.isEmpty) = rows := by
  refine List.filter_eq_self.mpr fun r hr => ?_
  cases r with
  | nil => have := hlen _ hr; simp at this; omega
  | cons a b => rfl

theorem any_longer_of_length : rows.any (fun r => decide (r.length > n)) = false :=
  List.any_eq_false.mpr fun r hr => by simp [hlen r hr]

theorem map_padRow_of_length : rows.map (padRow n) = rows.map (·.map some) :=
  List.map_congr_left fun r hr => by simp [padRow, hlen r hr]

end rect

/-- A header of pairwise different names and rows of its width: nothing padded, nothing refused. -/
theorem readFrame_rect (lines : List Str) (h : List Str) (rows : List (List Str))
    (htok : lines.map splitWs = h :: rows) (hne : h ≠ []) (hdup : hasDup h = false)
    (hlen : ∀ r ∈ rows, r.length = h.length) :
    readFrame lines = .ok ⟨h, rows.map (·.map some)⟩ := by
  have hall : ∀ r ∈ h :: rows, r.length = h.length := List.forall_mem_cons.mpr ⟨rfl, hlen⟩
  unfold readFrame
  rw [htok, filter_nonempty_of_length hall (List.length_pos_iff.mpr hne)]
  simp only [hdup, Bool.false_eq_true, if_false]
  cases rows with
  | nil => rfl
  | cons r0 rest =>
    simp only [any_longer_of_length hlen, hlen r0 List.mem_cons_self, gt_iff_lt, Nat.lt_irrefl,
      Bool.false_eq_true, if_false, map_padRow_of_length hlen]

theorem readFrameNoHeader_rect (lines : List Str) (rows : List (List Str)) (n : Nat)
    (htok : lines.map splitWs = rows) (hne : rows ≠ []) (hn : 0 < n)
    (hlen : ∀ r ∈ rows, r.length = n) :
    readFrameNoHeader lines = .ok ⟨positions n, rows.map (·.map some)⟩ := by
  unfold readFrameNoHeader
  rw [htok, filter_nonempty_of_length hlen hn]
  cases rows with
  | nil => exact absurd rfl hne
  | cons r0 rest =>
    obtain ⟨h0, hrest⟩ := List.forall_mem_cons.mp hlen
    simp only [h0, any_longer_of_length hrest, Bool.false_eq_true, if_false, map_padRow_of_length hlen]

end Pharmpy.C20
