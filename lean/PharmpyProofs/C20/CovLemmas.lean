import Mathlib.Tactic.FieldSimp
import Mathlib.Tactic.Ring
import Mathlib.Algebra.Order.Field.Basic
import PharmpyModel.C20.Cov
/-
  C20 — the operations of a field with a chosen square-root function as an instance of `Ops`, and
  the two branches of `cov2corrEntry` (`corr[cov == 0] = 0`) over it.
-/
namespace Pharmpy.C20

def fieldOps {F : Type} [Field F] [DecidableEq F] (s : F → F) : Ops F :=
  { zero := 0, mul := (· * ·), div := (· / ·), sqrt := s, isZero := fun x => decide (x = 0) }

/-- `s` is a square root on the non-negative elements. -/
def IsSqrt {F : Type} [Field F] [LinearOrder F] (s : F → F) : Prop :=
  ∀ x, 0 ≤ x → 0 ≤ s x ∧ s x * s x = x

theorem IsSqrt.ne_zero {F : Type} [Field F] [LinearOrder F] {s : F → F} (hs : IsSqrt s) {x : F} (hx : 0 < x) :
    s x ≠ 0 := by
  intro h
  have := (hs x hx.le).2
  rw [h, mul_zero] at this
  exact hx.ne this

section
variable {F : Type} [Field F] [LinearOrder F] [IsStrictOrderedRing F]

/-- Both sides are non-negative and have the same square `d² x`. -/
theorem sqrt_scaled (s : F → F) (hs : IsSqrt s) (d x : F) (hd : 0 < d) (hx : 0 ≤ x) :
    s (d * x * d) = d * s x := by
  obtain ⟨n1, e1⟩ := hs _ (mul_nonneg (mul_nonneg hd.le hx) hd.le)
  obtain ⟨n2, e2⟩ := hs _ hx
  apply (mul_self_inj_of_nonneg n1 (mul_nonneg hd.le n2)).mp
  rw [e1, mul_mul_mul_comm, e2, mul_right_comm]

end

section
variable {F : Type} [Field F] [DecidableEq F] (s : F → F) (c : Nat → Nat → F) {i j : Nat}

theorem cov2corrEntry_zero (h : c i j = 0) : cov2corrEntry (fieldOps s) c i j = 0 := by
  simp [cov2corrEntry, fieldOps, h]

theorem cov2corrEntry_ne (h : c i j ≠ 0) :
    cov2corrEntry (fieldOps s) c i j = c i j / (s (c i i) * s (c j j)) := by
  simp [cov2corrEntry, fieldOps, h]

end

end Pharmpy.C20
