import PharmpyProofs.C20.Split
import PharmpyProofs.C20.TableLemmas
/-
  C20 — Estimation results are read faithfully from NONMEM output.
-/
namespace Pharmpy.C20
open Pharmpy.C20.Spec

/-- Every numeric cell the reference writer produces (integer index, `d.ddd…E±xx` estimate with
    any number of decimals and any exponent, plain decimal OBJ value) is read back as exactly the
    decimal that was written. -/
theorem parse_render_cell (c : Cell) (d : Dec) (hok : cellOk c = true) (hd : cellDec c = some d) :
    parseNum (renderCell c) = some d := by
  rw [← hd]
  cases c with
  | label s => cases hd
  | int i => exact parseNum_int i
  | sci neg k mant exp => exact parseNum_sci neg k mant exp (by simpa [cellOk] using hok)
  | fix neg ip k fp => exact parseNum_fix neg ip k fp


/-- **parse ∘ render = id** for every table that fits its format (any number of columns and rows,
    any column widths): the column names and, cell by cell, the texts that were written come back,
    and every numeric cell text denotes exactly the number written. -/
theorem parse_render_table (t : RefTable) (h : t.fits = true) :
    readFrame (renderBody t)
        = .ok ⟨t.names, t.rows.map (fun r => r.map (fun c => some (renderCell c)))⟩
      ∧ ∀ r ∈ t.rows, ∀ c ∈ r, ∀ d, cellDec c = some d → parseNum (renderCell c) = some d := by
  simp only [RefTable.fits, Bool.and_eq_true, Bool.not_eq_eq_eq_not, Bool.not_true, beq_iff_eq,
    List.all_eq_true] at h
  obtain ⟨⟨⟨hhead, hdup⟩, hlen⟩, hrows⟩ := h
  refine ⟨?_, fun r hr c hc d hd => parse_render_cell c d ((hrows r hr).1 c hc) hd⟩
  have hfit : ∀ r ∈ t.rows, fitsRow t.cols (r.map renderCell) = true := fun r hr => (hrows r hr).2
  rw [readFrame_rect (renderBody t) t.names (t.rows.map (·.map renderCell))
    (by rw [renderBody, List.map_cons, splitWs_renderHeader _ _ hhead]
        exact congrArg _ (splitWs_renderRecords t hfit))
    (headerOk_ne_nil _ _ hhead) hdup (by rw [hlen]; exact renderedRows_length t hfit)]
  simp [List.map_map]


/-- Two `1PE13.5` cells, the second one `-1.00000E-100` (13 characters, as pharmpy's own writer
    `'%13.5E'` prints it). -/
def touchingTable : RefTable :=
  ⟨13, [['A'], ['B']], [⟨13, .right⟩, ⟨13, .right⟩],
    [[.sci false 5 100000 0, .sci true 5 100000 (-100)]]⟩

/-- Without `fits` the statement is false: a 13-character cell leaves no separating blank, the two
    fields are read as one token, which is not a number, and the second column as missing. -/
theorem touching_fields_witness :
    touchingTable.fits = false
      ∧ (renderBody touchingTable).map String.ofList = [" A            B", "  1.00000E+00-1.00000E-100"]
      ∧ (readFrame (renderBody touchingTable)).toOption
          = some ⟨[['A'], ['B']], [[some "1.00000E+00-1.00000E-100".toList, none]]⟩
      ∧ parseNum "1.00000E+00-1.00000E-100".toList = none := by
  decide +kernel

/-- Non-vacuity of `parse_render_table`: a two-row ext-like table with a negative estimate, a
    special ITERATION code and a 22-wide OBJ column fits. -/
example : (⟨13, [['I'], ['T', '1'], ['O', 'B', 'J']], [⟨13, .right⟩, ⟨13, .right⟩, ⟨22, .right⟩],
    [[.int 0, .sci true 5 469307 (-3), .fix false 587 14 36644134661617],
     [.int (-1000000000), .sci false 5 100000 (-99), .fix true 0 17 5]]⟩ : RefTable).fits = true := by
  decide +kernel

/-- n tables in ⇒ n chunks out, each starting with its own title line and holding exactly its own
    lines, in order (body lines are the lines that do not start with `TABLE NO.`). -/
theorem multi_table_split (cs : List (Str × List Str)) (hne : cs ≠ [])
    (ht : ∀ c ∈ cs, isTitle c.1 = true) (hb : ∀ c ∈ cs, ∀ l ∈ c.2, isTitle l = false) :
    splitTables (cs.map (fun c => c.1 :: c.2)).flatten = cs.map (fun c => c.1 :: c.2) := by
  cases cs with
  | nil => exact absurd rfl hne
  | cons c cs =>
    simp only [splitTables, List.map_cons, List.flatten_cons, List.foldl_append]
    rw [foldl_chunk [] [] c (ht c List.mem_cons_self) (hb c List.mem_cons_self),
      if_pos List.isEmpty_nil, foldl_chunks cs (fun x hx => ht x (List.mem_cons_of_mem _ hx))
        (fun x hx => hb x (List.mem_cons_of_mem _ hx)) [] _ (List.cons_ne_nil _ _)]
    rfl

theorem rendered_title_is_title (w n : Nat) (rest : Str) : isTitle (renderTitleNo w n ++ rest) = true := by
  rw [isTitle, renderTitleNo, List.append_assoc]
  exact List.isPrefixOf_iff_prefix.mpr (List.prefix_append _ _)

/-- The table number is read back exactly (any field width, any number that fits, any continuation
    that does not start with a digit). -/
theorem table_number_read_back (w n : Nat) (rest : Str) (hfit : (natDigits n).length < w)
    (hrest : StopsDigits rest) :
    parseTitleLine (renderTitleNo w n ++ rest)
      = .ok ⟨n, containsSub "Evaluation".toList (renderTitleNo w n ++ rest), matchTitleRest rest⟩ := by
  simp [parseTitleLine, matchTableNo_render w n rest hfit hrest]

/-- `triangular_root` inverts the triangular numbers (so every ETC vector of a legal length is
    accepted and gets the right dimension). -/
theorem triangular_root_exact (n : Nat) : triangularRoot (tri n) = n := by
  rw [triangularRoot, two_tri]
  apply isqrtUpTo_eq
  · exact Nat.mul_le_mul_left n (Nat.le_succ n)
  · exact Nat.mul_lt_mul_of_lt_of_le (Nat.lt_succ_self n) (Nat.le_refl _) (Nat.succ_pos n)
  · exact Nat.le_mul_of_pos_right _ (Nat.succ_pos _)

/-- `flattened_to_symmetric` on a vector of `n(n+1)/2` entries: the n×n matrix with entry
    (i,j) = x[T(max i j) + min i j] — ETC(a,b) of the phi file lands at [a,b] and [b,a]. -/
theorem etc_symmetric_index {α : Type} (zero : α) (n : Nat) (x : List α) (hx : x.length = tri n) :
    ∃ M, flattenedToSymmetric zero x = .ok M ∧ M.length = n ∧
      ∀ i j, i < n → j < n → (M[i]?).bind (·[j]?) = x[tri (max i j) + min i j]? := by
  unfold flattenedToSymmetric
  simp only [hx, triangular_root_exact, bne_self_eq_false, Bool.false_eq_true, if_false]
  refine ⟨_, rfl, by simp, fun i j hi hj => ?_⟩
  simp only [List.getElem?_map, List.getElem?_range hi, List.getElem?_range hj, Option.map_some,
    Option.bind_some]
  by_cases hji : j ≤ i
  · rw [if_pos hji, Nat.max_eq_left hji, Nat.min_eq_right hji]
    exact lower_entry zero n x hx i j hi hji
  · have hij : i ≤ j := by omega
    rw [if_neg hji, Nat.max_eq_right hij, Nat.min_eq_left hij]
    exact lower_entry zero n x hx j i hj hij

theorem etc_symmetric {α : Type} (zero : α) (n : Nat) (x : List α) (hx : x.length = tri n) :
    ∃ M, flattenedToSymmetric zero x = .ok M ∧
      ∀ i j, i < n → j < n → (M[i]?).bind (·[j]?) = (M[j]?).bind (·[i]?) := by
  obtain ⟨M, hM, _, h⟩ := etc_symmetric_index zero n x hx
  refine ⟨M, hM, ?_⟩
  intro i j hi hj
  rw [h i j hi hj, h j i hj hi, Nat.max_comm, Nat.min_comm]

/-- A vector whose length is not a triangular number is refused, not silently truncated. -/
theorem etc_bad_length {α : Type} (zero : α) (x : List α)
    (hx : tri (triangularRoot x.length) ≠ x.length) :
    flattenedToSymmetric zero x = .error .shapeError := by
  unfold flattenedToSymmetric
  simp [hx]

/-- The ITERATION codes, getters, fallbacks and post-processing of table.py's ExtTable properties
    (regenerated from the source on every run) are the documented ones. -/
theorem ext_codes_as_documented : Generated.extProps = documentedExtProps := rfl

/-- `df.loc[df['ITERATION'] == code]`: exactly the rows whose ITERATION cell denotes `code`, in
    file order. -/
theorem ext_rows (f : Frame) (code : Int) (rs : List (List (Option Str)))
    (h : rowsWithIter f code = .ok rs) : rs = f.rows.filter (rowHasIter code) := by
  unfold rowsWithIter iterColumn at h
  cases hm : f.rows.mapM (fun r => cellNum (r.headD none)) with
  | error e => rw [hm] at h; cases h
  | ok its =>
    rw [hm] at h
    cases h
    rw [filter_zip_mapM (fun r => cellNum (r.headD none)) (isIter code) f.rows its hm]
    refine List.filter_congr fun r _ => ?_
    unfold rowHasIter
    cases cellNum (r.headD none) <;> rfl

/-- …and an integer ITERATION cell written by the reference writer is recognised as `code` iff it
    is `code` (so estimates / SE / fixed flags / OFV come from the designated rows only). -/
theorem ext_iteration_cell (i code : Int) (rest : List (Option Str)) :
    rowHasIter code (some (renderCell (.int i)) :: rest) = (i == code) := by
  simp [rowHasIter, cellNum, parseNum_int, isIter, Dec.eqv, Dec.ofInt, Dec.scaled]

/-- `final_parameter_estimates` / `final_ofv`: when the designated row exists it is used. -/
theorem ext_designated_row_wins {α : Type} (raw : Frame) (code : Int) (get : Int → Except Err α) (v : α)
    (h : get code = .ok v) : withFallback raw code get = .ok v := by
  simp [withFallback, h]

/-- Fallback rule: when the designated row is absent (KeyError), the row of the largest
    non-negative iteration number is used — it is one of the iterations and bounds all of them. -/
theorem ext_fallback_last_iteration {α : Type} (raw : Frame) (code : Int) (get : Int → Except Err α)
    (its : List Dec) (d : Dec) (hk : get code = .error .keyError) (hi : iterations raw = .ok its)
    (hint : ∀ x ∈ its, x.e = 0) (hm : maxDec its = some d) :
    withFallback raw code get = get d.m ∧ d ∈ its ∧ ∀ x ∈ its, x.m ≤ d.m := by
  obtain ⟨h1, h2, h3⟩ := maxDec_int its hint d hm
  refine ⟨?_, h1, h3⟩
  simp [withFallback, hk, hi, hm, h2]

/-- No designated row and no iteration row: refused (ValueError), nothing is invented. -/
theorem ext_fallback_refused {α : Type} (raw : Frame) (code : Int) (get : Int → Except Err α)
    (hk : get code = .error .keyError) (hi : iterations raw = .ok []) :
    withFallback raw code get = .error .noIterations := by
  simp [withFallback, hk, hi, maxDec]

/-- Fixed parameters are dropped consistently: for a square matrix with a symmetric zero pattern
    the row mask and the column mask of `df.loc[(df != 0).any(axis=1), (df != 0).any(axis=0)]`
    coincide, so the result has the same labels on both axes, in the original order. -/
theorem fixed_dropped_consistently (m : Matrix) (n : Nat) (hlab : m.index = m.cols)
    (hc : m.cols.length = n) (hr : m.rows.length = n) (hsq : ∀ r ∈ m.rows, r.length = n)
    (hsym : ∀ i j, i < n → j < n → cellNonzero (ent m.rows i j) = cellNonzero (ent m.rows j i)) :
    keptRows m.rows = keptCols m.cols.length m.rows
      ∧ (dropZero m).index = (dropZero m).cols
      ∧ List.Sublist (dropZero m).index m.index
      ∧ (dropZero m).rows = (selectMask m.rows (keptRows m.rows)).map (fun r => selectMask r (keptRows m.rows)) := by
  have hk : keptRows m.rows = keptCols m.cols.length m.rows := by
    rw [hc]; exact keptRows_eq_keptCols m.rows n hr hsq hsym
  refine ⟨hk, ?_, ?_, ?_⟩
  · simp only [dropZero, hlab, hk]
  · exact selectMask_sublist _ _
  · simp only [dropZero, hk]

/-- Without symmetry this is false: the masks differ and the result is not square-labelled. -/
theorem fixed_dropped_witness :
    let m : Matrix := ⟨[['A'], ['B']], [['A'], ['B']], [[some ['1'], some ['1']], [some ['0'], some ['0']]]⟩
    (dropZero m).index = [['A']] ∧ (dropZero m).cols = [['A'], ['B']] := by
  decide +kernel

/-- Every repeated header line (a line `\s[A-Za-z_]…`) after the first line is removed and every
    other line is kept, in order. -/
theorem repeated_headers_dropped (h : Str) (rest : List Str) :
    dropRepeatedHeaders (h :: rest) = h :: rest.filter (fun l => !looksLikeHeader l) := rfl

/-- In a file where header copies are the lines matching `\s[A-Za-z_]` (flag `true`) and data lines
    do not match (flag `false`), exactly the data lines survive, in order. -/
theorem repeated_headers_removed (h : Str) (ls : List (Bool × Str))
    (hh : ∀ p ∈ ls, looksLikeHeader p.2 = p.1) :
    dropRepeatedHeaders (h :: ls.map (·.2)) = h :: (ls.filter (fun p => !p.1)).map (·.2) := by
  simp only [dropRepeatedHeaders, List.filter_map]
  congr 2
  apply List.filter_congr
  intro p hp
  simp [Function.comp, hh p hp]

/-- A data line whose first field is a right-justified number that fits (it starts with a digit or
    a minus sign) is never mistaken for a repeated header line. -/
theorem data_line_not_header (w : Nat) (cell : Cell) (rest : Str) (hnum : ∀ s, cell ≠ .label s)
    (hfit : (renderCell cell).length < w) :
    looksLikeHeader (padLeft w (renderCell cell) ++ rest) = false := by
  obtain ⟨c, t, hct, hc⟩ := numeric_cell_head cell hnum
  have hc' : (isAlpha c || c == '_') = false := by
    rcases hc with hc | rfl
    · exact isDig_not_alpha hc
    · rfl
  -- the second character of the line is a blank of the padding or `c`
  obtain ⟨k, hk⟩ : ∃ k, w - (renderCell cell).length = k + 1 := ⟨w - (renderCell cell).length - 1, by omega⟩
  rw [padLeft, hk, hct]
  cases k with
  | zero => simp [blanks, looksLikeHeader, hc']
  | succ k => rfl

/-- Reordering to THETA, OMEGA, SIGMA loses and duplicates nothing: for labels that each start with
    one of the three (in any order — NONMEM writes THETA, SIGMA, OMEGA) the new order is a
    permutation of the old one. -/
theorem rename_order_perm (cols : List Str)
    (h : ∀ c ∈ cols, startsWith thetaP c = true ∨ startsWith omegaP c = true ∨ startsWith sigmaP c = true) :
    List.Perm (orderedLabels cols) cols := by
  refine perm_filter3 _ _ _ cols h ?_ ?_ ?_ <;> intro c h1 h2
  · exact absurd (startsWith_head_eq (thetaP_eq ▸ h1) (omegaP_eq ▸ h2)) (by decide)
  · exact absurd (startsWith_head_eq (thetaP_eq ▸ h1) (sigmaP_eq ▸ h2)) (by decide)
  · exact absurd (startsWith_head_eq (omegaP_eq ▸ h1) (sigmaP_eq ▸ h2)) (by decide)

/-- `THETAn` becomes `THETA(n)` for every n. -/
theorem rename_theta (n : Nat) :
    renameTheta (thetaP ++ natDigits n) = thetaP ++ '(' :: natDigits n ++ [')'] := by
  have hs : startsWith thetaP (thetaP ++ natDigits n) = true :=
    List.isPrefixOf_iff_prefix.mpr (List.prefix_append _ _)
  have hdrop : (thetaP ++ natDigits n).drop 5 = natDigits n := by rw [thetaP_eq]; rfl
  obtain ⟨c, t, hct⟩ : ∃ c t, thetaP ++ natDigits n = c :: t := ⟨'T', _, by rw [thetaP_eq]; rfl⟩
  rw [renameTheta, hct, renameThetaAux, ← hct]
  simp only [show "THETA".toList = thetaP from rfl, hs, if_true, hdrop,
    takeDigits_all _ (natDigits_allDig n), List.isEmpty_iff, natDigits_ne_nil, if_false, theta6_eq,
    renameThetaAux_nil, List.append_assoc, List.cons_append, List.nil_append]

/-- The THETA renaming is injective on NONMEM's theta labels (no two parameters get one name). -/
theorem rename_theta_injective (a b : Nat)
    (h : renameTheta (thetaP ++ natDigits a) = renameTheta (thetaP ++ natDigits b)) : a = b := by
  rw [rename_theta, rename_theta] at h
  exact natDigits_injective (List.cons.inj (List.append_cancel_left (List.append_cancel_right h))).2

/-- Labels without a `T` (OMEGA(i,j), SIGMA(i,j)) are not touched by the renaming. -/
theorem rename_other_unchanged (fuel : Nat) (cs : Str) (h : ∀ c ∈ cs, c ≠ 'T') :
    renameThetaAux fuel cs = cs := by
  induction fuel generalizing cs with
  | zero => rfl
  | succ fuel ih =>
    cases cs with
    | nil => rfl
    | cons c rest =>
      have hs : startsWith thetaP (c :: rest) = false := by
        rw [thetaP_eq]
        simp [startsWith, List.isPrefixOf, Ne.symm (h c List.mem_cons_self)]
      rw [renameThetaAux, show "THETA".toList = thetaP from rfl, hs, if_neg Bool.false_ne_true,
        ih rest fun x hx => h x (List.mem_cons_of_mem _ hx)]

/-- **parse ∘ render = id for header-less tables**: every record written is read as a data row
    (none is taken as a header), the columns are labelled by position 0…n-1, and every numeric
    cell text denotes exactly the number written. -/
theorem parse_render_nolabel (t : RefTable) (h : t.fitsRecords = true) (hne : t.rows ≠ []) :
    readFrameNoHeader (renderRecords t)
        = .ok ⟨positions t.cols.length, t.rows.map (fun r => r.map (fun c => some (renderCell c)))⟩
      ∧ ∀ r ∈ t.rows, ∀ c ∈ r, ∀ d, cellDec c = some d → parseNum (renderCell c) = some d := by
  simp only [RefTable.fitsRecords, Bool.and_eq_true, Bool.not_eq_eq_eq_not, Bool.not_true,
    List.all_eq_true] at h
  obtain ⟨hcols, hrows⟩ := h
  refine ⟨?_, fun r hr c hc d hd => parse_render_cell c d ((hrows r hr).1 c hc) hd⟩
  have hfit : ∀ r ∈ t.rows, fitsRow t.cols (r.map renderCell) = true := fun r hr => (hrows r hr).2
  rw [readFrameNoHeader_rect (renderRecords t) _ t.cols.length (splitWs_renderRecords t hfit)
    (by simpa using hne) (List.length_pos_iff.mpr (by simpa using hcols)) (renderedRows_length t hfit)]
  simp [List.map_map]

/-- What a $TABLE written without labels looks like: at least one record, every record fits, the
    first column is a right-justified number (as in every $TABLE output). -/
def NolabelOk (t : RefTable) : Prop :=
  t.fitsRecords = true ∧ t.rows ≠ [] ∧ ∃ c cs, t.cols = c :: cs ∧ c.align = .right ∧
    ∀ r ∈ t.rows, ∀ cell cells, r = cell :: cells → ∀ s, cell ≠ .label s

/-- No record of such a table is mistaken for a repeated header line, or for a `TABLE NO.` line. -/
theorem nolabel_records_kept (t : RefTable) (h : NolabelOk t) :
    dropRepeatedHeaders (renderRecords t) = renderRecords t
      ∧ ∀ l ∈ renderRecords t, isTitle l = false := by
  obtain ⟨hfit, _, c, cs, hc, hal, hnum⟩ := h
  simp only [RefTable.fitsRecords, Bool.and_eq_true, List.all_eq_true] at hfit
  have hkeep : ∀ l ∈ renderRecords t, looksLikeHeader l = false := by
    intro l hl
    obtain ⟨r, hr, rfl⟩ := List.mem_map.mp hl
    have hrow := (hfit.2 r hr).2
    rw [hc] at hrow ⊢
    cases r with
    | nil => simp [fitsRow] at hrow
    | cons cell cells =>
      simp only [List.map_cons, fitsRow, Bool.and_eq_true] at hrow
      have hf := hrow.1
      simp only [fitsField, hal, Bool.and_eq_true, decide_eq_true_eq] at hf
      simp only [List.map_cons, renderRow, renderField, hal]
      exact data_line_not_header c.width cell _ (hnum _ hr cell cells rfl) hf.2
  refine ⟨dropRepeatedHeaders_self _ hkeep, fun l hl => ?_⟩
  obtain ⟨r, hr, rfl⟩ := List.mem_map.mp hl
  exact isTitle_wsStart (renderRow_fits _ _ (hfit.2 r hr).2).1

/-- `NONMEMTableFile(path, notitle=True, nolabel=True)` on a NOTITLE + NOLABEL file holds one
    table with all records, columns labelled by position. -/
theorem nolabel_file_all_records (k : Kind) (t : RefTable) (h : NolabelOk t) :
    parseFile k true true (renderRecords t)
      = .ok [⟨none, .generic, ⟨positions t.cols.length,
          t.rows.map (fun r => r.map (fun c => some (renderCell c)))⟩⟩] := by
  have hdrop := (nolabel_records_kept t h).1
  simp only [parseFile, if_true, hdrop, (parse_render_nolabel t h.1 h.2.1).1]

/-- NOLABEL with title lines (`notitle=False, nolabel=True`): one table per `TABLE NO.` chunk,
    each with its own title metadata, all its records, position labels. -/
theorem nolabel_titled_file_all_records (ts : List (Str × Meta × RefTable)) (hne : ts ≠ [])
    (htitle : ∀ p ∈ ts, isTitle p.1 = true ∧ parseTitleLine p.1 = .ok p.2.1)
    (hok : ∀ p ∈ ts, NolabelOk p.2.2) :
    parseFile .generic false true (ts.map (fun p => p.1 :: renderRecords p.2.2)).flatten
      = .ok (ts.map (fun p => ⟨some p.2.1, .generic, ⟨positions p.2.2.cols.length,
          p.2.2.rows.map (fun r => r.map (fun c => some (renderCell c)))⟩⟩)) := by
  have hsplit : splitTables (ts.map (fun p => p.1 :: renderRecords p.2.2)).flatten
      = ts.map (fun p => p.1 :: renderRecords p.2.2) := by
    have := multi_table_split (ts.map (fun p => (p.1, renderRecords p.2.2))) (by simpa using hne)
      (by intro c hc
          obtain ⟨p, hp, rfl⟩ := List.mem_map.mp hc
          exact (htitle p hp).1)
      (by intro c hc l hl
          obtain ⟨p, hp, rfl⟩ := List.mem_map.mp hc
          exact (nolabel_records_kept _ (hok p hp)).2 l hl)
    rw [List.map_map] at this
    exact this
  simp only [parseFile, Bool.false_eq_true, if_false, hsplit]
  apply mapM_map_ok
  intro p hp
  have hk := hok p hp
  simp only [parseChunk, if_true, (nolabel_records_kept _ hk).1, (parse_render_nolabel _ hk.1 hk.2.1).1,
    (htitle p hp).2]

end Pharmpy.C20
