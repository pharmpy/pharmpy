import PharmpyProofs.C20.CovLemmas
/-
  C20 — "covariance, correlation, precision and standard errors reported together satisfy their
  defining relations": `cov2corr` / `corr2cov` entry by entry, over an arbitrary ordered field with
  an abstract square root.  The conversion is *scale free*: no absolute threshold may enter.
-/
namespace Pharmpy.C20

variable {F : Type} [Field F] [LinearOrder F] [IsStrictOrderedRing F] [DecidableEq F]

/-- The diagonal of the correlation matrix is 1 wherever the variance is positive — however small. -/
theorem cor_diag_one (s : F → F) (hs : IsSqrt s) (c : Nat → Nat → F) (i : Nat) (hpos : 0 < c i i) :
    cov2corrEntry (fieldOps s) c i i = 1 := by
  rw [cov2corrEntry_ne s c hpos.ne', (hs _ hpos.le).2]
  exact div_self hpos.ne'

/-- A non-zero covariance is never reported as zero correlation, and a zero one always is. -/
theorem cor_zero_iff (s : F → F) (hs : IsSqrt s) (c : Nat → Nat → F) (i j : Nat)
    (hi : 0 < c i i) (hj : 0 < c j j) :
    cov2corrEntry (fieldOps s) c i j = 0 ↔ c i j = 0 := by
  refine ⟨fun h => ?_, cov2corrEntry_zero s c⟩
  by_contra hne
  rw [cov2corrEntry_ne s c hne] at h
  exact div_ne_zero hne (mul_ne_zero (hs.ne_zero hi) (hs.ne_zero hj)) h

omit [LinearOrder F] [IsStrictOrderedRing F] in
theorem cor_symmetric (s : F → F) (c : Nat → Nat → F) (i j : Nat) (hsym : c i j = c j i) :
    cov2corrEntry (fieldOps s) c i j = cov2corrEntry (fieldOps s) c j i := by
  unfold cov2corrEntry
  simp only [fieldOps]
  rw [hsym, mul_comm (s (c i i)) (s (c j j))]

/-- **Scale invariance**: rescaling the parameters by any positive diagonal matrix `D`
    (`cov ↦ D cov D`, e.g. a change of units that makes every entry smaller than 1e-8) does not
    change any entry of the correlation matrix. -/
theorem cor_scale_invariant (s : F → F) (hs : IsSqrt s) (c : Nat → Nat → F) (d : Nat → F)
    (hd : ∀ k, 0 < d k) (i j : Nat) (hi : 0 ≤ c i i) (hj : 0 ≤ c j j) :
    cov2corrEntry (fieldOps s) (fun a b => d a * c a b * d b) i j
      = cov2corrEntry (fieldOps s) c i j := by
  have hdi : d i ≠ 0 := (hd i).ne'
  have hdj : d j ≠ 0 := (hd j).ne'
  by_cases h0 : c i j = 0
  · rw [cov2corrEntry_zero s c h0, cov2corrEntry_zero]
    simp only [h0, mul_zero, zero_mul]
  · -- numerator and denominator both gain the factor `d i * d j`
    rw [cov2corrEntry_ne s c h0, cov2corrEntry_ne s _ (mul_ne_zero (mul_ne_zero hdi h0) hdj),
      sqrt_scaled s hs _ _ (hd i) hi, sqrt_scaled s hs _ _ (hd j) hj, mul_mul_mul_comm,
      mul_right_comm (d i)]
    exact mul_div_mul_left _ _ (mul_ne_zero hdi hdj)

/-- The defining relation `cov = D cor D` with `D = diag(se)`, `se = sqrt(diag cov)`: what
    `calculate_cov_from_corrse` rebuilds from the derived correlation matrix and the standard
    errors is the covariance matrix, entry by entry. -/
theorem cov_cor_relation (s : F → F) (hs : IsSqrt s) (c : Nat → Nat → F) (i j : Nat)
    (hi : 0 < c i i) (hj : 0 < c j j) :
    corr2covEntry (fieldOps s) (cov2corrEntry (fieldOps s) c) (fun k => s (c k k)) i j = c i j := by
  have hsi := hs.ne_zero hi
  have hsj := hs.ne_zero hj
  unfold corr2covEntry
  by_cases h0 : c i j = 0
  · rw [cov2corrEntry_zero s c h0, h0]
    simp [fieldOps]
  · rw [cov2corrEntry_ne s c h0]
    simp only [fieldOps]
    field_simp

/-- A conversion that zeroes every covariance below a fixed `ε > 0` reports diagonal 0 for the
    variance `ε/2`: any absolute threshold contradicts `cor_diag_one`. -/
theorem threshold_breaks_diag (s : F → F) (hs : IsSqrt s) (ε : F) (hε : 0 < ε) :
    ∃ c : Nat → Nat → F, 0 < c 0 0 ∧ c 0 0 < ε ∧ cov2corrEntry (fieldOps s) c 0 0 = 1 := by
  refine ⟨fun _ _ => ε / 2, half_pos hε, half_lt_self hε, ?_⟩
  exact cor_diag_one s hs _ 0 (half_pos hε)

end Pharmpy.C20
