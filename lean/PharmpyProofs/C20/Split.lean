import PharmpyProofs.C20.Layout
/-
  C20 — the file level: NONMEMTableFile's splitting loop, the `TABLE NO.` line, and which lines
  of a table are taken for repeated headers.
-/
namespace Pharmpy.C20
open Pharmpy.C20.Spec

def isTitle (l : Str) : Bool := startsWith tableNoPrefix l

theorem tableNoPrefix_eq : tableNoPrefix = ['T', 'A', 'B', 'L', 'E', ' ', 'N', 'O', '.'] := by
  unfold tableNoPrefix; simp only [String.reduceToList]

theorem isTitle_wsStart {l : Str} (h : WsStart l) : isTitle l = false := by
  rcases h with rfl | ⟨r, rfl⟩ <;> simp [isTitle, startsWith, tableNoPrefix_eq, List.isPrefixOf]

theorem foldl_body (b : List Str) (d : List (List Str)) (cur : List Str)
    (hb : ∀ l ∈ b, isTitle l = false) :
    b.foldl splitStep (d, cur) = (d, cur ++ b) := by
  induction b generalizing cur with
  | nil => simp
  | cons l b ih =>
    have hl : startsWith tableNoPrefix l = false := hb l List.mem_cons_self
    rw [List.foldl_cons, splitStep, hl, if_neg Bool.false_ne_true,
      ih _ fun x hx => hb x (List.mem_cons_of_mem _ hx), List.append_assoc, List.singleton_append]

/-- A title line closes the chunk in progress, if there is one, and opens the next. -/
theorem foldl_chunk (d : List (List Str)) (cur : List Str) (c : Str × List Str)
    (ht : isTitle c.1 = true) (hb : ∀ l ∈ c.2, isTitle l = false) :
    (c.1 :: c.2).foldl splitStep (d, cur) = (if cur.isEmpty then d else d ++ [cur], c.1 :: c.2) := by
  have h1 : startsWith tableNoPrefix c.1 = true := ht
  rw [List.foldl_cons, splitStep, h1, if_pos rfl, foldl_body c.2 _ _ hb, List.singleton_append]

theorem foldl_chunks (cs : List (Str × List Str))
    (ht : ∀ c ∈ cs, isTitle c.1 = true) (hb : ∀ c ∈ cs, ∀ l ∈ c.2, isTitle l = false)
    (d : List (List Str)) (cur : List Str) (hcur : cur ≠ []) :
    ((cs.map (fun c => c.1 :: c.2)).flatten.foldl splitStep (d, cur)).1
        ++ [((cs.map (fun c => c.1 :: c.2)).flatten.foldl splitStep (d, cur)).2]
      = d ++ [cur] ++ cs.map (fun c => c.1 :: c.2) := by
  induction cs generalizing d cur with
  | nil => simp
  | cons c cs ih =>
    rw [List.map_cons, List.flatten_cons, List.foldl_append,
      foldl_chunk d cur c (ht c List.mem_cons_self) (hb c List.mem_cons_self),
      if_neg (by simpa using hcur),
      ih (fun x hx => ht x (List.mem_cons_of_mem _ hx)) (fun x hx => hb x (List.mem_cons_of_mem _ hx))
        _ _ (List.cons_ne_nil _ _)]
    simp

theorem isDig_not_reWs {c : Char} (h : isDig c = true) : isReWs c = false := by
  cases hr : isReWs c with
  | false => rfl
  | true =>
    simp only [isReWs, Bool.or_eq_true, beq_iff_eq] at hr
    rcases hr with ((((hr | hr) | hr) | hr) | hr) | hr <;> (subst hr; cases h)

theorem matchTableNo_render (w n : Nat) (rest : Str) (hfit : (natDigits n).length < w)
    (hrest : StopsDigits rest) :
    matchTableNo (renderTitleNo w n ++ rest) = some (n, rest) := by
  obtain ⟨c, t, hct, hc⟩ := natDigits_cons n
  obtain ⟨k, hk⟩ : ∃ k, w - (natDigits n).length = k + 1 := ⟨w - (natDigits n).length - 1, by omega⟩
  -- after `TABLE NO` and the `.`: at least one blank, then the digits
  have hline : renderTitleNo w n ++ rest
      = 'T' :: 'A' :: 'B' :: 'L' :: 'E' :: ' ' :: 'N' :: 'O' :: '.' :: (blanks (k + 1) ++ (c :: (t ++ rest))) := by
    rw [renderTitleNo, padLeft, tableNoPrefix_eq, hk, hct]; simp
  have hws : ∀ a ∈ blanks (k + 1), isReWs a = true := fun a ha => by
    rw [List.eq_of_mem_replicate ha]; rfl
  have hcw : ¬ isReWs c = true := by simp [isDig_not_reWs hc]
  have htd := takeDigits_append (natDigits n) rest (natDigits_allDig n) hrest
  rw [hct] at htd
  rw [hline]
  unfold matchTableNo
  simp only [String.reduceToList, startsWith, List.isPrefixOf, beq_self_eq_true, Bool.and_self, if_true,
    List.drop_succ_cons, List.drop_zero, List.takeWhile_append_of_pos hws,
    List.dropWhile_append_of_pos hws, List.takeWhile_cons_of_neg hcw, List.dropWhile_cons_of_neg hcw]
  rw [← List.cons_append, htd, ← hct, valDigits_natDigits]
  simp [blanks_succ, hct]

theorem dropRepeatedHeaders_self (ls : List Str) (h : ∀ l ∈ ls, looksLikeHeader l = false) :
    dropRepeatedHeaders ls = ls := by
  cases ls with
  | nil => rfl
  | cons a rest =>
    rw [dropRepeatedHeaders, List.filter_eq_self.mpr fun l hl => by
      rw [h l (List.mem_cons_of_mem _ hl)]; rfl]

/-- Digits have codes up to 57, letters and `_` from 65 on. -/
theorem isDig_not_alpha {c : Char} (h : isDig c = true) : (isAlpha c || c == '_') = false := by
  simp only [isDig, Bool.and_eq_true, decide_eq_true_eq] at h
  have h9 : c.toNat ≤ 57 := h.2
  have : c ≠ '_' := by rintro rfl; simp at h9
  simp [isAlpha, isUpper, isLower, Char.le_def, UInt32.le_iff_toNat_le, this]
  constructor <;> intro <;> omega

end Pharmpy.C20
