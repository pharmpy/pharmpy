import PharmpyProofs.C20.ResultsLemmas
/-
  C20 — "final estimates, standard errors, fixed flags … are taken from the rows NONMEM
  designates for them": what results.py reports for a parameter label is the entry of the
  designated row iff the parameter is not fixed, for every assignment of fixed flags.
-/
namespace Pharmpy.C20

def notFixed (fix : FixMap) (l : Str) : Bool := lookupFix fix l == some false

/-- `ser[~fix]` keeps exactly the non-fixed labels with the values of the row. -/
theorem masked_row_lookup (ser r : Row) (fix : FixMap) (h : maskNotFixed ser fix = .ok r) (l : Str) :
    lookupRow r l = if notFixed fix l then lookupRow ser l else none := by
  unfold maskNotFixed at h
  split at h
  · simp only [Except.ok.injEq] at h
    subst h
    exact lookupRow_filter (fun a => lookupFix fix a == some false) l ser
  · cases h

/-- The filter succeeds whenever every label of the row has a flag; labels that have a flag but are
    not in the row (the THETAs, for the sd/corr rows -1000000004 and -1000000005) do not matter. -/
theorem mask_total (ser : Row) (fix : FixMap) (hdom : ∀ p ∈ ser, (lookupFix fix p.1).isSome = true) :
    ∃ r, maskNotFixed ser fix = .ok r := by
  refine ⟨ser.filter (fun p => lookupFix fix p.1 == some false), ?_⟩
  unfold maskNotFixed
  rw [if_pos]
  exact List.all_eq_true.mpr hdom

/-- `_parse_standard_errors` succeeds for every assignment of fixed flags (rows present, every
    label flagged): no standard error is lost and the covariance step is not reported as aborted
    because some parameter — e.g. a THETA — is fixed. -/
theorem standard_errors_total (se sd : Row) (fix : FixMap)
    (h1 : ∀ p ∈ se, (lookupFix fix p.1).isSome = true) (h2 : ∀ p ∈ sd, (lookupFix fix p.1).isSome = true) :
    ∃ ses sds, parseStandardErrors (some se) (some sd) fix = .ok (.ok ses sds) := by
  obtain ⟨r1, e1⟩ := mask_total se fix h1
  obtain ⟨r2, e2⟩ := mask_total sd fix h2
  exact ⟨r1, updateRow r1 r2, by simp [parseStandardErrors, e1, e2]⟩

/-- The reported standard error of a label is the entry of row -1000000001 iff the parameter is not
    fixed (absent otherwise); `standard_errors_sdcorr` is the same with the entry of row
    -1000000005 wherever that row has one (OMEGA/SIGMA). -/
theorem standard_errors_designated (se sd ses sds : Row) (fix : FixMap)
    (h : parseStandardErrors (some se) (some sd) fix = .ok (.ok ses sds)) (l : Str) :
    lookupRow ses l = (if notFixed fix l then lookupRow se l else none)
      ∧ lookupRow sds l = (if notFixed fix l then
          (lookupRow se l).map (prefer (lookupRow sd l))
        else none) := by
  cases e1 : maskNotFixed se fix with
  | error e => simp [parseStandardErrors, e1] at h
  | ok r1 =>
    cases e2 : maskNotFixed sd fix with
    | error e => simp [parseStandardErrors, e1, e2] at h
    | ok r2 =>
      simp only [parseStandardErrors, e1, e2, Except.ok.injEq, SEOut.ok.injEq] at h
      obtain ⟨rfl, rfl⟩ := h
      have a1 := masked_row_lookup se r1 fix e1 l
      have a2 := masked_row_lookup sd r2 fix e2 l
      refine ⟨a1, ?_⟩
      rw [lookupRow_updateRow, a1, a2]
      by_cases hn : notFixed fix l = true
      · simp only [hn, if_true]
      · simp [hn]

/-- Row -1000000001 absent: no standard errors, covariance step not flagged as aborted; row
    -1000000005 absent (and only then): flagged as aborted. -/
theorem standard_errors_abort_iff (se : Row) (sd : Option Row) (fix : FixMap)
    (h1 : ∀ p ∈ se, (lookupFix fix p.1).isSome = true)
    (h2 : ∀ s, sd = some s → ∀ p ∈ s, (lookupFix fix p.1).isSome = true) :
    parseStandardErrors (some se) sd fix = .ok .aborted ↔ sd = none := by
  obtain ⟨r1, e1⟩ := mask_total se fix h1
  cases sd with
  | none => simp [parseStandardErrors, e1]
  | some s =>
    obtain ⟨r2, e2⟩ := mask_total s fix (h2 s rfl)
    simp [parseStandardErrors, e1, e2]

/-- `parameter_estimates`: the entry of the final-estimates row for every label that is not a fixed
    parameter column, nothing for the fixed ones; `parameter_estimates_sdcorr` likewise with the
    entries of row -1000000004 where it has them. -/
theorem estimates_designated (final sd pe sdc : Row) (fix : FixMap) (cols : List Str)
    (h : parseEstimates final (some sd) fix cols = .ok (pe, sdc)) (l : Str) :
    lookupRow pe l = (if cols.contains l && (lookupFix fix l == some true) then none else lookupRow final l)
      ∧ lookupRow sdc l = (lookupRow pe l).map
          (prefer (if notFixed fix l then lookupRow sd l else none)) := by
  obtain ⟨rfl, r2, e2, rfl⟩ := parseEstimates_ok h
  have a1 := lookupRow_filter
    (fun a => !(cols.filter (fun c => lookupFix fix c == some true)).contains a) l final
  rw [contains_filter] at a1
  refine ⟨?_, by rw [lookupRow_updateRow, masked_row_lookup sd r2 fix e2 l]⟩
  rw [a1]
  cases cols.contains l && (lookupFix fix l == some true) <;> rfl

/-- Row -1000000004 absent: `parameter_estimates_sdcorr` is reported for exactly the parameters of
    `parameter_estimates`, every value missing (NaN) — it is indexed by parameter, not by anything
    else (df197aa). -/
theorem estimates_sdcorr_absent_row (final pe sdc : Row) (fix : FixMap) (cols : List Str)
    (h : parseEstimates final none fix cols = .ok (pe, sdc)) :
    sdc.map (·.1) = pe.map (·.1) ∧ ∀ p ∈ sdc, p.2 = none := by
  have h2 : sdc = pe.map fun p => (p.1, none) := (parseEstimates_ok h).2
  subst h2
  refine ⟨by rw [List.map_map]; rfl, fun p hp => ?_⟩
  obtain ⟨q, _, rfl⟩ := List.mem_map.mp hp
  rfl

end Pharmpy.C20
