import PharmpyModel.C20.Num
/-
  C20 — digits, and the number grammar on the cells of the reference writer.
-/
namespace Pharmpy.C20

theorem digitVal_digitChar {d : Nat} (h : d < 10) : digitVal (digitChar d) = d := by
  have : ∀ d : Fin 10, digitVal (digitChar d.val) = d.val := by decide
  exact this ⟨d, h⟩

theorem isDig_digitChar (d : Nat) : isDig (digitChar d) = true := by
  unfold digitChar
  split <;> decide

/-- Where a run of digits ends: `r` is empty or starts with a non-digit. -/
def StopsDigits (r : Str) : Prop := ∀ c t, r = c :: t → isDig c = false

theorem stops_nil : StopsDigits [] := by intro c t h; cases h
theorem stops_cons {c : Char} {t : Str} (h : isDig c = false) : StopsDigits (c :: t) := by
  intro c' t' e; cases e; exact h

theorem valDigits_snoc (ds : Str) (c : Char) :
    valDigits (ds ++ [c]) = 10 * valDigits ds + digitVal c := by
  simp [valDigits]

theorem padDigits_length (k n : Nat) : (padDigits k n).length = k := by
  induction k generalizing n with
  | zero => rfl
  | succ k ih => simp [padDigits, ih]

theorem padDigits_allDig (k n : Nat) : ∀ c ∈ padDigits k n, isDig c = true := by
  induction k generalizing n with
  | zero => intro c h; cases h
  | succ k ih =>
    intro c h
    rcases List.mem_append.mp h with h | h
    · exact ih _ c h
    · rw [List.mem_singleton.mp h]; exact isDig_digitChar _

theorem valDigits_append_padDigits (a : Str) (k n : Nat) :
    valDigits (a ++ padDigits k n) = valDigits a * 10 ^ k + n % 10 ^ k := by
  induction k generalizing n with
  | zero => simp [padDigits, Nat.mod_one]
  | succ k ih =>
    rw [padDigits, ← List.append_assoc, valDigits_snoc, ih,
      digitVal_digitChar (Nat.mod_lt _ (by decide)), Nat.pow_succ, Nat.mul_comm (10 ^ k) 10,
      Nat.mod_mul, Nat.mul_left_comm]
    omega

theorem valDigits_padDigits (k n : Nat) : valDigits (padDigits k n) = n % 10 ^ k := by
  simpa [valDigits] using valDigits_append_padDigits [] k n

theorem valDigits_dropZeros (ds : Str) : valDigits (ds.dropWhile (· == '0')) = valDigits ds := by
  induction ds with
  | nil => rfl
  | cons c cs ih =>
    rw [List.dropWhile_cons]
    split
    · rename_i h
      rw [ih, eq_of_beq h]
      rfl
    · rfl

theorem valDigits_natDigits (n : Nat) : valDigits (natDigits n) = n := by
  unfold natDigits
  split
  · rename_i h; subst h; rfl
  · rw [valDigits_dropZeros, valDigits_padDigits, Nat.mod_eq_of_lt]
    exact Nat.lt_of_lt_of_le Nat.lt_log2_self (Nat.pow_le_pow_left (by decide) _)

theorem natDigits_allDig (n : Nat) : ∀ c ∈ natDigits n, isDig c = true := by
  unfold natDigits
  split
  · intro c h; rw [List.mem_singleton.mp h]; rfl
  · intro c h
    exact padDigits_allDig _ _ c ((List.dropWhile_suffix _).subset h)

theorem natDigits_ne_nil (n : Nat) : natDigits n ≠ [] := by
  intro h
  have hv := valDigits_natDigits n
  rw [h] at hv
  subst hv
  cases h

theorem natDigits_cons (n : Nat) : ∃ c t, natDigits n = c :: t ∧ isDig c = true := by
  cases h : natDigits n with
  | nil => exact absurd h (natDigits_ne_nil n)
  | cons c t => exact ⟨c, t, rfl, natDigits_allDig n c (by rw [h]; exact List.mem_cons_self)⟩

theorem natDigits_injective {a b : Nat} (h : natDigits a = natDigits b) : a = b := by
  rw [← valDigits_natDigits a, ← valDigits_natDigits b, h]

theorem takeDigits_append (ds r : Str) (hd : ∀ c ∈ ds, isDig c = true) (hr : StopsDigits r) :
    takeDigits (ds ++ r) = (ds, r) := by
  induction ds with
  | nil =>
    cases r with
    | nil => rfl
    | cons c t => simp [takeDigits, hr c t rfl]
  | cons c cs ih =>
    simp [takeDigits, hd c List.mem_cons_self, ih fun x hx => hd x (List.mem_cons_of_mem _ hx)]

theorem takeDigits_all (ds : Str) (hd : ∀ c ∈ ds, isDig c = true) : takeDigits ds = (ds, []) := by
  simpa using takeDigits_append ds [] hd stops_nil

theorem parseFrac_dot (fp ex : Str) (hfp : ∀ c ∈ fp, isDig c = true) (hstop : StopsDigits ex) :
    parseFrac ('.' :: (fp ++ ex)) = (fp, ex) :=
  takeDigits_append _ _ hfp hstop

/-- A token: sign, integer digits, then a remainder that `parseFrac` splits into fraction digits
    and an exponent part. -/
theorem parseNum_signed (neg : Bool) (ip rest fp ex : Str) (x : Int)
    (hip : ∀ c ∈ ip, isDig c = true) (hne : ip ≠ []) (hstop : StopsDigits rest)
    (hfr : parseFrac rest = (fp, ex)) (hex : parseExp ex = some x) :
    parseNum (signStr neg ++ ip ++ rest)
      = some ⟨if neg then -(valDigits (ip ++ fp) : Int) else (valDigits (ip ++ fp) : Int),
              x - (fp.length : Int)⟩ := by
  cases ip with
  | nil => exact absurd rfl hne
  | cons c t =>
    have hc := hip c List.mem_cons_self
    -- a digit is neither `-` nor `+`
    have h1 : parseSign (signStr neg ++ (c :: t) ++ rest) = (neg, (c :: t) ++ rest) := by
      cases neg with
      | true => rfl
      | false =>
        show parseSign (c :: (t ++ rest)) = _
        unfold parseSign
        split
        · rename_i h; cases h; cases hc
        · rename_i h; cases h; cases hc
        · rfl
    have h2 := takeDigits_append _ _ hip hstop
    unfold parseNum
    simp only [h1, h2, hfr, hex]
    simp

theorem expDigits_spec (a : Nat) :
    (∀ c ∈ expDigits a, isDig c = true) ∧ expDigits a ≠ [] ∧ valDigits (expDigits a) = a := by
  unfold expDigits; split
  · rename_i h
    refine ⟨padDigits_allDig _ _, fun e => ?_, ?_⟩
    · cases congrArg List.length e
    · rw [valDigits_padDigits]; exact Nat.mod_eq_of_lt h
  · exact ⟨natDigits_allDig _, natDigits_ne_nil _, valDigits_natDigits _⟩

theorem parseExp_render (exp : Int) :
    parseExp ('E' :: (if exp < 0 then '-' else '+') :: expDigits exp.natAbs) = some exp := by
  have hs : parseSign ((if exp < 0 then '-' else '+') :: expDigits exp.natAbs)
      = (decide (exp < 0), expDigits exp.natAbs) := by
    split <;> simp [parseSign, *]
  obtain ⟨hd, hne, hv⟩ := expDigits_spec exp.natAbs
  simp only [parseExp, hs, takeDigits_all _ hd, hv, beq_self_eq_true, Bool.true_or, if_true]
  simp only [List.isEmpty_iff, hne, List.isEmpty_nil, Bool.not_true, Bool.or_false,
    if_false, decide_eq_true_eq, Option.some.injEq]
  omega

theorem renderCell_int (i : Int) :
    renderCell (.int i) = signStr (decide (i < 0)) ++ natDigits i.natAbs := by
  cases i with
  | ofNat n => rfl
  | negSucc n => simp [renderCell, signStr, Int.negSucc_lt_zero, Int.neg_negSucc]

theorem parseNum_int (i : Int) : parseNum (renderCell (.int i)) = some ⟨i, 0⟩ := by
  have h := parseNum_signed (decide (i < 0)) (natDigits i.natAbs) [] [] [] 0
    (natDigits_allDig _) (natDigits_ne_nil _) stops_nil rfl rfl
  rw [renderCell_int, ← List.append_nil (_ ++ _), h, List.append_nil, valDigits_natDigits]
  simp only [decide_eq_true_eq, List.length_nil, Option.some.injEq, Dec.mk.injEq]
  omega

theorem parseNum_sci (neg : Bool) (d mant : Nat) (exp : Int) (hm : mant < 10 ^ (d + 1)) :
    parseNum (renderCell (.sci neg d mant exp)) = cellDec (.sci neg d mant exp) := by
  have h := parseNum_signed neg (padDigits 1 (mant / 10 ^ d)) _ _ _ exp
    (padDigits_allDig _ _) (by intro h; cases congrArg List.length h) (stops_cons rfl)
    (parseFrac_dot (padDigits d mant) _ (padDigits_allDig _ _) (stops_cons rfl)) (parseExp_render exp)
  -- the leading digit is `mant / 10^d < 10`, so the `% 10` of the padding does nothing
  have hv : valDigits (padDigits 1 (mant / 10 ^ d) ++ padDigits d mant) = mant := by
    rw [valDigits_append_padDigits, valDigits_padDigits,
      Nat.mod_eq_of_lt (by rw [Nat.pow_one]; exact Nat.div_lt_of_lt_mul (by rwa [Nat.pow_succ] at hm)),
      Nat.div_add_mod']
  rw [hv, padDigits_length] at h
  simpa [renderCell, cellDec] using h

theorem parseNum_fix (neg : Bool) (ip k fp : Nat) :
    parseNum (renderCell (.fix neg ip k fp)) = cellDec (.fix neg ip k fp) := by
  have h := parseNum_signed neg (natDigits ip) _ _ [] 0 (natDigits_allDig _) (natDigits_ne_nil _)
    (stops_cons rfl) (parseFrac_dot (padDigits k fp) [] (padDigits_allDig _ _) stops_nil) rfl
  rw [valDigits_append_padDigits, valDigits_natDigits, padDigits_length] at h
  simpa [renderCell, cellDec] using h

theorem numeric_cell_head (cell : Cell) (hnum : ∀ s, cell ≠ .label s) :
    ∃ c t, renderCell cell = c :: t ∧ (isDig c = true ∨ c = '-') := by
  have hsigned : ∀ (neg : Bool) (n : Nat) (r : Str),
      ∃ c t, signStr neg ++ natDigits n ++ r = c :: t ∧ (isDig c = true ∨ c = '-') := by
    intro neg n r
    cases neg with
    | true => exact ⟨'-', _, rfl, Or.inr rfl⟩
    | false =>
      obtain ⟨c, t, h1, h2⟩ := natDigits_cons n
      exact ⟨c, t ++ r, by rw [h1]; rfl, Or.inl h2⟩
  cases cell with
  | label s => exact absurd rfl (hnum s)
  | int i => rw [renderCell_int, ← List.append_nil (_ ++ _)]; exact hsigned _ _ _
  | fix neg ip k fp => exact hsigned neg ip _
  | sci neg d mant exp =>
    cases neg with
    | true => exact ⟨'-', _, rfl, Or.inr rfl⟩
    | false => exact ⟨digitChar (mant / 10 ^ d % 10), _, rfl, Or.inl (isDig_digitChar _)⟩

end Pharmpy.C20
