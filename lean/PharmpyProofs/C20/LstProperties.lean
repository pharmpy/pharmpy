import PharmpyModel.C20.Lst
/-
  C20 — "numbers pharmpy reports from a NONMEM run are the numbers in the output files": what is
  reported for table number n of a run comes from the blocks of THAT run's .lst file only.
-/
namespace Pharmpy.C20

variable {β : Type}

theorem lookupBlock_cons (p : Nat × β) (t : LstTable β) (n : Nat) :
    lookupBlock (p :: t) n = if p.1 == n then some p.2 else lookupBlock t n := by
  cases h : p.1 == n <;> simp [lookupBlock, h]

theorem lookupBlock_replace (t : LstTable β) (b : Nat × β) (n : Nat) (hb : ¬ (b.1 == n) = true) :
    lookupBlock (t.map fun p => if p.1 == b.1 then b else p) n = lookupBlock t n := by
  induction t with
  | nil => rfl
  | cons p t ih =>
    rw [List.map_cons, lookupBlock_cons, lookupBlock_cons, ih]
    by_cases hp : (p.1 == b.1) = true
    · rw [if_pos hp, eq_of_beq hp, if_neg hb, if_neg hb]
    · rw [if_neg hp]

theorem assignBlock_cons (p b : Nat × β) (t : LstTable β) :
    assignBlock (p :: t) b
      = if p.1 == b.1 then b :: t.map (fun q => if q.1 == b.1 then b else q) else p :: assignBlock t b := by
  by_cases hp : (p.1 == b.1) = true
  · rw [if_pos hp, assignBlock, List.any_cons, hp, Bool.true_or, if_pos rfl, List.map_cons, if_pos hp]
  · rw [if_neg hp, assignBlock, List.any_cons, Bool.eq_false_iff.mpr hp, Bool.false_or, List.map_cons,
      if_neg hp, assignBlock]
    split <;> rfl

theorem lookup_assign (t : LstTable β) (b : Nat × β) (n : Nat) :
    lookupBlock (assignBlock t b) n = if b.1 == n then some b.2 else lookupBlock t n := by
  induction t with
  | nil => exact lookupBlock_cons b [] n
  | cons p t ih =>
    rw [assignBlock_cons]
    by_cases hp : (p.1 == b.1) = true
    · rw [if_pos hp, lookupBlock_cons, lookupBlock_cons, eq_of_beq hp]
      by_cases hb : (b.1 == n) = true
      · simp only [if_pos hb]
      · simp only [if_neg hb, lookupBlock_replace t b n hb]
    · rw [if_neg hp, lookupBlock_cons, ih, lookupBlock_cons]
      -- `p.1 ≠ b.1`: if `b.1 = n` then `p.1 ≠ n`
      grind

/-- Table number n after the blocks of a file are assigned on top of a dictionary `init`: the LAST
    block of the file with that number, whatever `init` held; the entry of `init` if the file has none. -/
theorem lst_lookup_from (init : LstTable β) (blocks : List (Nat × β)) (n : Nat) :
    lookupBlock (lstTableFrom init blocks) n
      = match blocks.reverse.find? (fun p => p.1 == n) with
        | some b => some b.2
        | none => lookupBlock init n := by
  induction blocks generalizing init with
  | nil => simp [lstTableFrom]
  | cons b blocks ih =>
    simp only [lstTableFrom, List.foldl_cons] at ih ⊢
    rw [ih (assignBlock init b), List.reverse_cons, List.find?_append]
    cases hr : blocks.reverse.find? (fun p => p.1 == n) with
    | some c => simp
    | none =>
      simp only [Option.none_or, List.find?_cons, List.find?_nil, lookup_assign]
      by_cases hb : (b.1 == n) = true <;> simp [hb]

/-- A table number that the run's .lst file does not contain has NO entry (KeyError → the run is
    reported with False / NaN for it), in particular in a file cut off before its first `#TBLN:`. -/
theorem lst_missing_block (blocks : List (Nat × β)) (n : Nat) (h : ∀ b ∈ blocks, b.1 ≠ n) :
    lookupBlock (lstTable blocks) n = none := by
  unfold lstTable
  rw [lst_lookup_from]
  have : blocks.reverse.find? (fun p => p.1 == n) = none := by
    apply List.find?_eq_none.mpr
    intro q hq
    have := h q (List.mem_reverse.mp hq)
    simpa using this
  simp [this, lookupBlock]

/-- History independence: the i-th run of any sequence read in one process is read exactly as if it
    were read alone. -/
theorem lst_history_independent (before after : List (List (Nat × β))) (run : List (Nat × β)) :
    (readRuns (before ++ run :: after))[before.length]? = some (lstTable run) := by
  simp [readRuns]

/-- With one dictionary shared by all instances this fails: after a complete run, a run whose file
    has no block answers with the other run's block. -/
theorem lst_shared_state_witness :
    (readRunsShared [] [[(1, 107)], []])[1]? = some [(1, 107)]
      ∧ (readRuns [[(1, 107)], ([] : List (Nat × Nat))])[1]? = some [] := by
  decide

end Pharmpy.C20
