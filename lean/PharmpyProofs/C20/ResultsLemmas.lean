import PharmpyModel.C20.Results
/-
  C20 — label → value rows: lookup after filtering by label and after `update`.
-/
namespace Pharmpy.C20

theorem lookupRow_cons (p : Str × Option Str) (r : Row) (a : Str) :
    lookupRow (p :: r) a = if p.1 == a then some p.2 else lookupRow r a := by
  cases h : p.1 == a <;> simp [lookupRow, h]

theorem lookupRow_filter (q : Str → Bool) (a : Str) (r : Row) :
    lookupRow (r.filter (fun p => q p.1)) a = if q a then lookupRow r a else none := by
  induction r with
  | nil => simp [lookupRow]
  | cons p r ih =>
    -- an entry with the label `a` decides `q a`; any other entry is skipped, kept or not
    rw [List.filter_cons, lookupRow_cons]
    by_cases hpa : (p.1 == a) = true
    · obtain rfl := eq_of_beq hpa
      cases hq : q p.1 <;> simp [lookupRow_cons, ih, hq]
    · cases hq : q p.1 <;> simp [lookupRow_cons, ih, hpa]

/-- the value `update` leaves: the other row's value when it has a non-missing one -/
def prefer (o : Option (Option Str)) (b : Option Str) : Option Str :=
  match o with
  | some (some v) => some v
  | _ => b

theorem updateRow_eq (base other : Row) :
    updateRow base other = base.map fun p => (p.1, prefer (lookupRow other p.1) p.2) := by
  refine List.map_congr_left fun p _ => ?_
  unfold prefer
  split <;> simp [*]

theorem lookupRow_updateRow (base other : Row) (a : Str) :
    lookupRow (updateRow base other) a
      = (lookupRow base a).map (prefer (lookupRow other a)) := by
  rw [updateRow_eq]
  induction base with
  | nil => rfl
  | cons p base ih =>
    simp only [lookupRow, List.map_cons, List.find?_cons] at ih ⊢
    cases hpa : p.1 == a
    · exact ih
    · rw [eq_of_beq hpa]; rfl

theorem contains_filter (p : Str → Bool) (cols : List Str) (a : Str) :
    (cols.filter p).contains a = (cols.contains a && p a) := by
  rw [Bool.eq_iff_iff]; simp [List.mem_filter]

theorem parseEstimates_ok {final : Row} {sdcorr : Option Row} {fix : FixMap} {cols : List Str}
    {pe sdc : Row} (h : parseEstimates final sdcorr fix cols = .ok (pe, sdc)) :
    pe = final.filter (fun p => !(cols.filter (fun c => lookupFix fix c == some true)).contains p.1)
      ∧ match sdcorr with
        | none => sdc = pe.map (fun p => (p.1, none))
        | some s => ∃ s', maskNotFixed s fix = .ok s' ∧ sdc = updateRow pe s' := by
  by_cases hc1 : (cols.all fun c => (lookupFix fix c).isSome) = true
  · by_cases hc2 : ((cols.filter fun c => lookupFix fix c == some true).all
        fun c => (lookupRow final c).isSome) = true
    · simp only [parseEstimates, hc1, hc2, if_true] at h
      cases sdcorr with
      | none => cases h; exact ⟨rfl, rfl⟩
      | some s =>
        cases e : maskNotFixed s fix with
        | error e' => simp [e] at h
        | ok s' => simp only [e] at h; cases h; exact ⟨rfl, s', e, rfl⟩
    · simp [parseEstimates, hc1, hc2] at h
  · simp [parseEstimates, hc1] at h

end Pharmpy.C20
