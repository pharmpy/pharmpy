/-
  C20 — "final estimates … and objective values are taken from the rows NONMEM designates for them":
  `_get_iter_df` + `_parse_ofv` on the .ext table of the last estimation step.
-/
import PharmpyModel.C20.IterDf
namespace Pharmpy.C20.IterDf

theorem indexed_mem {rows : List InRow} {q : Nat × InRow} (h : q ∈ indexed rows) : q.2 ∈ rows := by
  obtain ⟨p, hp, rfl⟩ := List.mem_map.mp h
  exact List.fst_mem_of_mem_zipIdx hp

theorem indexed_none {p : InRow → Bool} {rows : List InRow} (h : rows.any p = false) :
    ∀ q ∈ indexed rows, ¬ p q.2 = true :=
  fun q hq => List.any_eq_false.mp h q.2 (indexed_mem hq)

/-- The result rows of `_get_iter_df` all carry a non-negative ITERATION. -/
theorem iter_rows_nonneg (rows : List InRow) (out : List OutRow) (h : getIterDf rows = .ok out)
    (hz : rows.any (fun r => r.iter == 0) = true) : ∀ o ∈ out, o.iter ≥ 0 := by
  unfold getIterDf at h
  simp only [hz, Bool.not_true, Bool.false_and, Bool.false_eq_true, ↓reduceIte] at h
  split at h
  · cases h
  · simp only [Out.ok.injEq] at h
    subst h
    intro o ho
    have := (List.mem_filter.mp ho).2
    simpa using this

/-- When the designated row agrees with the last iteration (the normal end of a run) the history is
    exactly the rows of the file with ITERATION ≥ 0, in file order: none added, none relabelled. -/
theorem iter_rows_are_file_rows (rows : List InRow) (lastq : Nat × InRow)
    (hz : rows.any (fun r => r.iter == 0) = true)
    (hl : lastWhere (fun r => r.iter ≥ 0) rows = some lastq)
    (hagree : objNe (finalObjOf rows) lastq.2.obj = false) :
    getIterDf rows = .ok (((indexed rows).map (fun q => (⟨q.2.iter, some q.1⟩ : OutRow))).filter (fun o => o.iter ≥ 0)) := by
  unfold getIterDf
  simp only [hz, Bool.not_true, Bool.false_and, Bool.false_eq_true, ↓reduceIte, hl]
  rw [if_neg (by rw [hagree]; simp)]

theorem objNe_false_iff (a b : Obj) : objNe a b = false ↔ ∃ v, a = some v ∧ b = some v := by
  cases a with
  | none => simp [objNe]
  | some x =>
    cases b with
    | none => simp [objNe]
    | some y => simp [objNe]; exact eq_comm

/-- **Designated row, partial.**  If the frame has iteration 0, a last non-negative iteration whose
    OBJ is a number, and the one row -1000000000 has that same OBJ, that OBJ is the reported final
    objective value (`hsrc`, `hlastout` say where the last row of the history comes from). -/
theorem final_ofv_designated_partial (rows : List InRow) (lastq fq : Nat × InRow) (v : Int)
    (hz : rows.any (fun r => r.iter == 0) = true)
    (hl : lastWhere (fun r => r.iter ≥ 0) rows = some lastq)
    (hf1 : firstWhere (fun r => r.iter == FINAL) rows = some fq)
    (hfl : lastWhere (fun r => r.iter == FINAL) rows = some fq)            -- one designated row
    (hv : fq.2.obj = some v) (hlast : lastq.2.obj = some v)
    (hsrc : rows[lastq.1]? = some lastq.2)
    (hlastout : ((((indexed rows).map (fun q => (⟨q.2.iter, some q.1⟩ : OutRow))).filter (fun o => o.iter ≥ 0)).getLast?) = some ⟨lastq.2.iter, some lastq.1⟩) :
    reportedFinalOfv rows = some (some v) := by
  have hagree : objNe (finalObjOf rows) lastq.2.obj = false := by
    simp [finalObjOf, hfl, hv, hlast, objNe]
  unfold reportedFinalOfv
  rw [iter_rows_are_file_rows rows lastq hz hl hagree]
  simp only [hlastout, outObj, hsrc, Option.bind_some, hlast, Option.isNone_some, Bool.false_eq_true, ↓reduceIte]
  simp [tableFinalOfv, hf1, hv]

/-- The hypotheses of `final_ofv_designated_partial` are met by an ordinary table. -/
example : reportedFinalOfv [⟨0, some 5⟩, ⟨10, some 3⟩, ⟨FINAL, some 3⟩, ⟨FINAL - 1, some 0⟩] = some (some 3) := by decide

/-- **The full statement is false of the code** (Bayesian / importance-sampling steps, where the
    designated row holds an average that differs from the last iteration): the row -1000000000 says
    2, pharmpy reports NaN, and the history gets that row as iteration 11 and then a row of NaNs. -/
theorem final_ofv_designated_false_witness :
    let rows : List InRow := [⟨0, some 5⟩, ⟨10, some 3⟩, ⟨FINAL, some 2⟩, ⟨FINAL - 1, some 0⟩]
    tableFinalOfv rows = some 2 ∧ reportedFinalOfv rows = some none ∧
    getIterDf rows = .ok [⟨0, some 0⟩, ⟨10, some 1⟩, ⟨11, some 2⟩, ⟨12, none⟩] := by decide

/-- No designated row (an interrupted run): NaN is reported and the history ends with a row of NaNs. -/
theorem no_designated_row_nan (rows : List InRow) (lastq : Nat × InRow)
    (hz : rows.any (fun r => r.iter == 0) = true)
    (hnf : rows.any (fun r => r.iter == FINAL) = false)
    (hl : lastWhere (fun r => r.iter ≥ 0) rows = some lastq) :
    reportedFinalOfv rows = some none := by
  have hlw : lastWhere (fun r => r.iter == FINAL) rows = none := by
    rw [lastWhere, List.filter_eq_nil_iff.mpr (indexed_none hnf)]; rfl
  have hfw : firstWhere (fun r => r.iter == FINAL) rows = none :=
    List.find?_eq_none.mpr (indexed_none hnf)
  unfold reportedFinalOfv getIterDf
  simp only [hz, Bool.not_true, Bool.false_and, Bool.false_eq_true, ↓reduceIte, hl, finalObjOf, hlw, hfw, objNe]
  have hn : (0 : Int) ≤ lastq.2.iter + 1 := by
    have : lastq.2.iter ≥ 0 := by
      unfold lastWhere at hl
      have hm := List.mem_of_getLast? hl
      have := (List.mem_filter.mp hm).2
      simpa using this
    omega
  simp [List.filter_append, hn, outObj]

/-- No iteration 0 but a designated row (evaluation only; a step printed without iteration 0): the
    history is the designated row as iteration 0, wherever it stands in the file. -/
theorem no_zero_designated (rows : List InRow) (fq : Nat × InRow)
    (hz : rows.any (fun x => x.iter == 0) = false)
    (hone : (indexed rows).filter (fun q => q.2.iter == FINAL) = [fq]) :
    getIterDf rows = .ok [⟨0, some fq.1⟩] := by
  have hf : rows.any (fun x => x.iter == FINAL) = true := by
    have hm := List.mem_filter.mp (hone ▸ List.mem_singleton_self fq)
    exact List.any_eq_true.mpr ⟨fq.2, indexed_mem hm.1, hm.2⟩
  unfold getIterDf
  simp only [hz, hf, Bool.not_false, Bool.and_self, ↓reduceIte, hone, List.map_nil]

/-- … and the reported final objective value is then the OBJ of the designated row. -/
theorem no_zero_designated_ofv (rows : List InRow) (fq : Nat × InRow) (v : Int)
    (hz : rows.any (fun x => x.iter == 0) = false)
    (hone : (indexed rows).filter (fun q => q.2.iter == FINAL) = [fq])
    (hsrc : rows[fq.1]? = some fq.2) (hv : fq.2.obj = some v)
    (hfirst : firstWhere (fun r => r.iter == FINAL) rows = some fq) :
    reportedFinalOfv rows = some (some v) := by
  unfold reportedFinalOfv
  rw [no_zero_designated rows fq hz hone]
  simp [outObj, hsrc, hv, tableFinalOfv, hfirst]

example : reportedFinalOfv [⟨1, some 1⟩, ⟨18, some 6⟩, ⟨30, some 3⟩, ⟨FINAL, some 3⟩, ⟨FINAL - 1, some 0⟩] = some (some 3) := by decide

/-- When the label 0, not the position, was addressed (`firstBranchOld`): with the designated row
    anywhere but first the history ended in a row of NaNs. -/
theorem first_branch_old_witness :
    firstBranchOld [⟨1, some 1⟩, ⟨30, some 3⟩, ⟨FINAL, some 3⟩] = [⟨FINAL, some 2⟩, ⟨0, none⟩] ∧
    getIterDf [⟨1, some 1⟩, ⟨30, some 3⟩, ⟨FINAL, some 3⟩] = .ok [⟨0, some 2⟩] := by decide

end Pharmpy.C20.IterDf
