import PharmpyProofs.C20.JsonLemmas
/-
  C20 — "Results objects survive a JSON round trip": the table form used inside results.json
  keeps (index names, index labels, column labels, cells) of every labelled table.
-/
namespace Pharmpy.C20

variable {α : Type} [DecidableEq α]

/-- A table pandas can write in `orient='table'` form and that keeps its level names: field names
    pairwise different (pandas refuses overlapping index/column names), named levels not called
    like the placeholders for unnamed ones, index labels pairwise different, rectangular. -/
structure Encodable (t : LTable α) : Prop where
  nodup : (jsonIndexNames t.indexNames ++ t.cols).Nodup
  named : ∀ n ∈ t.indexNames, ∀ s, n = some s → isReserved (t.indexNames.length == 1) s = false
  uniq : t.index.Nodup
  rows : t.index.length = t.cells.length
  idxw : ∀ r ∈ t.index, r.length = t.indexNames.length
  celw : ∀ r ∈ t.cells, r.length = t.cols.length

/-- **decode (encode t) = t** for every labelled table: any number of index levels (named or
    not), any index labels — whatever kind of index they came from (a range with any start and
    step, non-contiguous integers, (ID, TIME) pairs, no rows at all) — any columns, any cells.
    An encoder that leaves the index labels out of the records cannot satisfy this. -/
theorem json_table_roundtrip (t : LTable α) (h : Encodable t) :
    decodeTable (encodeTable t) = t.some := by
  have hlen : (jsonIndexNames t.indexNames).length = t.indexNames.length :=
    jsonNamesFrom_length _ _ _
  have hdis : ∀ c ∈ t.cols, c ∉ jsonIndexNames t.indexNames :=
    fun c hc hm => (List.nodup_append.mp h.nodup).2.2 c hm c hc rfl
  -- every record gives back the index labels and the cells of its row
  have hrow := fun r (hr : r ∈ t.index.zip t.cells) =>
    lookup_record _ _ r.1 r.2 h.nodup (by rw [h.idxw _ (List.of_mem_zip hr).1, hlen])
      (h.celw _ (List.of_mem_zip hr).2)
  simp only [decodeTable, encodeTable, LTable.some, h.uniq, if_true, filter_not_contains _ _ hdis,
    hlen, List.map_map]
  congr 1
  · exact restore_jsonNamesFrom _ 0 _ h.named
  · rw [← map_zip_fst t.index t.cells _ h.rows]
    exact List.map_congr_left fun r hr => (hrow r hr).1
  · rw [← map_zip_snd t.index t.cells _ h.rows]
    exact List.map_congr_left fun r hr => (hrow r hr).2

/-- Every record of the encoding carries, under the primary-key names, the index labels of its row. -/
theorem json_index_stored (t : LTable α) (h : Encodable t) :
    (encodeTable t).data.map (fun r => (encodeTable t).primaryKey.map (fun k => lookupKey k r))
      = t.index.map (·.map some) := by
  have := congrArg LTable.index (json_table_roundtrip t h)
  simpa [decodeTable, LTable.some] using this

/-- Non-vacuity: a frame with the index `RangeIndex(1, 7, 2)` (observation rows 1, 3, 5 of a sparse
    design) and two columns is encodable. -/
example : Encodable (⟨[none], [[1], [3], [5]], [['R', 'E', 'S'], ['W', 'R', 'E', 'S']],
    [[10, 11], [12, 13], [14, 15]]⟩ : LTable Nat) :=
  ⟨by decide, by decide, by decide, by decide, by decide, by decide⟩

/-- Without the naming condition the statement is false: a single index level that is really
    called `index` comes back unnamed. -/
theorem json_reserved_name_witness :
    decodeTable (encodeTable (⟨[some indexLit], [[1]], [['A']], [[2]]⟩ : LTable Nat))
      ≠ (⟨[some indexLit], [[1]], [['A']], [[2]]⟩ : LTable Nat).some := by
  decide

/-- …and without uniqueness of the index labels it is false as well: pandas then writes no primary
    key, and the labels come back as an ordinary column `index` of a table without index. -/
theorem json_duplicate_labels_witness :
    decodeTable (encodeTable (⟨[none], [[2], [2]], [['A']], [[5], [6]]⟩ : LTable Nat))
      ≠ (⟨[none], [[2], [2]], [['A']], [[5], [6]]⟩ : LTable Nat).some := by
  decide

end Pharmpy.C20
