import PharmpyModel.C03.Model
namespace Pharmpy.C03

/-- Case split on one `if` of a hypothesis without evaluating its condition (`canonicalName` tests string
    literals). -/
theorem of_ite_eq {α : Type} {c : Prop} [Decidable c] {x y v : α} {P : Prop}
    (h : (if c then x else y) = v) (hx : x = v → P) (hy : y = v → P) : P := by
  split at h
  · exact hx h
  · exact hy h

/-- Stated on `take`/`drop`, so that it serves every `slice` defined that way. -/
theorem take_drop_append {α : Type} (l : List α) {i j k : Nat} (hij : i ≤ j) (hjk : j ≤ k) :
    (l.drop i).take (j - i) ++ (l.drop j).take (k - j) = (l.drop i).take (k - i) := by
  obtain ⟨a, rfl⟩ := Nat.exists_eq_add_of_le hij
  obtain ⟨b, rfl⟩ := Nat.exists_eq_add_of_le hjk
  rw [Nat.add_sub_cancel_left, Nat.add_sub_cancel_left, Nat.add_assoc, Nat.add_sub_cancel_left,
    List.take_add, List.drop_drop]

theorem slice_append (s : Str) (i j k : Nat) (hij : i ≤ j) (hjk : j ≤ k) :
    slice s i j ++ slice s j k = slice s i k :=
  take_drop_append s hij hjk

theorem slice_of_le (s : Str) (i j : Nat) (h : j ≤ i) : slice s i j = [] := by
  rw [slice, Nat.sub_eq_zero_of_le h, List.take_zero]

theorem slice_full (s : Str) : slice s 0 s.length = s :=
  List.take_length

/-- Pieces alternate `sep, chunk, sep, chunk, …` with well-formed separators. -/
def sepChunks : List Str → Bool
  | [] => true
  | [_] => false
  | s :: _ :: rest => isSep s && sepChunks rest

/-- The text before a position is empty or ends with a line feed (`^` under MULTILINE). -/
def atLineStart (pre : Str) : Bool := pre.getLast? == none || pre.getLast? == some '\n'

/-- Every separator of `sep :: chunk :: …` begins at a line start of the whole text
    (`pre` = text before the list). -/
def sepsAtLineStart : Str → List Str → Bool
  | _, [] => true
  | _, [_] => true
  | pre, sep :: chunk :: rest => atLineStart pre && sepsAtLineStart (pre ++ sep ++ chunk) rest

theorem isSep_blanks (b : Str) (hb : b.all isBlank = true) : isSep (b ++ ['$']) = true := by
  induction b with
  | nil => rfl
  | cons c cs ih =>
    rw [List.all_cons, Bool.and_eq_true] at hb
    cases cs with
    | nil => simp [isSep, hb.1]
    | cons d ds => simpa [isSep, hb.1] using ih hb.2

/-- The scanner's invariant: `r.1` completes the current piece, `r.2` are the pieces after it, `pre` is the
    text before `r.1`, `total` the text still to be read. -/
def Scanned (pre : Str) (r : Str × List Str) (total : Str) : Prop :=
  r.1 ++ r.2.flatten = total ∧ sepChunks r.2 = true ∧ sepsAtLineStart (pre ++ r.1) r.2 = true

theorem Scanned.extend {pre total : Str} {r : Str × List Str} (x : Str) (c : Char)
    (h : Scanned (pre ++ x ++ [c]) r total) : Scanned pre (x ++ c :: r.1, r.2) (x ++ c :: total) :=
  ⟨by simp [← h.1], h.2.1, by simpa using h.2.2⟩

theorem Scanned.sep {pre b total : Str} {r : Str × List Str} (hb : b.all isBlank = true)
    (hl : atLineStart pre = true) (h : Scanned (pre ++ (b ++ ['$'])) r total) :
    Scanned pre ([], (b ++ ['$']) :: r.1 :: r.2) (b ++ '$' :: total) :=
  ⟨by simp [← h.1], by simp [sepChunks, isSep_blanks b hb, h.2.1], by simpa [sepsAtLineStart, hl] using h.2.2⟩

theorem splitGo_scanned (pend : Option Str) (l : Str) : ∀ (pre : Str),
    (∀ b, pend = some b → b.all isBlank = true ∧ atLineStart pre = true) →
    Scanned pre (splitGo pend l) (pend.getD [] ++ l) := by
  have lf (p : Str) (c : Char) (hc : (c == '\n') = true) :
      ∀ b, some [] = some b → b.all isBlank = true ∧ atLineStart (p ++ [c]) = true := by
    rintro _ ⟨⟩; simp [atLineStart, eq_of_beq hc]
  fun_induction splitGo pend l with
  | case1 pend => intro pre _; simp [Scanned, sepChunks, sepsAtLineStart]
  | case2 b c cs hc r ih =>
    intro pre hp
    cases eq_of_beq hc
    exact (ih _ nofun).sep (hp b rfl).1 (hp b rfl).2
  | case3 b c cs _ hc ih =>
    intro pre hp
    rw [Option.getD_some, List.append_cons b c cs]
    exact ih pre (by rintro _ ⟨⟩; simp [hp b rfl, hc])
  | case4 b c cs _ _ hc r ih => intro pre hp; exact (ih _ (lf _ c hc)).extend b c
  | case5 b c cs _ _ _ r ih => intro pre hp; exact (ih _ nofun).extend b c
  | case6 c cs hc r ih => intro pre hp; exact (ih _ (lf _ c hc)).extend [] c
  | case7 c cs _ r ih => intro pre hp; exact (ih _ nofun).extend [] c

theorem splitRecords_scanned (t : Str) : Scanned [] (splitGo (some []) t) t :=
  splitGo_scanned (some []) t [] (by rintro _ ⟨⟩; exact ⟨rfl, rfl⟩)

theorem splitGo_blank_run (b : Str) : ∀ (b0 v : Str), b.all isBlank = true →
    splitGo (some b0) (b ++ '$' :: v) =
      ([], (b0 ++ b ++ ['$']) :: (splitGo none v).1 :: (splitGo none v).2) := by
  induction b with
  | nil => intro b0 v _; simp [splitGo]
  | cons c cs ih =>
    intro b0 v hb
    rw [List.all_cons, Bool.and_eq_true] at hb
    have h1 : (c == '$') = false := by
      rcases Bool.or_eq_true _ _ ▸ hb.1 with h | h <;> cases eq_of_beq h <;> rfl
    simp only [List.cons_append, splitGo, h1, hb.1, Bool.false_eq_true, ↓reduceIte]
    rw [ih (b0 ++ [c]) v hb.2, List.append_assoc b0, List.singleton_append]

/-- Among the pieces `first :: rest` the separator `sep` stands at an odd index, and the pieces before
    it make up the text `pre`. -/
def SepAfter (first : Str) (rest : List Str) (sep pre : Str) : Prop :=
  ∃ before after, first :: rest = before ++ sep :: after ∧ before.length % 2 = 1 ∧ before.flatten = pre

theorem SepAfter.extend {first : Str} {rest : List Str} {sep pre : Str} (x : Str) (c : Char)
    (h : SepAfter first rest sep pre) : SepAfter (x ++ c :: first) rest sep (x ++ c :: pre) := by
  obtain ⟨before, after, e, hl, rfl⟩ := h
  cases before with
  | nil => cases hl
  | cons _ ps =>
    cases e
    exact ⟨(x ++ c :: first) :: ps, after, rfl, hl, by simp⟩

theorem SepAfter.sep {first : Str} {rest : List Str} {sep pre : Str} (b : Str)
    (h : SepAfter first rest sep pre) : SepAfter [] ((b ++ ['$']) :: first :: rest) sep (b ++ '$' :: pre) := by
  obtain ⟨before, after, e, hl, rfl⟩ := h
  exact ⟨[] :: (b ++ ['$']) :: before, after, by rw [e]; rfl, by simp only [List.length_cons]; omega, by simp⟩

theorem splitGo_finds_first (b v : Str) (hb : b.all isBlank = true) :
    SepAfter (splitGo (some []) (b ++ '$' :: v)).1 (splitGo (some []) (b ++ '$' :: v)).2 (b ++ ['$']) [] :=
  ⟨[[]], _, by rw [splitGo_blank_run b [] v hb]; rfl, rfl, rfl⟩

/-- However the scanner got to a line feed, it finds the separator on the next line. -/
theorem splitGo_finds (b v : Str) (hb : b.all isBlank = true) (u : Str) : ∀ pend : Option Str,
    SepAfter (splitGo pend (u ++ '\n' :: (b ++ '$' :: v))).1 (splitGo pend (u ++ '\n' :: (b ++ '$' :: v))).2
      (b ++ ['$']) (pend.getD [] ++ (u ++ ['\n'])) := by
  have found := splitGo_finds_first b v hb
  induction u with
  | nil =>
    intro pend
    cases pend with
    | none => exact found.extend [] '\n'
    | some b0 => exact found.extend b0 '\n'
  | cons c u ih =>
    intro pend
    cases pend with
    | none =>
      simp only [List.cons_append, splitGo]
      split
      · exact (ih (some [])).extend [] c
      · exact (ih none).extend [] c
    | some b0 =>
      simp only [List.cons_append, splitGo]
      split
      · cases eq_of_beq ‹(c == '$') = true›
        exact (ih none).sep b0
      · split
        · rw [Option.getD_some, List.append_cons b0 c (u ++ _)]
          exact ih (some (b0 ++ [c]))
        · split
          · exact (ih (some [])).extend b0 c
          · exact (ih none).extend b0 c

def textsOf (ts : List IgnTok) : Str := (ts.map (·.text)).flatten

/-- WS: a non-empty run of blank / NUL / tab; COMMENT, CONT: `;` resp. `&`, then no CR or LF;
    NEWLINE: `\r\n` or `\n`. -/
def IgnTok.wf (t : IgnTok) : Bool :=
  match t.kind, t.text with
  | .ws, c :: cs => isWS c && cs.all isWS
  | .comment, c :: cs => c == ';' && cs.all notLF
  | .cont, c :: cs => c == '&' && cs.all notLF
  | .newline, txt => txt == ['\r', '\n'] || txt == ['\n']
  | _, [] => false

theorem map_ok {α β ε : Type} {f : α → β} {x : Except ε α} {y : β}
    (h : Except.map f x = .ok y) : ∃ r, x = .ok r ∧ y = f r := by
  cases x with
  | error e => cases h
  | ok r => cases h; exact ⟨r, rfl, rfl⟩

theorem tokenize_step {s rest : Str} {x : Except Err (List IgnTok)} (t : IgnTok) (hw : t.wf = true)
    (hs : t.text ++ rest = s) (ih : ∀ ts, x = .ok ts → textsOf ts = rest ∧ ∀ u ∈ ts, u.wf = true) :
    ∀ ts, x.map (t :: ·) = .ok ts → textsOf ts = s ∧ ∀ u ∈ ts, u.wf = true := by
  intro ts h
  obtain ⟨r, hr, rfl⟩ := map_ok h
  obtain ⟨rfl, h2⟩ := ih r hr
  exact ⟨hs, List.forall_mem_cons.mpr ⟨hw, h2⟩⟩

theorem tokenize_spec (s : Str) :
    ∀ ts, tokenizeIgnored s = .ok ts → textsOf ts = s ∧ ∀ t ∈ ts, t.wf = true := by
  fun_induction tokenizeIgnored s with
  | case1 => rintro _ ⟨⟩; exact ⟨rfl, nofun⟩
  | case2 c cs hc ih => exact tokenize_step ⟨.ws, c :: cs.takeWhile isWS⟩ (by simp [IgnTok.wf, hc]) (by simp) ih
  | case3 c cs _ hc ih => exact tokenize_step ⟨.comment, c :: cs.takeWhile notLF⟩ (by simp [IgnTok.wf, hc]) (by simp) ih
  | case4 c _ _ hc r ih =>
    cases eq_of_beq hc
    exact tokenize_step ⟨.newline, ['\r', '\n']⟩ rfl rfl ih
  | case5 => nofun
  | case6 c cs _ _ _ hc ih =>
    cases eq_of_beq hc
    exact tokenize_step ⟨.newline, ['\n']⟩ rfl rfl ih
  | case7 c cs _ _ _ _ hc ih => exact tokenize_step ⟨.cont, c :: cs.takeWhile notLF⟩ (by simp [IgnTok.wf, hc]) (by simp) ih
  | case8 => nofun

theorem strList_append (a b : List Node) : strList (a ++ b) = strList a ++ strList b := by
  induction a with
  | nil => simp [strList]
  | cons x xs ih => simp [strList, ih]

theorem strList_toNodes (ts : List IgnTok) : ∀ i, strList (toNodes i ts) = textsOf ts := by
  induction ts with
  | nil => intro i; simp [toNodes, strList, textsOf]
  | cons t ts ih =>
    intro i
    simp only [toNodes, strList, IgnTok.toNode, Node.str]
    rw [ih]; simp [textsOf]

/-- A positioned node whose text is the source slice of its range. -/
def Good (s : Str) (n : Node) : Prop :=
  ∃ a b, n.range = some (a, b) ∧ a ≤ b ∧ b ≤ s.length ∧ n.str = slice s a b

theorem gapToks_str (s : Str) (i j : Nat) (g : List Node) (h : gapToks s i j = .ok g) :
    strList g = slice s i j := by
  unfold gapToks at h
  split at h
  · cases h; rename_i hji; rw [slice_of_le s i j hji]; rfl
  · split at h
    · cases h
    · obtain ⟨r, hr, rfl⟩ := map_ok h
      rw [strList_toNodes, (tokenize_spec _ _ hr).1]

theorem spanOk_cons_cons {x y : Node} {rest : List Node} {a d : Nat} (h : spanOk (x :: y :: rest) = some (a, d)) :
    ∃ b c, x.range = some (a, b) ∧ spanOk (y :: rest) = some (c, d) ∧ b ≤ c := by
  simp only [spanOk] at h
  split at h
  · split at h <;> cases h
    exact ⟨_, _, ‹_›, ‹_›, ‹_›⟩
  · cases h

theorem interleaveGo_str (s : Str) : ∀ (xs : List Node) (i a d : Nat) (r : List Node),
    spanOk xs = some (a, d) → (∀ y ∈ xs, Good s y) → i ≤ a → interleaveGo s i xs = .ok r →
    strList r = slice s i d ∧ a ≤ d ∧ d ≤ s.length
  | [], _, _, _, _, h, _, _, _ => nomatch h
  | x :: rest, i, a, d, r, hsp, hg, hia, h => by
    obtain ⟨a', b, hr, hab, hb, hs⟩ := hg x List.mem_cons_self
    simp only [interleaveGo, hr] at h
    split at h
    · cases h
    · rename_i g hgap
      split at h
      · cases h
      · rename_i r' hr'
        cases h
        rw [strList_append, strList, gapToks_str s i a' g hgap, hs]
        cases rest with
        | nil =>
          rw [spanOk, hr] at hsp
          cases hsp; cases hr'
          exact ⟨by rw [strList, List.append_nil, slice_append s i a d hia hab], hab, hb⟩
        | cons y rest =>
          obtain ⟨_, c, hx, hsp', hbc⟩ := spanOk_cons_cons hsp
          cases hr.symm.trans hx
          obtain ⟨h1, h2, h3⟩ := interleaveGo_str s (y :: rest) b c d r' hsp'
            (fun z hz => hg z (List.mem_cons_of_mem _ hz)) hbc hr'
          refine ⟨?_, by omega, h3⟩
          rw [h1, ← List.append_assoc, slice_append s i a b hia hab, slice_append s i b d (by omega) (by omega)]

/-- `interleave_ignored` is the loop started at the first child's own start (its first gap is empty). -/
theorem interleave_eq (s : Str) : ∀ (xs : List Node) (a d : Nat), spanOk xs = some (a, d) →
    interleave s xs = interleaveGo s a xs
  | [], _, _, h => nomatch h
  | [x], a, d, h => by simp [interleave, interleaveGo, show x.range = some (a, d) from h, gapToks]
  | x :: y :: rest, a, d, h => by
    obtain ⟨b, c, hx, -, -⟩ := spanOk_cons_cons h
    simp [interleave, interleaveGo, hx, gapToks]

theorem spanOk_congr : ∀ (cs cs' : List Node), cs'.map Node.range = cs.map Node.range →
    spanOk cs' = spanOk cs
  | [], cs', h => by rw [List.map_eq_nil_iff.mp h]
  | x :: rest, cs', h => by
    obtain ⟨x', rest', rfl, hx, hrest⟩ := List.map_eq_cons_iff.mp h
    have ih := spanOk_congr rest rest' hrest
    cases rest with
    | nil => cases List.map_eq_nil_iff.mp hrest; simp only [spanOk, hx]
    | cons y rest =>
      obtain ⟨y', rest'', rfl, -, -⟩ := List.map_eq_cons_iff.mp hrest
      simp only [spanOk, hx, ih]

mutual
theorem interleaveTree_good (s : Str) : ∀ (n n' : Node), covering s n = true →
    interleaveTree s n = .ok n' → n'.range = n.range ∧ Good s n'
  | .tok k t p, n', hc, h => by
    cases h
    refine ⟨rfl, ?_⟩
    cases p with
    | none => cases hc
    | some ij =>
      simp only [covering, rangeOk, Bool.and_eq_true, decide_eq_true_eq, beq_iff_eq] at hc
      exact ⟨_, _, rfl, hc.1.1, hc.1.2, hc.2⟩
  | .tree r cs p, n', hc, h => by
    simp only [covering, Bool.and_eq_true, beq_iff_eq] at hc
    simp only [interleaveTree] at h
    split at h
    · cases h
    · rename_i cs' hcs'
      split at h
      · cases h
      · rename_i cs'' hcs''
        cases h
        obtain ⟨hmap, hgood⟩ := interleaveChildren_good s cs cs' hc.1.2 hcs'
        -- the transformed children have the ranges of the old ones, hence the same span `p`
        have hsp := (spanOk_congr cs cs' hmap).trans hc.2.2
        cases p with
        | none => cases hc.2.1
        | some ad =>
          rw [interleave_eq s cs' _ _ hsp] at hcs''
          obtain ⟨h1, h2, h3⟩ := interleaveGo_str s _ _ _ _ _ hsp hgood (Nat.le_refl _) hcs''
          exact ⟨rfl, _, _, rfl, h2, h3, h1⟩

theorem interleaveChildren_good (s : Str) : ∀ (cs cs' : List Node), coveringList s cs = true →
    interleaveChildren s cs = .ok cs' →
    cs'.map Node.range = cs.map Node.range ∧ ∀ y ∈ cs', Good s y
  | [], cs', _, h => by cases h; exact ⟨rfl, nofun⟩
  | c :: cs, cs', hc, h => by
    rw [coveringList, Bool.and_eq_true] at hc
    simp only [interleaveChildren] at h
    split at h
    · cases h
    · rename_i c' hc'
      split at h
      · cases h
      · rename_i cs2 hcs2
        cases h
        obtain ⟨hr, hg⟩ := interleaveTree_good s c c' hc.1 hc'
        obtain ⟨hm, hgs⟩ := interleaveChildren_good s cs cs2 hc.2 hcs2
        exact ⟨by rw [List.map_cons, List.map_cons, hr, hm], List.forall_mem_cons.mpr ⟨hg, hgs⟩⟩
end

theorem coveringList_mem (s : Str) : ∀ (xs : List Node), coveringList s xs = true →
    ∀ y ∈ xs, covering s y = true
  | x :: rest, h => by
    rw [coveringList, Bool.and_eq_true] at h
    exact List.forall_mem_cons.mpr ⟨h.1, coveringList_mem s rest h.2⟩
  | [], _ => nofun

theorem rawNameSplit_some (chunk n c : Str) (h : rawNameSplit chunk = some (n, c)) :
    ∃ r, chunk.dropWhile isPySpace = '$' :: r ∧ r.takeWhile isAz ≠ [] ∧
      n = chunk.takeWhile isPySpace ++ '$' :: r.takeWhile isAz ∧ c = r.dropWhile isAz := by
  unfold rawNameSplit at h
  split at h
  · rename_i r hr
    split at h <;> cases h
    exact ⟨r, hr, fun e => ‹¬_› (congrArg List.isEmpty e), rfl, rfl⟩
  · cases h

theorem rawNameSplit_join (chunk n c : Str) (h : rawNameSplit chunk = some (n, c)) : n ++ c = chunk := by
  obtain ⟨r, hr, -, rfl, rfl⟩ := rawNameSplit_some chunk n c h
  rw [List.append_assoc, List.cons_append, List.takeWhile_append_dropWhile, ← hr,
    List.takeWhile_append_dropWhile]

theorem createRecord_join (chunk : Str) (x : Str × Option String × Str)
    (h : createRecord chunk = some x) : x.1 ++ x.2.2 = chunk := by
  unfold createRecord at h
  split at h
  · cases h
  · rename_i raw content hs
    cases h
    exact rawNameSplit_join chunk raw content hs

theorem mapM_createRecord_join (chunks : List Str) : ∀ rs, chunks.mapM createRecord = some rs →
    rs.map (fun x => x.1 ++ x.2.2) = chunks := by
  induction chunks with
  | nil => intro rs h; simp at h; subst h; rfl
  | cons c cs ih =>
    intro rs h
    simp only [List.mapM_cons, Option.bind_eq_bind, Option.bind_eq_some_iff, Option.pure_def, Option.some.injEq] at h
    obtain ⟨x, hx, xs, hxs, rfl⟩ := h
    simp [createRecord_join c x hx, ih xs hxs]

theorem pairUp_flatten : ∀ (rest : List Str), sepChunks rest = true → (pairUp rest).flatten = rest.flatten
  | [], _ => rfl
  | [_], h => by simp [sepChunks] at h
  | s :: c :: rest, h => by
    simp only [sepChunks, Bool.and_eq_true] at h
    simp [pairUp, pairUp_flatten rest h.2]

theorem insertAt_filter (recs : List Rec) (k : Nat) (r : Rec) (q : Rec → Bool) (hq : q r = false) :
    (insertAt recs k r).filter q = recs.filter q := by
  rw [insertAt, List.filter_append, List.filter_cons_of_neg (by simp [hq]), ← List.filter_append,
    List.take_append_drop]

/-- The loop `replace_records` and `replace_all` share (`first` = no record satisfying `q` met so far). -/
def replGo (q : Rec → Bool) (new : List Rec) : List Rec → Bool → List Rec
  | [], _ => []
  | r :: rs, first =>
    if !q r then r :: replGo q new rs first
    else if first then new ++ replGo q new rs false
    else replGo q new rs false

theorem replaceRecordsGo_eq (old new : List Rec) (l : List Rec) (f : Bool) :
    replaceRecordsGo old new l f = replGo (fun r => old.contains r) new l f := by
  induction l generalizing f with
  | nil => rfl
  | cons r rs ih => simp only [replaceRecordsGo, replGo, ih]

theorem replaceAllGo_eq (name : String) (new : List Rec) (l : List Rec) (f : Bool) :
    replaceAllGo name new l f =
      (replGo (fun r => r.name == name) new l f, f && !l.any (fun r => r.name == name)) := by
  induction l generalizing f with
  | nil => simp [replaceAllGo, replGo]
  | cons r rs ih => cases h : r.name == name <;> cases f <;> simp [replaceAllGo, replGo, ih, h]

theorem replGo_false (q : Rec → Bool) (new : List Rec) (l : List Rec) :
    replGo q new l false = l.filter (fun r => !q r) := by
  induction l with
  | nil => rfl
  | cons r rs ih => cases h : q r <;> simp [replGo, h, ih]

theorem replGo_true (q : Rec → Bool) (new : List Rec) (l : List Rec) :
    (l.any q = false ∧ replGo q new l true = l ∧ l.filter (fun r => !q r) = l) ∨
    (l.any q = true ∧ ∃ a b, replGo q new l true = a ++ new ++ b ∧ a ++ b = l.filter (fun r => !q r)) := by
  induction l with
  | nil => exact .inl ⟨rfl, rfl, rfl⟩
  | cons r rs ih =>
    cases h : q r
    · rcases ih with ⟨h0, h1, h2⟩ | ⟨h0, a, b, h1, h2⟩
      · exact .inl ⟨by simp [h, h0], by simp [replGo, h, h1], by simp [h, h2]⟩
      · exact .inr ⟨by simp [h0], r :: a, b, by simp [replGo, h, h1], by simp [h, h2]⟩
    · exact .inr ⟨by simp [h], [], rs.filter (fun r => !q r), by simp [replGo, h, replGo_false], by simp [h]⟩

/-- Number of `$PROBLEM` records in a list (as an `Int` offset of the problem counter). -/
def nProblems (l : List Rec) : Int := (l.countP (fun r => r.name == "PROBLEM") : Nat)

theorem nProblems_append (a b : List Rec) : nProblems (a ++ b) = nProblems a + nProblems b := by
  simp [nProblems, List.countP_append]

theorem counter_step (cur : Int) (r : Rec) :
    (if r.name == "PROBLEM" then cur + 1 else cur) = cur + nProblems [r] := by
  by_cases hp : (r.name == "PROBLEM") = true <;> simp [nProblems, hp]

theorem scanLast_append (active : Int) (pred : Rec → Bool) (l1 : List Rec) :
    ∀ (l2 : List Rec) (i : Nat) (cur : Int) (acc : Option Nat),
      scanLast active pred (l1 ++ l2) i cur acc =
        scanLast active pred l2 (i + l1.length) (cur + nProblems l1) (scanLast active pred l1 i cur acc) := by
  induction l1 with
  | nil => intro l2 i cur acc; simp [scanLast, nProblems]
  | cons r rs ih =>
    intro l2 i cur acc
    simp only [List.cons_append, scanLast, counter_step, ih, List.length_cons]
    rw [← List.singleton_append (l := rs), nProblems_append, Int.add_assoc, Nat.add_assoc, Nat.add_comm 1]

theorem scanLast_none (active : Int) (pred : Rec → Bool) (l : List Rec) :
    ∀ (i : Nat) (cur : Int) (acc : Option Nat),
      (∀ (a : List Rec) (x : Rec) (b : List Rec), l = a ++ x :: b →
        ¬(cur + nProblems (a ++ [x]) = active ∧ pred x = true)) →
      scanLast active pred l i cur acc = acc := by
  induction l with
  | nil => intro i cur acc _; rfl
  | cons r rs ih =>
    intro i cur acc h
    have h0 : ((cur + nProblems [r] == active) && pred r) = false := by
      simpa using h [] r rs rfl
    simp only [scanLast, counter_step, h0, Bool.false_eq_true, ↓reduceIte]
    refine ih _ _ _ fun a x b hl hx => h (r :: a) x b (by rw [hl]; rfl) ?_
    rwa [List.cons_append, ← List.singleton_append, nProblems_append, ← Int.add_assoc]

end Pharmpy.C03
