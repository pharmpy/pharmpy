import PharmpyProofs.C03.Lemmas
namespace Pharmpy.C03

/-- `NMTranParser.parse`: joining the pieces of `re.split(r'^([ \t]*\$)', T, MULTILINE)` gives back `T`. -/
theorem split_join (t : Str) : (splitRecords t).flatten = t :=
  (splitRecords_scanned t).1

/-- The pieces after the first alternate separator, chunk, separator, chunk …;
    every separator is blanks/tabs followed by `$` and begins at a line start of `T`. -/
theorem split_shape (t : Str) :
    ∃ first rest, splitRecords t = first :: rest ∧ sepChunks rest = true ∧
      sepsAtLineStart first rest = true :=
  ⟨_, _, rfl, (splitRecords_scanned t).2⟩

/-- **No record start is missed**: wherever the text has a line start followed by
    blanks/tabs and `$`, the split has a separator exactly there. -/
theorem split_complete (t u b v : Str) (h : t = u ++ b ++ '$' :: v)
    (hu : atLineStart u = true) (hb : b.all isBlank = true) :
    ∃ before after, splitRecords t = before ++ (b ++ ['$']) :: after ∧
      before.length % 2 = 1 ∧ before.flatten = u := by
  subst h
  rcases List.eq_nil_or_concat u with rfl | ⟨u0, c, rfl⟩
  · exact splitGo_finds_first b v hb
  · obtain rfl : c = '\n' := by simpa [atLineStart] using hu
    simpa [SepAfter, splitRecords] using splitGo_finds b v hb u0 (some [])

/-- `split_raw_record_name`: `raw_name + content == chunk` whenever the chunk is accepted. -/
theorem raw_name_split (chunk n c : Str) (h : rawNameSplit chunk = some (n, c)) : n ++ c = chunk :=
  rawNameSplit_join chunk n c h

/-- … and the raw name is white space, `$`, a non-empty maximal run of `[A-z]`. -/
theorem raw_name_shape (chunk n c : Str) (h : rawNameSplit chunk = some (n, c)) :
    ∃ ws nm, n = ws ++ '$' :: nm ∧ ws.all isPySpace = true ∧ nm ≠ [] ∧ nm.all isAz = true ∧
      (c.head?.map isAz).getD false = false := by
  obtain ⟨r, -, hne, rfl, rfl⟩ := rawNameSplit_some chunk n c h
  refine ⟨_, _, rfl, List.all_takeWhile, hne, List.all_takeWhile, ?_⟩
  cases hd : r.dropWhile isAz with
  | nil => rfl
  | cons d ds => simpa [hd] using List.head_dropWhile_not isAz (l := r) (by simp [hd])

/-- The front end of `NMTranParser.parse` is lossless: the text before the first
    record followed by `raw_name + content` of every record is the input — whatever
    the record kinds are (known, abbreviated, unknown). -/
theorem parse_front_lossless (t first : Str) (rs : List (Str × Option String × Str))
    (h : parseFront t = some (first, rs)) :
    first ++ (rs.map (fun x => x.1 ++ x.2.2)).flatten = t := by
  have hs := splitRecords_scanned t
  simp only [parseFront, splitRecords, Option.map_eq_some_iff, Prod.mk.injEq] at h
  obtain ⟨rs', hm, rfl, rfl⟩ := h
  rw [mapM_createRecord_join _ _ hm, pairUp_flatten _ hs.2.1]
  exact hs.1

/-- `get_canonical_record_name` finds the first key (dictionary order) that the upper-cased
    abbreviation prefixes. -/
theorem canonical_name_prefix (bare : Str) (l : List String) (n : String)
    (h : firstKnown bare l = some n) :
    ∃ a b, l = a ++ n :: b ∧ startsWith n.toList bare = true ∧
      ∀ m ∈ a, startsWith m.toList bare = false := by
  induction l with
  | nil => cases h
  | cons m ms ih =>
    simp only [firstKnown] at h
    split at h
    · rename_i hm; cases h; exact ⟨[], ms, rfl, hm, nofun⟩
    · rename_i hm
      obtain ⟨a, b, rfl, hs, ha⟩ := ih h
      exact ⟨m :: a, b, rfl, hs, List.forall_mem_cons.mpr ⟨by simpa using hm, ha⟩⟩

/-- A resolved name is a key of `known_records`. -/
theorem canonical_name_known (raw : Str) (n : String) (h : canonicalName raw = some n) :
    n ∈ knownRecords := by
  have lit (i : Nat) (e : knownRecords[i]? = some n) : n ∈ knownRecords := List.mem_of_getElem? e
  unfold canonicalName at h
  refine of_ite_eq h (fun h => ?_) fun h => of_ite_eq h (lit 10 /- PK -/) nofun
  cases hf : firstKnown (((raw.dropWhile isPySpace).drop 1).map upperAscii) knownRecords with
  | some m =>
    obtain ⟨a, b, hl, _⟩ := canonical_name_prefix _ _ _ hf
    simp only [hf] at h; cases h
    simp [hl]
  | none =>
    simp only [hf] at h
    exact of_ite_eq h (lit 2 /- DATA -/) fun h => of_ite_eq h (lit 16 /- SUBROUTINES -/) fun h =>
      of_ite_eq h (lit 14 /- SIMULATION -/) fun h => of_ite_eq h (lit 1 /- COVARIANCE -/) fun h =>
      of_ite_eq h (lit 5 /- ESTIMATION -/) nofun

/-- Abbreviations of at least three letters are unambiguous on the table as it
    is: every prefix of length ≥ 3 of every known name (in either case) resolves to that name. -/
theorem canonical_name_table :
    knownRecords.all (fun n => (List.range (n.length + 1)).all (fun k =>
      k < 3 || (canonicalName ('$' :: n.toList.take k) == some n &&
                canonicalName (' ' :: '$' :: (n.toList.take k).map Char.toLower) == some n))) = true := by
  decide +kernel

example : canonicalName "  $est".toList = some "ESTIMATION" := by decide +kernel
example : canonicalName "$INFILE".toList = some "DATA" := by decide +kernel
example : canonicalName "$TH".toList = none := by decide +kernel
example : canonicalName "$FOO".toList = none := by decide +kernel

/-- `_tokenize_ignored_characters` loses nothing: the token texts concatenate to the input. -/
theorem ignored_tokenize_lossless (s : Str) (ts : List IgnTok) (h : tokenizeIgnored s = .ok ts) :
    textsOf ts = s :=
  (tokenize_spec s ts h).1

/-- Every token produced is a well-formed WS / COMMENT / NEWLINE / CONT token. -/
theorem ignored_tokens_wellformed (s : Str) (ts : List IgnTok) (h : tokenizeIgnored s = .ok ts) :
    ∀ t ∈ ts, t.wf = true :=
  (tokenize_spec s ts h).2

example : tokenizeIgnored [' ', '\t', ';', 'c', '\r', '\n', '&', 'x', '\n'] =
    .ok [⟨.ws, [' ', '\t']⟩, ⟨.comment, [';', 'c']⟩, ⟨.newline, ['\r', '\n']⟩, ⟨.cont, ['&', 'x']⟩,
         ⟨.newline, ['\n']⟩] := by
  simp [tokenizeIgnored, isWS, isLF, notLF, Except.map]
example : tokenizeIgnored ['\r', 'x'] = .error .assertion := by simp [tokenizeIgnored, isWS]

/-- `interleave_ignored`, one level, tokens only: for ordered, positioned tokens whose texts are the
    source slices of their ranges, the interleaved list reads as the source from the start of the
    first to the end of the last child. -/
theorem interleave_lossless (s : Str) (xs r : List Node) (a d : Nat)
    (htok : ∀ y ∈ xs, ∃ k t p, y = .tok k t p)
    (hcov : coveringList s xs = true) (hspan : spanOk xs = some (a, d))
    (h : interleave s xs = .ok r) : strList r = slice s a d := by
  have hgood : ∀ y ∈ xs, Good s y := fun y hy => by
    obtain ⟨k, t, p, rfl⟩ := htok y hy
    exact (interleaveTree_good s _ _ (coveringList_mem s _ hcov _ hy) rfl).2
  rw [interleave_eq s xs a d hspan] at h
  exact (interleaveGo_str s xs a a d r hspan hgood (Nat.le_refl a) h).1

/-- Whole tree (any depth, any branching): if the transform returns, every node's
    string is the source slice of its range. -/
theorem interleave_tree_lossless (s : Str) (n n' : Node) (hcov : covering s n = true)
    (h : interleaveTree s n = .ok n') :
    n'.range = n.range ∧ ∃ a b, n.range = some (a, b) ∧ n'.str = slice s a b := by
  obtain ⟨hr, a, b, hab, _, _, hs⟩ := interleaveTree_good s n n' hcov h
  exact ⟨hr, a, b, hr ▸ hab, hs⟩

/-- **Lossless CST.** For every source and every lark tree passing `coveringRoot`
    (what a `propagate_positions` parse with `%ignore` is trusted to deliver; checked
    on every case by the driver), if `with_ignored_tokens` returns then
    `str(tree) == source`. -/
theorem with_ignored_lossless (s : Str) (r : String) (cs : List Node) (p : Option (Nat × Nat))
    (n : Node) (hc : coveringRoot s (.tree r cs p) = true)
    (h : withIgnored s (.tree r cs p) = .ok n) : n.str = s := by
  unfold withIgnored at h
  split at h
  · cases h
  · -- the transform of a tree is a tree
    rename_i heq
    simp only [interleaveTree] at heq
    split at heq
    · cases heq
    · split at heq <;> cases heq
  · rename_i r' cs' p' heq
    split at h
    · split at h <;> cases h
      rw [Node.str, gapToks_str s 0 _ _ ‹_›, slice_full]
    · -- the root had children too, so it is covering
      have hcov : covering s (.tree r cs p) = true := by
        cases cs with
        | nil => simp [interleaveTree, interleaveChildren, interleave] at heq
        | cons => exact hc
      obtain ⟨-, a, b, hr', hab, hb, hstr⟩ := interleaveTree_good s _ _ hcov heq
      cases hr'
      rw [Node.str] at hstr
      simp only at h
      split at h <;> cases h
      rw [Node.str, strList_append, strList_append, hstr, gapToks_str s 0 a _ ‹_›, gapToks_str s b _ _ ‹_›,
        slice_append s 0 a b (Nat.zero_le _) hab, slice_append s 0 b _ (Nat.zero_le _) hb, slice_full]

-- non-vacuity of `with_ignored_lossless`: a nested tree with WS gaps between tokens and a COMMENT + NEWLINE gap at the end
def exSrc : Str := ['A', ' ', '=', '\t', '1', ';', 'c', '\n']
def exTree : Node :=
  .tree "root" [.tree "stmt" [.tok "NAME" ['A'] (some (0, 1)), .tok "EQ" ['='] (some (2, 3)),
    .tok "INT" ['1'] (some (4, 5))] (some (0, 5))] (some (0, 5))
example : coveringRoot exSrc exTree = true := by decide +kernel
example : (withIgnored exSrc exTree).toOption.map Node.leaves =
    some [("NAME", ['A']), ("WS", [' ']), ("EQ", ['=']), ("WS", ['\t']), ("INT", ['1']),
          ("COMMENT", [';', 'c']), ("NEWLINE", ['\n'])] := by
  decide +kernel

/-- `get_records` returns records of the requested name only, in stream order. -/
theorem get_records_sublist (recs : List Rec) (name : String) (p : Int) :
    (getRecords recs name p).Sublist recs ∧ ∀ r ∈ getRecords recs name p, r.name = name := by
  unfold getRecords
  fun_induction getRecordsGo name p recs (-1) with
  | case1 => exact ⟨.slnil, nofun⟩
  | case2 r rs cur cur' h ih =>
    rw [Bool.and_eq_true, beq_iff_eq, beq_iff_eq] at h
    exact ⟨ih.1.cons_cons r, List.forall_mem_cons.mpr ⟨h.2, ih.2⟩⟩
  | case3 r rs cur cur' h ih => exact ⟨ih.1.cons r, ih.2⟩

/-- Records standing before the first `$PROBLEM` (e.g. `$SIZES`) belong to no problem:
    for every problem number ≥ 0 `get_records` behaves as if they were absent. -/
theorem get_records_ignores_pre_problem (a b : List Rec) (name : String) (p : Int) (hp : 0 ≤ p)
    (ha : ∀ r ∈ a, (r.name == "PROBLEM") = false) :
    getRecords (a ++ b) name p = getRecords b name p := by
  unfold getRecords
  induction a with
  | nil => rfl
  | cons r rs ih =>
    -- the counter stays at −1, which is not `p`
    have hne : ((-1 : Int) == p) = false := by rw [beq_eq_false_iff_ne]; omega
    simp only [List.cons_append, getRecordsGo, ha r List.mem_cons_self, hne, Bool.false_and,
      Bool.false_eq_true, ↓reduceIte]
    exact ih fun x hx => ha x (List.mem_cons_of_mem _ hx)

example : getRecords [⟨"SIZES", 0⟩, ⟨"PROBLEM", 1⟩, ⟨"SIZES", 2⟩, ⟨"THETA", 3⟩, ⟨"PROBLEM", 4⟩, ⟨"THETA", 5⟩] "SIZES" 0
    = [⟨"SIZES", 2⟩] := by decide +kernel
example : getRecords [⟨"SIZES", 0⟩, ⟨"PROBLEM", 1⟩, ⟨"THETA", 3⟩, ⟨"PROBLEM", 4⟩, ⟨"THETA", 5⟩] "THETA" 1
    = [⟨"THETA", 5⟩] := by decide +kernel

/-- `insert_record` only adds: the result is the old tuple with the new record at one index. -/
theorem insert_record_only_adds (recs : List Rec) (r : Rec) (at_ : Option Nat) (active : Int) :
    (∃ k, insertRecord recs r at_ active = recs.take k ++ r :: recs.drop k) ∧
    recs.Sublist (insertRecord recs r at_ active) := by
  have hk : ∃ k, insertRecord recs r at_ active = insertAt recs k r := by
    unfold insertRecord
    split <;> exact ⟨_, rfl⟩
  obtain ⟨k, hk⟩ := hk
  refine ⟨⟨k, hk⟩, ?_⟩
  rw [hk, insertAt]
  conv => lhs; rw [← List.take_append_drop k recs]
  exact .append (.refl _) (List.sublist_cons_self _ _)

/-- **Position of `insert_record`.** If `x` is the last record of the new record's name
    inside the active problem, the new record is put directly after `x`. -/
theorem insert_record_after_last (a b : List Rec) (x r : Rec) (active : Int)
    (hname : x.name = r.name)
    (hx : nProblems (a ++ [x]) - 1 = active)
    (hlast : ∀ (a' : List Rec) (y : Rec) (b' : List Rec), b = a' ++ y :: b' →
      ¬(nProblems (a ++ [x]) - 1 + nProblems (a' ++ [y]) = active ∧ y.name = r.name)) :
    insertRecord (a ++ x :: b) r none active = a ++ x :: r :: b := by
  have h1 : scanLast active (fun c => c.name == r.name) (a ++ x :: b) 0 (-1) none = some a.length := by
    have hit : (-1 + nProblems a + nProblems [x] == active && x.name == r.name) = true := by
      rw [nProblems_append] at hx
      simp only [hname, beq_self_eq_true, Bool.and_true, beq_iff_eq]; omega
    rw [List.append_cons, scanLast_append, scanLast_append, scanLast, scanLast, counter_step, hit, if_pos rfl,
      scanLast_none]
    · rw [Nat.zero_add]
    · intro a' y b' hb hy
      refine hlast a' y b' hb ⟨?_, eq_of_beq hy.2⟩
      have := hy.1
      omega
  simp only [insertRecord, h1, Option.getD_some, insertAt]
  rw [List.append_cons a x b, List.take_left' (by simp), List.drop_left' (by simp), List.append_assoc]
  rfl

/-- `remove_records` keeps every other record, unchanged, in order. -/
theorem remove_records_frame (recs rm : List Rec) :
    removeRecords recs rm = recs.filter (fun r => !rm.contains r) ∧
    (removeRecords recs rm).Sublist recs :=
  ⟨rfl, List.filter_sublist⟩

/-- `replace_all(name, new)`: the result is the records of the other names,
    unchanged and in order, with `new` spliced in at one place. -/
theorem replace_all_frame (recs : List Rec) (name : String) (new out : List Rec)
    (h : replaceAll recs name new = some out) :
    ∃ a b, out = a ++ new ++ b ∧ a ++ b = recs.filter (fun r => r.name != name) := by
  simp only [replaceAll, replaceAllGo_eq, Bool.true_and] at h
  rcases replGo_true (fun r => r.name == name) new recs with ⟨h0, h1, h2⟩ | ⟨h0, a, b, h1, h2⟩
  · -- no record of that name: `new` goes in at `after_index`
    simp only [h0, h1, Bool.not_false, ↓reduceIte] at h
    split at h
    · cases h
    · cases h
      exact ⟨_, _, rfl, (List.take_append_drop ..).trans h2.symm⟩
  · simp only [h0, Bool.not_true, Bool.false_eq_true, ↓reduceIte, Option.some.injEq] at h
    exact ⟨a, b, h ▸ h1, h2⟩

/-- `replace_records(old, new)`: the records not in `old`, unchanged and in order,
    with `new` spliced in at one place (or nowhere if no record of `old` is present). -/
theorem replace_records_frame (recs old new : List Rec) :
    ∃ a b, (replaceRecords recs old new = a ++ new ++ b ∨ replaceRecords recs old new = a ++ b) ∧
      a ++ b = recs.filter (fun r => !old.contains r) := by
  rw [replaceRecords, replaceRecordsGo_eq]
  rcases replGo_true (fun r => old.contains r) new recs with ⟨_, h1, h2⟩ | ⟨_, a, b, h1, h2⟩
  · exact ⟨[], recs, .inr h1, h2.symm⟩
  · exact ⟨a, b, .inl h1, h2⟩

example : splitRecords "a\n $P x\n$Q".toList =
    ["a\n".toList, " $".toList, "P x\n".toList, "$".toList, "Q".toList] := by decide +kernel
example : insertRecord [⟨"PROBLEM", 0⟩, ⟨"THETA", 1⟩, ⟨"OMEGA", 2⟩] ⟨"THETA", 9⟩ none 0
    = [⟨"PROBLEM", 0⟩, ⟨"THETA", 1⟩, ⟨"THETA", 9⟩, ⟨"OMEGA", 2⟩] := by decide +kernel
example : insertRecord [⟨"PROBLEM", 0⟩, ⟨"INPUT", 1⟩, ⟨"THETA", 2⟩] ⟨"PK", 9⟩ none 0
    = [⟨"PROBLEM", 0⟩, ⟨"INPUT", 1⟩, ⟨"PK", 9⟩, ⟨"THETA", 2⟩] := by decide +kernel
example : replaceAll [⟨"PROBLEM", 0⟩, ⟨"THETA", 1⟩, ⟨"X", 2⟩, ⟨"THETA", 3⟩] "THETA" [⟨"THETA", 7⟩, ⟨"THETA", 8⟩]
    = some [⟨"PROBLEM", 0⟩, ⟨"THETA", 7⟩, ⟨"THETA", 8⟩, ⟨"X", 2⟩] := by decide +kernel

end Pharmpy.C03
