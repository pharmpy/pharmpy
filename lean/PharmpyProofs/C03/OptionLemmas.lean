import PharmpyModel.C03.OptionRecord
namespace Pharmpy.C03

/-- The backwards scan of `_append_option_args`, read in the children's own order: `bl` are the trailing blanks. -/
theorem scanRev_spec (r : List Child) :
    ∃ a bl, r.reverse = a ++ bl ∧ (∀ c ∈ bl, c.isBlank = true) ∧ (scanRev r).1 = a.length ∧
      ((a = [] ∧ (scanRev r).2 = sepWS) ∨
       ∃ a' x, a = a' ++ [x] ∧ x.isBlank = false ∧
         (scanRev r).2 = if x.rule == "option" then sepWS else sepNL) := by
  fun_induction scanRev r with
  | case1 => exact ⟨[], [], rfl, nofun, rfl, .inl ⟨rfl, rfl⟩⟩
  | case2 c rest h =>
    exact ⟨rest.reverse ++ [c], [], by simp, nofun, by simp, .inr ⟨_, c, rfl, by simp [Child.isBlank, eq_of_beq h], by simp [h]⟩⟩
  | case3 c rest h h2 =>
    exact ⟨rest.reverse ++ [c], [], by simp, nofun, by simp, .inr ⟨_, c, rfl, by simpa using h2, by simp [h]⟩⟩
  | case4 c rest h h2 ih =>
    obtain ⟨a, bl, e, hb, hs⟩ := ih
    exact ⟨a, bl ++ [c], by simp [e], by simpa [or_imp, forall_and] using ⟨hb, by simpa using h2⟩, hs⟩

theorem commentsOk_append (a : List Child) (x : Child) (b : List Child) :
    commentsOk (a ++ x :: b) = (commentsOk (a ++ [x]) && commentsOk (x :: b)) := by
  induction a with
  | nil => cases b <;> simp [commentsOk]
  | cons c a ih =>
    cases a with
    | nil => simp [commentsOk]
    | cons d a => simp only [List.cons_append, commentsOk] at ih ⊢; rw [ih, Bool.and_assoc]

theorem commentsOk_of_no_comment : ∀ l : List Child, (∀ c ∈ l, c.rule ≠ "COMMENT") → commentsOk l = true
  | [], _ | [_], _ => rfl
  | c :: d :: l, h => by
    rw [commentsOk, commentsOk_of_no_comment (d :: l) fun x hx => h x (List.mem_cons_of_mem _ hx)]
    simp [h c]

end Pharmpy.C03
