import PharmpyModel.C03.CodeRecord
import PharmpyProofs.C02.RecordProperties
import PharmpyProofs.C03.Lemmas
set_option linter.unusedSectionVars false
namespace Pharmpy.C03
open Pharmpy.C02

section
variable {σ ν : Type}

theorem cslice_append {α : Type} (l : List α) (i j k : Nat) (hij : i ≤ j) (hjk : j ≤ k) :
    C02.slice l i j ++ C02.slice l j k = C02.slice l i k :=
  take_drop_append l hij hjk

theorem cslice_self {α : Type} (l : List α) (i : Nat) : C02.slice l i i = [] := by
  rw [C02.slice, Nat.sub_self, List.take_zero]

theorem cslice_drop {α : Type} (l : List α) (i j : Nat) (hij : i ≤ j) :
    C02.slice l i j ++ l.drop j = l.drop i := by
  obtain ⟨a, rfl⟩ := Nat.exists_eq_add_of_le hij
  rw [C02.slice, Nat.add_sub_cancel_left, ← List.drop_drop, List.take_append_drop]

/-- Spans in order from `last` (the part of `IndexWF` the gap lemmas need). -/
def SpansOrdered : Nat → List Idx → Prop
  | _, [] => True
  | last, (ni, nj, _, _) :: es => last ≤ ni ∧ ni ≤ nj ∧ SpansOrdered nj es

theorem spansOrdered_of_wf : ∀ (ix : List Idx) (off si nN nS : Nat), IndexWF off si nN nS ix → SpansOrdered off ix
  | [], _, _, _, _, _ => trivial
  | (_, nj, _, s1) :: es, _, _, nN, nS, ⟨h1, h2, _, _, h5⟩ => ⟨h1, h2, spansOrdered_of_wf es nj s1 nN nS h5⟩

theorem gapsFrom_shift (old : List ν) (a last : Nat) (idx : List Idx) (ha : a ≤ last) (ho : SpansOrdered last idx) :
    C02.slice old a last ++ gapsFrom old last idx = gapsFrom old a idx := by
  cases idx with
  | nil => exact cslice_drop old a last ha
  | cons e es =>
    obtain ⟨ni, nj, s0, s1⟩ := e
    simp only [gapsFrom]
    rw [← List.append_assoc, cslice_append old a last ni ha ho.1]

/-- Non-statement nodes the groups of `_index_statements_diff` make `update_statements` copy. -/
def gapsOfGroups (old : List ν) : Nat → List (Group σ) → List ν
  | last, [] => old.drop last
  | last, g :: gs => C02.slice old last g.ni ++ gapsOfGroups old g.nj gs

theorem gapsOfGroups_flush (old : List ν) (a ni nj : Nat) (ops : List (Op σ)) (gs : List (Group σ)) :
    gapsOfGroups old a (flushGroup ni nj ops ++ gs) = C02.slice old a ni ++ gapsOfGroups old nj gs := by
  unfold flushGroup
  split
  · rfl
  · dsimp only
    split
    · rfl
    · simp [gapsOfGroups, cslice_self]

/-- A non-insert op met between groups behaves as if the next index entry were already pending with all of
    its `max 1 (sj - si)` ops expected. -/
theorem indexDiff_start (last ni nj si sj : Nat) (idx : List Idx) (op : Int) (s : σ) (rest : List (Op σ))
    (h : op ≠ 1) :
    indexDiff last ((ni, nj, si, sj) :: idx) none ((op, s) :: rest) =
      indexDiff last idx (some (ni, nj, max 1 (sj - si), [])) ((op, s) :: rest) := by
  have e : max 1 (sj - si) - 1 = sj - si - 1 := by omega
  simp only [indexDiff, h, ↓reduceIte, ne_eq, not_false_eq_true, e, List.nil_append]

/-- The runs of `indexDiff`, with the opening of an index entry (`indexDiff_start`) as a step of its own. -/
inductive DiffRun : Nat → List Idx → Option (Pending σ) → List (Op σ) → List (Group σ) → Prop
  | done (last idx) : DiffRun last idx none [] []
  | insert {last idx rest gs} (s : σ) : DiffRun last idx none rest gs →
      DiffRun last idx none ((1, s) :: rest) (⟨1, [s], last, last⟩ :: gs)
  | start {last ni nj si sj idx op s rest gs} : op ≠ 1 →
      DiffRun last idx (some (ni, nj, max 1 (sj - si), [])) ((op, s) :: rest) gs →
      DiffRun last ((ni, nj, si, sj) :: idx) none ((op, s) :: rest) gs
  | flush {last idx ni nj e acc op s rest gs} : (if op ≠ 1 then e - 1 else e) = 0 → DiffRun nj idx none rest gs →
      DiffRun last idx (some (ni, nj, e, acc)) ((op, s) :: rest) (flushGroup ni nj (acc ++ [(op, s)]) ++ gs)
  | more {last idx ni nj e acc op s rest gs} : (if op ≠ 1 then e - 1 else e) ≠ 0 →
      DiffRun last idx (some (ni, nj, if op ≠ 1 then e - 1 else e, acc ++ [(op, s)])) rest gs →
      DiffRun last idx (some (ni, nj, e, acc)) ((op, s) :: rest) gs

variable {last : Nat} {idx : List Idx} {pend : Option (Pending σ)} {ops : List (Op σ)} {gs : List (Group σ)}

theorem DiffRun.of_eq (h : indexDiff last idx pend ops = some gs) : DiffRun last idx pend ops gs := by
  induction ops generalizing last idx pend gs with
  | nil =>
    cases pend with
    | none => cases h; exact .done last idx
    | some p => cases h
  | cons o rest ih =>
    obtain ⟨op, s⟩ := o
    have inside {last idx gs} (p : Pending σ) (h : indexDiff last idx (some p) ((op, s) :: rest) = some gs) :
        DiffRun last idx (some p) ((op, s) :: rest) gs := by
      obtain ⟨ni, nj, e, acc⟩ := p
      rw [indexDiff] at h
      by_cases he : (if op ≠ 1 then e - 1 else e) = 0
      · rw [if_pos he] at h
        obtain ⟨gs', hr, rfl⟩ := Option.map_eq_some_iff.mp h
        exact .flush he (ih hr)
      · rw [if_neg he] at h
        exact .more he (ih h)
    cases pend with
    | some p => exact inside p h
    | none =>
      by_cases h1 : op = 1
      · subst h1
        simp only [indexDiff, ↓reduceIte] at h
        obtain ⟨gs', hr, rfl⟩ := Option.map_eq_some_iff.mp h
        exact .insert s (ih hr)
      · cases idx with
        | nil => simp [indexDiff, h1] at h
        | cons e es =>
          rw [indexDiff_start _ _ _ _ _ _ _ _ _ h1] at h
          exact .start h1 (inside _ h)

theorem indexDiff_kept_nonempty (h : DiffRun last idx pend ops gs) : ∀ g ∈ gs, g.op = 0 → g.stmts ≠ [] := by
  induction h with
  | done => nofun
  | insert s _ ih => exact List.forall_mem_cons.mpr ⟨nofun, ih⟩
  | start _ _ ih => exact ih
  | more _ _ ih => exact ih
  | @flush _ _ ni nj _ acc op s _ _ _ _ ih =>
    intro g hg h0
    rcases List.mem_append.mp hg with hg | hg
    · -- a flushed group is kept only if all its ops are, and it has the op that completed it
      unfold flushGroup at hg
      split at hg
      · cases List.mem_singleton.mp hg; simp
      · rcases List.mem_cons.mp hg with rfl | hg
        · cases h0
        · dsimp only at hg
          split at hg
          · cases hg
          · cases List.mem_singleton.mp hg; cases h0
    · exact ih g hg h0

theorem expected_step (op : Int) (s : σ) (rest : List (Op σ)) (e : Nat) (he : 0 < e) :
    (dropIns ((op, s) :: rest)).length + (if op ≠ 1 then e - 1 else e) = e + (dropIns rest).length := by
  by_cases h1 : op = 1 <;> simp [dropIns, h1] <;> omega

/-- The gaps `update_statements` copies are the gaps of the old index, provided the diff has as many
    non-insert ops as the index accounts for (inside a group: `e` more, and the span `ni … nj` is skipped). -/
theorem indexDiff_gaps (old : List ν) (h : DiffRun last idx pend ops gs) : ∀ a : Nat,
    match pend with
    | none => a ≤ last → SpansOrdered last idx → (dropIns ops).length = need idx → gapsOfGroups old a gs = gapsFrom old a idx
    | some (ni, nj, e, _) => 0 < e → a ≤ ni → ni ≤ nj → SpansOrdered nj idx → (dropIns ops).length = e + need idx →
        gapsOfGroups old a gs = C02.slice old a ni ++ gapsFrom old nj idx := by
  induction h with
  | done last idx =>
    intro a _ _ hc
    cases idx with
    | nil => rfl
    | cons e es => simp [dropIns, need] at hc; omega
  | @insert last idx _ _ s _ ih =>
    intro a ha ho hc
    rw [gapsOfGroups, ih last (Nat.le_refl _) ho hc]
    exact gapsFrom_shift old a last idx ha ho
  | start _ _ ih =>
    intro a ha ho hc
    exact ih a (by omega) (by have := ho.1; omega) ho.2.1 ho.2.2 hc
  | @flush _ _ _ nj e _ op s rest _ he _ ih =>
    intro a hpos _ _ ho hc
    have := expected_step op s rest e hpos
    rw [gapsOfGroups_flush, ih nj (Nat.le_refl _) ho (by omega)]
  | @more _ _ _ _ e _ op s rest _ he _ ih =>
    intro a hpos ha hn ho hc
    have := expected_step op s rest e hpos
    exact ih a (by omega) ha hn ho (by omega)

def gapsOfPieces (ps : List (Piece ν σ)) : List ν :=
  ps.flatMap fun | .gap ns => ns | .block _ _ => []

theorem gapsOfPieces_piecesOfGroups (gen : σ → List ν) (old : List ν) : ∀ (gs : List (Group σ)) (last : Nat),
    gapsOfPieces (piecesOfGroups gen old last gs) = gapsOfGroups old last gs
  | [], last => by simp [piecesOfGroups, gapsOfPieces, gapsOfGroups]
  | g :: gs, last => by
    have ih := gapsOfPieces_piecesOfGroups gen old gs g.nj
    simp only [gapsOfPieces] at ih
    simp only [piecesOfGroups, piecesOfGroup, gapsOfGroups, gapsOfPieces, List.flatMap_append, List.flatMap_cons, ih]
    split
    · simp
    · split <;> simp

/-- `pre` = the nodes in front, of which those from `a` on are outside every span. -/
theorem gapsFrom_pieces : ∀ (ps : List (Piece ν σ)) (pre : List ν) (si a : Nat), a ≤ pre.length →
    gapsFrom (pre ++ nodesOf ps) a (indexFrom pre.length si ps) = pre.drop a ++ gapsOfPieces ps
  | [], pre, si, a, _ => by simp [indexFrom, gapsFrom, gapsOfPieces, nodesOf]
  | .gap ns :: ps, pre, si, a, h => by
    have := gapsFrom_pieces ps (pre ++ ns) si a (by rw [List.length_append]; omega)
    rw [List.length_append, List.append_assoc, List.drop_append_of_le_length h, List.append_assoc] at this
    rwa [indexFrom, gapsOfPieces, List.flatMap_cons, nodesOf_gap_cons]
  | .block ns ss :: ps, pre, si, a, h => by
    have := gapsFrom_pieces ps (pre ++ ns) (si + ss.length) (pre ++ ns).length (Nat.le_refl _)
    rw [List.drop_length, List.nil_append, List.length_append, List.append_assoc] at this
    rw [indexFrom, gapsOfPieces, List.flatMap_cons, List.nil_append, nodesOf_block_cons, gapsFrom, this, C02.slice, List.drop_append_of_le_length h,
      List.take_left' (by rw [List.length_drop])]
    rfl

theorem need_indexFrom : ∀ (ps : List (Piece ν σ)) (off si : Nat),
    (∀ ns ss, Piece.block ns ss ∈ ps → ss ≠ []) → need (indexFrom off si ps) = (stmtsOf ps).length
  | [], _, _, _ => rfl
  | .gap _ :: ps, _, _, h => need_indexFrom ps _ _ fun ns ss hm => h ns ss (List.mem_cons_of_mem _ hm)
  | .block ns ss :: ps, _, _, h => by
    have hl : 0 < ss.length := List.length_pos_iff.mpr (h ns ss List.mem_cons_self)
    simp only [indexFrom, need, stmtsOf_block_cons, List.length_append,
      need_indexFrom ps _ _ fun ns ss hm => h ns ss (List.mem_cons_of_mem _ hm)]
    omega

end
end Pharmpy.C03
