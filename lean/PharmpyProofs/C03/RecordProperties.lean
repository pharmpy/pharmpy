import PharmpyProofs.C03.RecordLemmas
/- C03 — "after a modification every comment or verbatim line that does not express the modified component
   is preserved exactly and in order", for `CodeRecord.update_statements` over edit chains (record model: C02's). -/
set_option linter.unusedSectionVars false
namespace Pharmpy.C03
open Pharmpy.C02

section
variable {σ ν : Type}

/-- **One update keeps every non-statement node** (standalone comment lines, verbatim lines,
    blank lines), exactly and in order, and re-establishes the representation invariant
    (the diff is the LCS diff `update_statements` computes). -/
theorem update_statements_preserves_nonstatement_nodes [DecidableEq σ] (gen : σ → List ν)
    (old : List ν) (index : List Idx) (fallback : Nat) (oldS newS : List σ) (ch : List ν) (ix : List Idx)
    (hinv : RecInv old index oldS.length)
    (hu : updateStatements gen old index fallback (diff oldS newS) = some (ch, ix)) :
    nonStmtNodes ch ix = nonStmtNodes old index ∧ RecInv ch ix newS.length := by
  obtain ⟨hwf, hneed⟩ := hinv
  cases hg : indexDiff (firstStatementIndex index fallback) index none (diff oldS newS) with
  | none => simp [updateStatements, hg] at hu
  | some gs =>
    obtain ⟨hs, hwf', _⟩ := update_statements_frame (fun _ _ => True) gen old index fallback oldS newS
      oldS.length gs ch ix hwf hg hu (fun _ => trivial) (fun _ _ _ => trivial)
    have hb : GroupsInBounds old gs := by
      intro g hgm h0
      rcases index_diff_spans _ _ _ _ _ hg g hgm h0 with ⟨e, hem, _, h2⟩ | ⟨p, hp, _⟩
      · rw [h2]; exact indexWF_bound index 0 0 _ _ hwf e hem
      · cases hp
    rw [update_statements_eq_pieces gen old index fallback _ gs hg hb] at hu
    cases hu
    refine ⟨?_, hwf', ?_⟩
    · have h1 := gapsFrom_pieces (piecesOfGroups gen old 0 gs) ([] : List ν) 0 0 (Nat.le_refl _)
      simp only [List.nil_append, List.length_nil, List.drop_nil] at h1
      unfold nonStmtNodes
      rw [h1, gapsOfPieces_piecesOfGroups]
      have hord : SpansOrdered (firstStatementIndex index fallback) index := by
        cases index with
        | nil => trivial
        | cons e es => exact ⟨Nat.le_refl _, (spansOrdered_of_wf _ 0 0 _ _ hwf).2⟩
      exact indexDiff_gaps old (.of_eq hg) 0 (Nat.zero_le _) hord (by rw [lcs_diff_old]; exact hneed.symm)
    · -- the new index accounts for exactly the new statements
      rw [need_indexFrom, stmtsOf_piecesOfGroups, hs]
      intro ns ss hm
      rcases block_mem_piecesOfGroups gen old gs 0 ns ss hm with ⟨s, _, rfl⟩ | ⟨g, hgm, h0, _, rfl⟩
      · simp
      · exact indexDiff_kept_nonempty (.of_eq hg) g hgm h0

/-- **Edit chains**: over any number of `update_statements` calls, each working on the record the
    previous call produced, the non-statement nodes of the record are exactly preserved, in order. -/
theorem update_chain_preserves_nonstatement_nodes [DecidableEq σ] (gen : σ → List ν) :
    ∀ (chain : List (Nat × List σ)) (ch : List ν) (ix : List Idx) (ss : List σ)
      (ch' : List ν) (ix' : List Idx) (ss' : List σ),
      RecInv ch ix ss.length → runChain gen ch ix ss chain = some (ch', ix', ss') →
      nonStmtNodes ch' ix' = nonStmtNodes ch ix ∧ RecInv ch' ix' ss'.length := by
  intro chain ch ix ss ch' ix' ss' hinv h
  induction chain generalizing ch ix ss with
  | nil => cases h; exact ⟨rfl, hinv⟩
  | cons st rest ih =>
    rw [runChain] at h
    split at h
    · cases h
    · rename_i c1 i1 hu
      obtain ⟨hg1, hinv1⟩ := update_statements_preserves_nonstatement_nodes gen ch ix _ ss _ c1 i1 hinv hu
      obtain ⟨hg2, hinv2⟩ := ih c1 i1 _ hinv1 h
      exact ⟨hg2.trans hg1, hinv2⟩

/-- The decidable check the driver evaluates on every observed record implies the invariant. -/
theorem recInvB_sound (ch : List ν) (index : List Idx) (nS : Nat) (h : recInvB ch index nS = true) :
    RecInv ch index nS := by
  unfold recInvB at h
  simp only [Bool.and_eq_true, decide_eq_true_eq, beq_iff_eq] at h
  obtain ⟨⟨⟨h1, h2⟩, h3⟩, h4⟩ := h
  refine ⟨?_, h4⟩
  have key : ∀ (ix : List Idx) (off si : Nat), indexOrdered off si ix = true →
      (lastOf off si ix).1 ≤ ch.length → (lastOf off si ix).2 = nS → IndexWF off si ch.length nS ix := by
    intro ix
    induction ix with
    | nil => intro off si _ h2 h3; exact ⟨h2, h3⟩
    | cons e es ih =>
      intro off si ho h2 h3
      obtain ⟨ni, nj, s0, s1⟩ := e
      simp only [indexOrdered, Bool.and_eq_true, decide_eq_true_eq, beq_iff_eq] at ho
      exact ⟨ho.1.1.1.1, ho.1.1.1.2, ho.1.1.2, ho.1.2, ih nj s1 ho.2 h2 h3⟩
  exact key index 0 0 h1 h2 h3

end

-- non-vacuity: a record with a comment node (100) before and a verbatim node (200) between statements;
-- two consecutive edits; the non-statement nodes stay [100, 200, 300]
example : recInvB [100, 1, 200, 2, 300] [(1, 2, 0, 1), (3, 4, 1, 2)] 2 = true := by decide
example : (runChain exGen [100, 1, 200, 2, 300] [(1, 2, 0, 1), (3, 4, 1, 2)] [1, 2] [(5, [1, 3]), (6, [4, 3])]).map
      (fun r => (r.1, r.2.1)) =
    some (([100, 40, 41, 42, 43, 200, 30, 31, 32, 300] : List Nat), ([(1, 5, 0, 1), (6, 9, 1, 2)] : List Idx)) := by
  decide +kernel
example : nonStmtNodes [100, 40, 41, 42, 43, 200, 30, 31, 32, 300] [(1, 5, 0, 1), (6, 9, 1, 2)] = [100, 200, 300] := by decide
/-- With the index shifted onto the node in front of the statement (what taking `insert_pos`
    before the interleaved nodes are copied produces) the next edit deletes the verbatim node 200
    and leaves the stale statement nodes: the invariant is what excludes it. -/
theorem shifted_index_loses_node_witness :
    recInvB [100, 1, 200, 30, 31, 32, 300] [(1, 2, 0, 1), (2, 5, 1, 2)] 2 = true ∧
    (updateStatements exGen [100, 1, 200, 30, 31, 32, 300] [(1, 2, 0, 1), (2, 5, 1, 2)] 7 (diff [1, 3] [1, 2])).map
        (fun r => nonStmtNodes r.1 r.2) = some [100, 32, 300] := by
  decide +kernel

end Pharmpy.C03
