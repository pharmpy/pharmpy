import PharmpyModel.C03.OptionRecord
import PharmpyProofs.C03.OptionLemmas
/- C03 — `OptionRecord.append_option_node`: frame, and comments stay terminated by their line breaks. -/
namespace Pharmpy.C03

/-- **Frame of `append_option_node`**: the old children are kept exactly and in order, except that a
    trailing `WS` token may be dropped; the separator and the new node are inserted at one place,
    directly after the last item that is not a blank / line break (or in front when there is none);
    the separator is a `NEWLINE` exactly when that item is not an option (e.g. a comment). -/
theorem append_option_frame (cs : List Child) (node : Child) (out : List Child)
    (h : appendOptionNode cs node = some out) :
    ∃ a b t sep, cs = a ++ b ++ t ∧ out = a ++ sep :: node :: b ∧
      (∀ c ∈ b ++ t, c.isBlank = true) ∧ (t = [] ∨ ∃ w, t = [w] ∧ w.rule = "WS") ∧
      ((a = [] ∧ sep = sepWS) ∨
        ∃ a' x, a = a' ++ [x] ∧ x.isBlank = false ∧ sep = if x.rule == "option" then sepWS else sepNL) := by
  unfold appendOptionNode appendOptionArgs at h
  cases hl : cs.getLast? with
  | none => simp [hl] at h
  | some l =>
    obtain ⟨a, bl, e, hb, hlen, hs⟩ := scanRev_spec cs.reverse
    rw [List.reverse_reverse] at e
    subst e
    simp only [hl, Option.map_some, Option.some.injEq, hlen, List.take_left', List.drop_left',
      List.length_append, List.append_assoc] at h
    by_cases hw : (l.rule == "WS") = true
    · -- the last child is a `WS` token: it is one of the trailing blanks and is dropped
      rcases List.eq_nil_or_concat bl with rfl | ⟨b, w, rfl⟩
      · rcases hs with ⟨rfl, _⟩ | ⟨a', x, rfl, hx, _⟩
        · cases hl
        · obtain rfl : x = l := by simpa using hl
          simp [Child.isBlank, eq_of_beq hw] at hx
      · obtain rfl : w = l := by simpa using hl
        refine ⟨a, b, [w], _, by simp, ?_, by simpa using hb, .inr ⟨w, rfl, eq_of_beq hw⟩, hs⟩
        rw [← h, if_pos hw]
        simp
    · refine ⟨a, bl, [], _, by simp, ?_, by simpa using hb, .inl rfl, hs⟩
      rw [← h, if_neg hw]
      simp

/-- **Comments stay terminated**: if every `COMMENT` token of the record is the last child or is
    directly followed by a `NEWLINE` token (what the parser delivers: a comment runs to the end of its
    line), the same holds after `append_option_node` of an option node — the option never lands on
    the line of a comment, so no comment text is altered and the option is not swallowed by one. -/
theorem append_option_comments_terminated (cs : List Child) (node : Child) (out : List Child)
    (hnode : node.rule = "option") (hc : commentsOk cs = true)
    (h : appendOptionNode cs node = some out) : commentsOk out = true := by
  obtain ⟨a, b, t, sep, rfl, rfl, hbl, _, hsep⟩ := append_option_frame cs node out h
  -- neither the separator, nor the option, nor a blank is a comment
  have htail : commentsOk (sep :: node :: b) = true := by
    refine commentsOk_of_no_comment _ (List.forall_mem_cons.mpr ⟨?_, List.forall_mem_cons.mpr ⟨by simp [hnode], ?_⟩⟩)
    · rcases hsep with ⟨_, rfl⟩ | ⟨_, x, _, _, rfl⟩
      · simp [sepWS]
      · split <;> simp [sepWS, sepNL]
    · intro c hc e
      simpa [Child.isBlank, e] using hbl c (List.mem_append_left _ hc)
  rcases hsep with ⟨rfl, _⟩ | ⟨a', x, rfl, hx, hs⟩
  · exact htail
  · -- the comments before `x` are untouched; `x` itself is an option or is followed by the line break
    rw [List.append_assoc, List.append_assoc, List.singleton_append, commentsOk_append, Bool.and_eq_true] at hc
    rw [List.append_assoc, List.singleton_append, commentsOk_append, hc.1, Bool.true_and, commentsOk, htail,
      Bool.and_true]
    by_cases hxo : (x.rule == "option") = true
    · simp [eq_of_beq hxo]
    · simp [hs, hxo, sepNL]

/-- Why the separator after a comment must be a line break: a blank there (the option on the
    comment's own line) breaks the termination of the comment although the old children are all kept. -/
theorem blank_after_comment_witness :
    commentsOk [⟨"option", 0⟩, ⟨"WS", 1⟩, ⟨"COMMENT", 2⟩, ⟨"NEWLINE", 3⟩] = true ∧
    commentsOk [⟨"option", 0⟩, ⟨"WS", 1⟩, ⟨"COMMENT", 2⟩, sepWS, ⟨"option", 1000000⟩, ⟨"NEWLINE", 3⟩] = false ∧
    appendOptionNode [⟨"option", 0⟩, ⟨"WS", 1⟩, ⟨"COMMENT", 2⟩, ⟨"NEWLINE", 3⟩] ⟨"option", 1000000⟩ =
      some [⟨"option", 0⟩, ⟨"WS", 1⟩, ⟨"COMMENT", 2⟩, sepNL, ⟨"option", 1000000⟩, ⟨"NEWLINE", 3⟩] := by
  decide +kernel

-- non-vacuity: a record ending in an end-of-line comment, its line break and a blank; one ending in an
-- option and a line break; an empty root is refused
example : appendOptionNode [⟨"WS", 0⟩, ⟨"option", 1⟩, ⟨"WS", 2⟩, ⟨"COMMENT", 3⟩, ⟨"NEWLINE", 4⟩, ⟨"WS", 5⟩] ⟨"option", 9⟩ =
    some [⟨"WS", 0⟩, ⟨"option", 1⟩, ⟨"WS", 2⟩, ⟨"COMMENT", 3⟩, sepNL, ⟨"option", 9⟩, ⟨"NEWLINE", 4⟩] := by decide +kernel
example : appendOptionNode [⟨"WS", 0⟩, ⟨"option", 1⟩, ⟨"NEWLINE", 2⟩] ⟨"option", 9⟩ =
    some [⟨"WS", 0⟩, ⟨"option", 1⟩, sepWS, ⟨"option", 9⟩, ⟨"NEWLINE", 2⟩] := by decide +kernel
example : appendOptionNode [] ⟨"option", 9⟩ = none := by decide +kernel

end Pharmpy.C03
