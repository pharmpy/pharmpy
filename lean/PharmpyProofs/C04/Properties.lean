import PharmpyProofs.C04.BlockLemmas
import PharmpyProofs.C04.OmegaLemmas
/-
  C04 — property theorems: `$THETA` update and remove read back and keep what did not change, under side conditions
  outside which the code fails (the `_witness` theorems); the same for diagonal and BLOCK `$OMEGA`/`$SIGMA` records;
  the scale conversions of BLOCK records are mutually inverse.
-/
namespace Pharmpy.C04

theorem updRec_reads_back (r : List RNode) (ps : List Param)
    (hshape : RecShape r) (hok : ∀ p ∈ ps, ParamOK p = true) (hrep : noRepeatSplit r ps = true) :
    parseRec (updRec r ps) = .ok (ps.map Param.toParsed) ∧ recLen (updRec r ps) = recLen r := by
  induction r generalizing ps with
  | nil =>
    simp only [noRepeatSplit, List.isEmpty_iff] at hrep
    subst hrep
    exact ⟨rfl, rfl⟩
  | cons x r ih =>
    have hshape' : RecShape r := fun cs h => hshape cs (List.mem_cons_of_mem _ h)
    cases x with
    | tok t => exact ih ps hshape' hok hrep
    | item cs =>
      cases ps with
      | nil => simp [noRepeatSplit] at hrep
      | cons p ps' =>
        simp only [noRepeatSplit, Bool.and_eq_true, beq_iff_eq] at hrep
        obtain ⟨htake, hrest⟩ := hrep
        obtain ⟨hparse, hmult⟩ := updItem_reads_back cs (hshape cs List.mem_cons_self) p (hok p List.mem_cons_self)
        obtain ⟨hih, hlen⟩ := ih ((p :: ps').drop (multiple cs)) hshape'
          (fun q hq => hok q (List.mem_of_mem_drop hq)) hrest
        refine ⟨?_, by simp only [updRec, recLen, hmult, hlen]⟩
        simp only [updRec, parseRec, hparse, hih, hmult]
        congr 1
        conv => rhs; rw [← List.take_append_drop (multiple cs) (p :: ps')]
        rw [List.map_append, htake, List.map_replicate]

/-- `ThetaRecord.update` followed by the reader (`inits`/`bounds`/`fixs`, parsing.py's autofix, `Parameter.create`)
    gives back the parameters handed in — if no item has FIX inside the parentheses (`RecShape`), every `(v)xn` item
    receives n identical parameters (`noRepeatSplit`) and NM-TRAN can express the parameters (`ParamOK`) -/
theorem theta_update_reads_back_partial (r : List RNode) (ps : List Param)
    (hshape : RecShape r) (hok : ∀ p ∈ ps, ParamOK p = true) (hrep : noRepeatSplit r ps = true) :
    parseRec (updRec r ps) = .ok (ps.map Param.toParsed) :=
  (updRec_reads_back r ps hshape hok hrep).1

/-- the same with every side-condition decidable (the driver evaluates them on each generated case) -/
theorem theta_update_reads_back_decidable (r : List RNode) (ps : List Param)
    (hshape : recShapeOK r = true) (hok : paramsOK ps = true) (hrep : noRepeatSplit r ps = true) :
    parseRec (updRec r ps) = .ok (ps.map Param.toParsed) :=
  theta_update_reads_back_partial r ps (recShapeOK_sound r hshape)
    (fun p hp => List.all_eq_true.mp hok p hp) hrep

/-- the update never changes the number of parameters of a record -/
theorem theta_update_len (r : List RNode) (ps : List Param) (hshape : RecShape r)
    (hok : ∀ p ∈ ps, ParamOK p = true) (hrep : noRepeatSplit r ps = true) :
    recLen (updRec r ps) = recLen r :=
  (updRec_reads_back r ps hshape hok hrep).2

theorem theta_update_keeps_other_nodes (r : List RNode) (ps : List Param) :
    nonItems (updRec r ps) = nonItems r ∧ recItems (updRec r ps) = recItems r := by
  induction r generalizing ps with
  | nil => exact ⟨rfl, rfl⟩
  | cons x r ih =>
    cases x with
    | tok t => simp [updRec, nonItems, recItems, ih]
    | item cs =>
      cases ps with
      | nil => simp [updRec, nonItems, recItems, ih]
      | cons p ps' => simp [updRec, nonItems, recItems, ih]

/-- Since fix c1795fa an item that already reads as the parameter — same init, same fixedness,
    bounds that *read back* as the parameter's, whatever their spelling (`1E2`, `-INF`, `1000000`) — keeps its whole
    token list.  `hlu` holds of every tree the parser produces. -/
theorem theta_frame (s : Shp) (h : s.WF) (hin : s.Input) (p : Param)
    (hinit : s.ini.val = p.init) (hfix : hasK .fix s.tail = p.fix)
    (hup : curUpper s.upV = p.upper) (hlow : curLower s.lowV = p.lower) (hlu : s.low = none → s.up = none) :
    updItem s.build p = s.build := by
  have hnone : s.low = none → needLower p = false := by
    intro hn
    have hl : p.lower = .ninf := by rw [← hlow]; simp [Shp.lowV, hn, curLower]
    have hu : p.upper = .pinf := by rw [← hup]; simp [Shp.upV, hlu hn, curUpper]
    rw [needLower, needUpper, hl, hu]
    rfl
  rw [(Shp.updItem_build h hin).1, (Shp.upd_frame h hin).2.2.2.2 hinit hfix hup hlow hnone]

/-- Within an item that *is* changed, every field whose value did not change keeps its
    tokens: init, FIX and the blanks around it, upper bound, lower bound.  The exception (fix 6b0a1ad): an explicit
    infinite upper bound cannot stay when the lower bound is removed — hence "a lower bound, if any, is still needed". -/
theorem theta_field_frame (s : Shp) (h : s.WF) (hin : s.Input) (p : Param) :
    ∃ s' : Shp, updItem s.build p = s'.build ∧ s'.WF ∧
      (s.ini.val = p.init → s'.ini = s.ini) ∧
      (hasK .fix s.tail = p.fix → s'.tail = s.tail) ∧
      (curUpper s.upV = p.upper → (s.low.isSome = true → needLower p = true) → s'.up = s.up) ∧
      (curLower s.lowV = p.lower → (s.low = none → needLower p = false) →
        (needLower p = true ∨ curUpper s.upV = p.upper) → s'.low = s.low) := by
  obtain ⟨h1, h2, h3, h5, _⟩ := Shp.upd_frame (p := p) h hin
  exact ⟨s.upd p, (Shp.updItem_build h hin).1, (Shp.updItem_build h hin).2, h1, h2, h3, h5⟩

/-- non-vacuity of `theta_frame`: `( 0 ,3,1E2) FIXx2` handed its own parameter (bounds spelled `0`, `1E2`) -/
example :
    let p : Param := { init := .fin 3 1, initS := "3.0", lower := .fin 0 1, lowerS := "0",
                       upper := .fin 100 1, upperS := "100", fix := true }
    updItem exShape.build p = exShape.build :=
  theta_frame exShape exShape_wf.1 exShape_wf.2 _ rfl (by decide) (by decide) (by decide) (by simp [exShape])

/-- `remove(inds)` reads back as the record without the items at those positions (per item: a `(v)xn`
    item is one position), and keeps every other node -/
theorem theta_remove_reads_back (r : List RNode) (inds : List Nat) :
    parseItems (removeRec r inds) = dropIdx inds 0 (parseItems r) ∧
      nonItems (removeRec r inds) = nonItems r := by
  unfold removeRec
  cases inds with
  | nil => exact ⟨(dropIdx_nil 0 _).symm, rfl⟩
  | cons a as => simpa using removeRecAux_parse (a :: as) 0 r

/-- F12: `$THETA (1)x2`, new parameters (5, 1): the record is written as `(5.0)x2` and read back as (5, 5).
    `noRepeatSplit` is the side-condition that fails. -/
theorem theta_update_repeat_witness :
    let r := [RNode.item [tokLpar, nNum .init "1" 1, tokRpar, nRep 2]]
    let ps := [pSimple 5 "5.0", pSimple 1 "1.0"]
    noRepeatSplit r ps = false ∧
    updRec r ps = [RNode.item [tokLpar, nNum .init "5.0" 5, tokRpar, nRep 2]] ∧
    parseRec (updRec r ps) = .ok [(pSimple 5 "5.0").toParsed, (pSimple 5 "5.0").toParsed] := by
  decide +kernel

/-- F13 (fixed by c1795fa): `(0,3,1E2)` with new init 4 is now written `(0,4.0,1E2)`; before the fix the
    unchanged upper bound was respelled `100`. -/
theorem theta_bound_spelling_kept :
    let cs := [tokLpar, nNum .low "0" 0, tokComma, nNum .init "3" 3, tokComma, nNum .up "1E2" 100, tokRpar]
    let p : Param := { init := .fin 4 1, initS := "4.0", lower := .fin 0 1, lowerS := "0",
                       upper := .fin 100 1, upperS := "100", fix := false }
    updItem cs p = [tokLpar, nNum .low "0" 0, tokComma, nNum .init "4.0" 4, tokComma, nNum .up "1E2" 100, tokRpar] := by
  decide +kernel

/-- fixed by 6b0a1ad: an explicit infinite upper bound goes together with the lower bound and the parentheses:
    `(0,7.5,INF)` with the lower bound set to -inf is written `7.5` (c1795fa alone wrote `7.5,INF`: not derivable). -/
theorem theta_explicit_inf_upper_removed :
    let cs := [tokLpar, nNum .low "0" 0, tokComma, nNum .init "7.5" 15 2, tokComma,
               ({ k := .up, rule := "POS_INF", text := "INF", val := .pinf } : TNode), tokRpar]
    let p : Param := { init := .fin 15 2, initS := "7.5", lower := .ninf, lowerS := "-inf",
                       upper := .pinf, upperS := "inf", fix := false }
    grammarOK cs = true ∧ updItem cs p = [nNum .init "7.5" 15 2] ∧ grammarOK (updItem cs p) = true ∧
      parseItem (updItem cs p) = .ok p.toParsed := by
  decide +kernel

/-- fixing `(1)x2` appends ` FIX` after `x2`; the `theta` rule has `n | FIX` there, not both -/
theorem theta_fix_after_repeat_witness :
    let cs := [tokLpar, nNum .init "1" 1, tokRpar, nRep 2]
    grammarOK cs = true ∧
    updItem cs (pSimple 1 "1.0" true) = [tokLpar, nNum .init "1" 1, tokRpar, nRep 2, tokWs, tokFix] ∧
    grammarOK (updItem cs (pSimple 1 "1.0" true)) = false := by
  decide +kernel

/-- FIX inside the parentheses (outside `Shp`): `(3 FIX, 3)` with the lower bound removed loses the FIX
    together with the bound and reads back unfixed -/
theorem theta_fix_inside_witness :
    let cs := [tokLpar, nNum .low "3" 3, tokWs, tokFix, tokComma, tokWs, nNum .init "3" 3, tokRpar]
    let p := pSimple 3 "3.0" true
    parseItem cs = .ok { init := .fin 3 1, lower := .fin 3 1, upper := .pinf, fix := true } ∧
    updItem cs p = [nNum .init "3" 3] ∧
    parseItem (updItem cs p) = .ok { init := .fin 3 1, lower := .ninf, upper := .pinf, fix := false } := by
  decide +kernel

/-- FIX in front inside the parentheses: `(FIX 3, 3)` with the lower bound removed is written `FIX 3`,
    which the grammar does not derive -/
theorem theta_fix_front_witness :
    let cs := [tokLpar, tokFix, tokWs, nNum .low "3" 3, tokComma, tokWs, nNum .init "3" 3, tokRpar]
    updItem cs (pSimple 3 "3.0" true) = [tokFix, tokWs, nNum .init "3" 3] ∧
    grammarOK (updItem cs (pSimple 3 "3.0" true)) = false := by
  decide +kernel

/-- the hypotheses of `theta_update_reads_back_partial` are satisfiable on a non-trivial input:
    `( 0 ,3,1E2) FIXx2`-like item with two identical new parameters that change init, bounds and fixedness -/
example :
    let p : Param := { init := .fin 4 1, initS := "4.0", lower := .ninf, lowerS := "-inf",
                       upper := .fin 7 1, upperS := "7", fix := false }
    let r := [RNode.tok tokWs, RNode.item exShape.build, RNode.tok tokWs]
    RecShape r ∧ (∀ q ∈ [p, p], ParamOK q = true) ∧ noRepeatSplit r [p, p] = true ∧
      parseRec (updRec r [p, p]) = .ok [p.toParsed, p.toParsed] := by
  intro p r
  have hs : RecShape r := by
    intro cs h
    simp [r] at h
    subst h
    exact ⟨exShape, exShape_wf.1, exShape_wf.2, rfl⟩
  have hp : ∀ q ∈ [p, p], ParamOK q = true := by
    intro q hq; simp at hq; subst hq; decide
  have hr : noRepeatSplit r [p, p] = true := by decide
  exact ⟨hs, hp, hr, theta_update_reads_back_partial r [p, p] hs hp hr⟩

/-- one updated item, any child list with an init (options FIX/SD/VAR and parentheses anywhere) -/
theorem omega_diag_item_reads_back (cs : List TNode) (p : OParam) (h : hasK .init cs = true)
    (hsv : (hasK .sd cs && hasK .var cs) = false) (hz : p.raw = zero → p.fix = true) :
    parseDiagItem (updDiagSame cs p) = .ok { raw := p.raw, sd := hasK .sd cs, fix := p.fix } ∧
      multiple (updDiagSame cs p) = multiple cs := by
  obtain ⟨h1, h2, h3, h4, h5⟩ := updDiagSame_obs cs p h
  refine ⟨?_, h5⟩
  unfold parseDiagItem
  rw [h1, h2, h3, h4]
  by_cases hr : p.raw = zero
  · simp [hsv, hr, hz hr]
  · simp [hsv, hr]

/-- for every diagonal record (any items, options, `DIAGONAL(n)`, comments) the updated record reads back with the
    new raw values and fixedness and the old scale flags — when no `(v)xn` item has to be split (`noRepeatSplitD`) -/
theorem omega_diag_update_reads_back_partial (r : List DNode) (ps : List OParam) (hok : DiagOK r)
    (hz : ∀ p ∈ ps, p.raw = zero → p.fix = true) (hrep : noRepeatSplitD r ps = true) :
    parseDiag (updDiag r ps) = .ok (expectD r ps) := by
  induction r generalizing ps with
  | nil => rfl
  | cons x r ih =>
    have hok' : DiagOK r := fun cs h => hok cs (List.mem_cons_of_mem _ h)
    cases x with
    | tok t => simpa [updDiag, parseDiag, expectD] using ih ps hok' hz hrep
    | diagonal t => simpa [updDiag, parseDiag, expectD] using ih ps hok' hz hrep
    | item cs =>
      cases ps with
      | nil => simp [noRepeatSplitD] at hrep
      | cons p ps' =>
        simp only [noRepeatSplitD, Bool.and_eq_true, decide_eq_true_eq, beq_iff_eq] at hrep
        obtain ⟨⟨hn, htake⟩, hrest⟩ := hrep
        obtain ⟨hinit, hsv⟩ := hok cs (by simp)
        obtain ⟨hparse, hmult⟩ := omega_diag_item_reads_back cs p hinit hsv (hz p (by simp))
        have hih := ih ((p :: ps').drop (multiple cs)) hok'
          (fun q hq => hz q (List.mem_of_mem_drop hq)) hrest
        -- `n` equal parameters: the item is not split
        have hitem : updDiagItem cs ((p :: ps').take (multiple cs)) = [.item (updDiagSame cs p)] := by
          obtain ⟨m, hm⟩ : ∃ m, multiple cs = m + 1 := ⟨multiple cs - 1, by omega⟩
          rw [htake, hm, List.replicate_succ, updDiagItem, if_pos (by simp)]
        simp only [updDiag, hitem, List.singleton_append, parseDiag, hparse, hih, hmult, expectD]

/-- `remove` on a diagonal record reads back as the per-item drop -/
theorem omega_diag_remove_reads_back (r : List DNode) (inds : List Nat) :
    parseDiagItems (removeDiag r inds) = dropIdx inds 0 (parseDiagItems r) := by
  unfold removeDiag
  cases inds with
  | nil => exact (dropIdx_nil 0 _).symm
  | cons a as => simpa using removeDiagAux_parse (a :: as) 0 true r

/-- names after `remove`: for every diagonal record (`DIAGONAL(n)` only in front of the first item, as in the
    grammar) and every index set the kept items are read under the names they had: the name comments of a removed
    item (on its line or on stand-alone lines below it, up to the next item) go with it -/
theorem omega_diag_remove_names (r : List DNode) (inds : List Nat) (h : diagonalInFront r = true) :
    diagNames (removeDiag r inds) = dropIdx inds 0 (diagNames r) := by
  unfold removeDiag
  cases inds with
  | nil => simp [dropIdx_nil]
  | cons a as => simpa using removeDiagAux_names (a :: as) 0 true r h

/-- names and values together: what is read for every kept item after `remove` -/
theorem omega_diag_remove_reads_back_named (r : List DNode) (inds : List Nat) (h : diagonalInFront r = true) :
    (parseDiagItems (removeDiag r inds)).zip (diagNames (removeDiag r inds)) =
      (dropIdx inds 0 (parseDiagItems r)).zip (dropIdx inds 0 (diagNames r)) := by
  rw [omega_diag_remove_reads_back, omega_diag_remove_names r inds h]

/-- the regular expression of `_get_name` on the spellings that occur -/
theorem comment_name_examples :
    commentName "; IIV_V" = some "IIV_V" ∧ commentName ";IIV_V [L/h]" = some "IIV_V" ∧
    commentName "; previous_value 0.4" = some "previous_value" ∧ commentName "; 2nd value" = none ∧
    commentName "; 0.4 ; was_fixed" = some "was_fixed" ∧ commentName "\n" = none ∧ commentName ";" = none := by
  decide +kernel

/-- non-vacuity: `$OMEGA 0.1⏎ 0.2⏎ ; IIV_V⏎ 0.3 ; IIV_KA⏎` with the second item removed: the stand-alone name
    comment goes with it, the first item stays unnamed -/
example :
    let r := [DNode.tok tokWs, .item [nNum .init "0.1" 1 10], .tok nNewline, .tok tokWs,
              .item [nNum .init "0.2" 1 5], .tok nNewline, .tok tokWs, .tok (nComment "; IIV_V"), .tok nNewline, .tok tokWs,
              .item [nNum .init "0.3" 3 10], .tok tokWs, .tok (nComment "; IIV_KA"), .tok nNewline]
    diagonalInFront r = true ∧ diagNames r = [none, some "IIV_V", some "IIV_KA"] ∧
      diagNames (removeDiag r [1]) = [none, some "IIV_KA"] ∧
      removeDiag r [1] = [DNode.tok tokWs, .item [nNum .init "0.1" 1 10], .tok nNewline, .tok tokWs,
              .item [nNum .init "0.3" 3 10], .tok tokWs, .tok (nComment "; IIV_KA"), .tok nNewline] := by
  decide +kernel

/-- the split-xn path inverts the FIX logic: `$OMEGA (0.1 FIX)x2` with the second variance changed and
    both still fixed is written `(0.1) (0.25)` — both unfixed -/
theorem omega_diag_split_fix_witness :
    let cs := [tokLpar, nNum .init "0.1" 1 10, tokWs, tokFix, tokRpar, nRep 2]
    let ps := [oP 1 10 "0.1" true, oP 1 4 "0.25" true]
    noRepeatSplitD [.item cs] ps = false ∧
    updDiag [.item cs] ps =
      [.item [tokLpar, nNum .init "0.1" 1 10, tokRpar], .tok wsTree, .item [tokLpar, nNum .init "0.25" 1 4, tokRpar]] ∧
    parseDiag (updDiag [.item cs] ps) = .ok [{ raw := .fin 1 10, sd := false, fix := false },
                                             { raw := .fin 1 4, sd := false, fix := false }] := by
  decide +kernel

/-- removing the last value of `$OMEGA 0.1 0.2⏎` also removes the newline that ends the record -/
theorem omega_diag_remove_last_newline_witness :
    let r := [DNode.tok tokWs, .item [nNum .init "0.1" 1 10], .tok tokWs, .item [nNum .init "0.2" 1 5], .tok nNewline]
    removeDiag r [1] = [DNode.tok tokWs, .item [nNum .init "0.1" 1 10], .tok tokWs] := by
  decide +kernel

/-- non-vacuity: `$OMEGA DIAG(3) (0.1 SD)x2 0.3 FIX` with new values for all three etas -/
example :
    let r := [DNode.diagonal tokWs, .item [tokLpar, nNum .init "0.1" 1 10, tokWs, nSd, tokRpar, nRep 2], .tok tokWs,
              .item [nNum .init "0.3" 3 10, tokWs, tokFix], .tok nNewline]
    let ps := [oP 1 2 "0.5" true, oP 1 2 "0.5" true, oP 2 1 "2" false]
    DiagOK r ∧ noRepeatSplitD r ps = true ∧
      parseDiag (updDiag r ps) = .ok [{ raw := .fin 1 2, sd := true, fix := true }, { raw := .fin 1 2, sd := true, fix := true },
                                      { raw := .fin 2 1, sd := false, fix := false }] := by
  intro r ps
  have hok : DiagOK r := by
    intro cs h
    simp [r] at h
    rcases h with rfl | rfl <;> decide
  have hrep : noRepeatSplitD r ps = true := by decide
  refine ⟨hok, hrep, ?_⟩
  rw [omega_diag_update_reads_back_partial r ps hok (by intro p hp; simp [ps] at hp; rcases hp with rfl | rfl <;> decide) hrep]
  decide

/-- for every BLOCK record — FIX on the header, after an init, or inside the parentheses — after the BLOCK branch
    of `OmegaRecord.update` with new fixedness `b` the reader's `_block_flags` reports `b` (when no `(v)xn` node has
    to be split) -/
theorem omega_block_fix_reads_back (r : List DNode) (ws : List String) (news : List OParam) (olds : List Val)
    (f b : Bool) (h : blockFix r = .ok f) (hb : hasBlock r = true)
    (hn : noSplitB r (blockArray r ws news olds) = true) :
    ∃ r', updBlock r ws news olds b = .ok r' ∧ blockFix r' = .ok b := by
  obtain ⟨h1, h2, h3⟩ := updBlockVals_flags r _ hn
  refine ⟨setBlockFix f (updBlockVals r (blockArray r ws news olds)) b, by simp [updBlock, h], ?_⟩
  apply setBlockFix_reads_back
  · unfold blockFix at h ⊢
    rw [h1, h3]
    exact h
  · rw [h2]; exact hb

/-- (fix f0abfd5) a no-op update of a BLOCK record returns it token for token, on every scale: of the scale
    conversion only this is used, that reader and writer apply the *same* function, so that equal parameters give equal
    record-scale values (`olds = news.map raw`); the fixedness is the one the record has -/
theorem omega_block_noop (r : List DNode) (ws : List String) (news : List OParam) (f : Bool)
    (h : blockFix r = .ok f) (hws : ws.length = (writtenVals r).length)
    (hlen : news.length = (writtenVals r).length) :
    updBlock r ws news (news.map (·.raw)) f = .ok r := by
  have harr : (blockArray r ws news (news.map (·.raw))).map (·.raw) = writtenVals r := by
    unfold blockArray
    simp only [List.length_map, ↓reduceIte]
    exact mergeKept_same _ ws news hws hlen
  simp [updBlock, h, updBlockVals_written r _ harr, setBlockFix]

/-- non-vacuity, with FIX tied to one init and with FIX absent: `BLOCK(2) 0.1 0.01 (0.2 FIX)`, unfixed, and
    `BLOCK(2) 0.1 0.01 0.2`, fixed -/
example :
    let r := [DNode.tok tokWs, .tok nBlock, .tok tokWs, .item [nNum .init "0.1" 1 10], .tok tokWs,
              .item [nNum .init "0.01" 1 100], .tok tokWs,
              .item [tokLpar, nNum .init "0.2" 1 5, tokWs, tokFix, tokRpar], .tok nNewline]
    let vals := [oP 1 10 "0.1" false, oP 1 100 "0.01" false, oP 1 5 "0.2" false]
    let ws := ["0.1", "0.01", "0.2"]
    let olds := vals.map (·.raw)
    blockFix r = .ok true ∧ hasBlock r = true ∧ noSplitB r (blockArray r ws vals olds) = true ∧
      updBlock r ws vals olds false = .ok [DNode.tok tokWs, .tok nBlock, .tok tokWs, .item [nNum .init "0.1" 1 10], .tok tokWs,
              .item [nNum .init "0.01" 1 100], .tok tokWs,
              .item [tokLpar, nNum .init "0.2" 1 5, tokRpar], .tok nNewline] ∧
      (updBlock r ws vals olds true).map blockFix = .ok (.ok true) := by
  decide +kernel

section omega
variable {F : Type} [Field F]

/-- writing then reading: for every form VARIANCE|SD x COVARIANCE|CORRELATION, converting a covariance matrix to
    the spelled scale (`OmegaRecord.update`) and back (`OmegaRecord.parse`) is the identity on every entry, over any
    field with a function `s` that is a non-vanishing square root on the diagonal (the code's guard: positive diagonal) -/
theorem omega_scale_inverse (s : F → F) (sd corr : Bool) (C : Nat → Nat → F)
    (hs : ∀ i, s (C i i) * s (C i i) = C i i) (hne : ∀ i, s (C i i) ≠ 0) (i j : Nat) :
    toCovE (fieldOps s) sd corr (fromCovE (fieldOps s) sd corr C) i j = C i j := by
  unfold toCovE fromCovE fieldOps
  by_cases hij : i = j
  · subst hij
    cases sd <;> simp [hs]
  · -- off the diagonal a correlation is divided by, then multiplied with, the same non-zero product of roots
    have hx : s (C i i) * s (C j j) ≠ 0 := mul_ne_zero (hne i) (hne j)
    cases sd <;> cases corr <;> simp [hij, mul_div_cancel₀ _ hx]

/-- reading then writing (in exact arithmetic): needs non-zero standard deviations that are their own root's
    square (SD form) resp. a non-vanishing root of the variances (VARIANCE form) -/
theorem omega_scale_inverse_raw (s : F → F) (sd corr : Bool) (A : Nat → Nat → F)
    (hsd : sd = true → ∀ i, s (A i i * A i i) = A i i ∧ A i i ≠ 0)
    (hvar : sd = false → ∀ i, s (A i i) ≠ 0) (i j : Nat) :
    fromCovE (fieldOps s) sd corr (toCovE (fieldOps s) sd corr A) i j = A i j := by
  unfold toCovE fromCovE fieldOps
  by_cases hij : i = j
  · subst hij
    cases sd
    · simp
    · simp [(hsd rfl i).1]
  · cases sd
    · have hx : s (A i i) * s (A j j) ≠ 0 := mul_ne_zero (hvar rfl i) (hvar rfl j)
      cases corr <;> simp [hij, mul_div_cancel_left₀ _ hx]
    · obtain ⟨ei, hi⟩ := hsd rfl i
      obtain ⟨ej, hj⟩ := hsd rfl j
      have hx : A i i * A j j ≠ 0 := mul_ne_zero hi hj
      cases corr <;> simp [hij, ei, ej, mul_div_cancel_left₀ _ hx]

/-- the same over an ordered field with a square root of the non-negative elements:
    a positive diagonal is all that is needed -/
theorem omega_scale_inverse_ordered [LinearOrder F] (s : F → F) (hsqrt : ∀ x, 0 ≤ x → s x * s x = x)
    (sd corr : Bool) (C : Nat → Nat → F) (hpos : ∀ i, 0 < C i i) (i j : Nat) :
    toCovE (fieldOps s) sd corr (fromCovE (fieldOps s) sd corr C) i j = C i j := by
  apply omega_scale_inverse
  · intro k; exact hsqrt _ (le_of_lt (hpos k))
  · intro k h0
    have := hsqrt _ (le_of_lt (hpos k))
    rw [h0] at this
    have hp := hpos k
    rw [← this] at hp
    simp at hp

/-- (non-Cholesky forms) `OmegaRecord.remove` deletes rows and columns of the *raw* matrix and keeps the scale
    options; that commutes with the conversion, for any injective re-indexing `σ` (the kept indices in order) -/
theorem omega_remove_block {G : Type} (o : Ops G) (sd corr : Bool) (A : Nat → Nat → G) (σ : Nat → Nat)
    (hσ : ∀ a b, σ a = σ b → a = b) (i j : Nat) :
    toCovE o sd corr (fun a b => A (σ a) (σ b)) i j = toCovE o sd corr A (σ i) (σ j) := by
  unfold toCovE
  by_cases hij : i = j
  · subst hij; simp
  · have : σ i ≠ σ j := fun h => hij (hσ i j h)
    simp [hij, this]

end omega

/-- non-vacuity of `omega_scale_inverse`: the rationals with `s 4 = 2`, `s 9 = 3`, a 2x2 matrix -/
example :
    let s : Rat → Rat := fun x => if x = 4 then 2 else if x = 9 then 3 else 1
    let C : Nat → Nat → Rat := fun i j => if i = j then (if i % 2 = 0 then 4 else 9) else 3
    (∀ i, s (C i i) * s (C i i) = C i i) ∧ (∀ i, s (C i i) ≠ 0) ∧
      fromCovE (fieldOps s) true true C 0 1 = 1 / 2 := by
  intro s C
  refine ⟨?_, ?_, ?_⟩
  · intro i
    by_cases h : i % 2 = 0 <;> simp [s, C, h] <;> norm_num
  · intro i
    by_cases h : i % 2 = 0 <;> simp [s, C, h]
  · simp [fromCovE, fieldOps, s, C]
    norm_num

end Pharmpy.C04
