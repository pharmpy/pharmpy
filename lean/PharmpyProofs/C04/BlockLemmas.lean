import PharmpyModel.C04.OmegaBlock
import PharmpyProofs.C04.DiagLemmas
/-
  `$OMEGA`/`$SIGMA BLOCK(n)` records: the FIX flag through `update`, and the no-op update.
-/
namespace Pharmpy.C04

def itemNoFix : DNode → Bool
  | .item cs => !hasK .fix cs
  | _ => true

def itemsNoFix (r : List DNode) : Bool := r.all itemNoFix

def isBlockTok : DNode → Bool
  | .tok t => t.k == .block
  | _ => false

def hasBlock (r : List DNode) : Bool := r.any isBlockTok

theorem blockFixAux_noItemFix (f : Bool) (r : List DNode) (h : itemsNoFix r = true) :
    blockFixAux f r = .ok f := by
  induction r with
  | nil => rfl
  | cons x r ih =>
    obtain ⟨hx, hr⟩ := Bool.and_eq_true_iff.mp (h : (itemNoFix x && itemsNoFix r) = true)
    cases x with
    | item cs => rw [blockFixAux, if_neg (by simpa [itemNoFix] using hx), ih hr]
    | tok t => exact ih hr
    | diagonal t => exact ih hr

theorem blockFixAux_false (f : Bool) (r : List DNode) (h : blockFixAux f r = .ok false) :
    f = false ∧ itemsNoFix r = true := by
  induction r generalizing f with
  | nil => exact ⟨Except.ok.inj h, rfl⟩
  | cons x r ih =>
    cases x with
    | item cs =>
      rw [blockFixAux] at h
      split at h
      · split at h
        · cases h
        · exact absurd (ih true h).1 (by decide)
      · rename_i hc
        exact ⟨(ih f h).1, Bool.and_eq_true_iff.mpr ⟨by simpa [itemNoFix] using hc, (ih f h).2⟩⟩
    | tok t => exact ih f h
    | diagonal t => exact ih f h

theorem rmFixRootAux_noRootFix (acc r : List DNode) (ha : rootHasFix acc = false) :
    rootHasFix (rmFixRootAux acc r) = false := by
  induction r generalizing acc with
  | nil => simpa [rmFixRootAux, rootHasFix] using ha
  | cons x r ih =>
    simp only [rmFixRootAux]
    split
    · cases acc with
      | nil => exact ih [] rfl
      | cons a acc =>
        have ha' : rootHasFix acc = false := (Bool.or_eq_false_iff.mp ha).2
        dsimp only
        split
        · exact ih acc ha'
        · exact ih (a :: acc) ha
    · rename_i hx
      exact ih (x :: acc) (Bool.or_eq_false_iff.mpr ⟨by simpa using hx, ha⟩)

theorem rmFixRec_blockFix (r : List DNode) : blockFix (rmFixRec r) = .ok false := by
  have h1 : rootHasFix (rmFixRec r) = false := by
    rw [rmFixRec, rootHasFix, List.any_map]
    refine Eq.trans ?_ (rmFixRootAux_noRootFix [] r rfl)
    congr 1
    funext x
    cases x <;> rfl
  have h2 : itemsNoFix (rmFixRec r) = true := by
    rw [rmFixRec, itemsNoFix, List.all_map, List.all_eq_true]
    intro x _
    cases x <;> simp [rmFixInside, itemNoFix, rmFix_noFix]
  rw [blockFix, h1]
  exact blockFixAux_noItemFix false _ h2

/-- `insert_after(tree, 'block', nodes)` with root tokens `nodes` -/
theorem insertAfterBlock_flags (nodes r : List DNode) (hn : itemsNoFix nodes = true) :
    itemsNoFix (insertAfterBlock nodes r) = itemsNoFix r ∧
      (hasBlock r = true → rootHasFix nodes = true → rootHasFix (insertAfterBlock nodes r) = true) := by
  induction r with
  | nil => exact ⟨rfl, fun h => nomatch h⟩
  | cons x r ih =>
    cases x with
    | tok t =>
      rw [insertAfterBlock]
      split
      · refine ⟨?_, fun _ h => ?_⟩
        · simp only [itemsNoFix, List.all_cons, List.all_append] at hn ih ⊢
          rw [hn, ih.1, Bool.and_true]
        · simp only [rootHasFix, List.any_cons, List.any_append] at h ⊢
          rw [h, Bool.or_true, Bool.true_or]
      · rename_i hb
        refine ⟨congrArg (itemNoFix (.tok t) && ·) ih.1, fun hbl h => ?_⟩
        have : hasBlock r = true := by simpa [hasBlock, isBlockTok, hb] using hbl
        exact (congrArg (isRootFix (.tok t) || ·) (ih.2 this h)).trans (Bool.or_true _)
    | item cs => exact ⟨congrArg (itemNoFix (.item cs) && ·) ih.1, fun hbl h => ih.2 hbl h⟩
    | diagonal t => exact ⟨ih.1, fun hbl h => ih.2 hbl h⟩

/-- the FIX handling at the end of the BLOCK branch reads back, wherever the FIX was written -/
theorem setBlockFix_reads_back (r : List DNode) (f b : Bool) (h : blockFix r = .ok f) (hb : hasBlock r = true) :
    blockFix (setBlockFix f r b) = .ok b := by
  unfold setBlockFix
  by_cases hbf : b = f
  · rw [if_neg (fun c => c hbf), hbf]
    exact h
  · rw [if_pos hbf]
    cases b with
    | true =>
      have hf : f = false := by cases f <;> simp_all
      subst hf
      have hfl := insertAfterBlock_flags [.tok tokWs, .tok tokFix] r rfl
      rw [if_pos rfl, blockFix, hfl.2 hb rfl]
      exact blockFixAux_noItemFix true _ (hfl.1.trans (blockFixAux_false _ _ h).2)
    | false => exact rmFixRec_blockFix r

/-- no `(v)xn` node of the block has to be split: its n new values are equal -/
def noSplitB : List DNode → List OParam → Bool
  | [], _ => true
  | .item cs :: r, vs =>
    (match vs.take (multiple cs) with
     | [] => true
     | v :: rest => rest.all (fun q => q.raw == v.raw)) && noSplitB r (vs.drop (multiple cs))
  | _ :: r, vs => noSplitB r vs

theorem updBlockVals_flags (r : List DNode) (vs : List OParam) (hn : noSplitB r vs = true) :
    rootHasFix (updBlockVals r vs) = rootHasFix r ∧ hasBlock (updBlockVals r vs) = hasBlock r ∧
      ∀ f, blockFixAux f (updBlockVals r vs) = blockFixAux f r := by
  induction r generalizing vs with
  | nil => exact ⟨rfl, rfl, fun _ => rfl⟩
  | cons x r ih =>
    cases x with
    | tok t =>
      obtain ⟨h1, h2, h3⟩ := ih vs hn
      exact ⟨congrArg (isRootFix (.tok t) || ·) h1, congrArg (isBlockTok (.tok t) || ·) h2, h3⟩
    | diagonal t => exact ih vs hn
    | item cs =>
      obtain ⟨hn1, hn2⟩ := Bool.and_eq_true_iff.mp (hn : (_ && _) = true)
      obtain ⟨h1, h2, h3⟩ := ih (vs.drop (multiple cs)) hn2
      obtain ⟨cs', e, hf⟩ : ∃ cs', updOmegaItem cs (vs.take (multiple cs)) = [.item cs'] ∧
          hasK .fix cs' = hasK .fix cs := by
        unfold updOmegaItem
        cases ht : vs.take (multiple cs) with
        | nil => exact ⟨cs, rfl, rfl⟩
        | cons v rest =>
          rw [ht] at hn1
          dsimp only at hn1 ⊢
          rw [if_pos (by simpa using hn1)]
          exact ⟨_, rfl, setRaw_hasFix cs v⟩
      rw [updBlockVals, e]
      exact ⟨h1, h2, fun f => by simp only [List.singleton_append, blockFixAux, hf, h3]⟩

def nBlock : TNode := { k := .block, rule := "block", text := "BLOCK(2)" }

theorem mergeKept_same (written : List Val) (ws : List String) (news : List OParam)
    (h1 : ws.length = written.length) (h2 : news.length = written.length) :
    (mergeKept written ws news (news.map (·.raw))).map (·.raw) = written := by
  induction written generalizing ws news with
  | nil => rfl
  | cons w written ih =>
    match ws, news, h1, h2 with
    | s :: ws, n :: news, h1, h2 =>
      show ((if n.raw = n.raw then _ else n) :: _).map (·.raw) = _
      rw [if_pos rfl]
      exact congrArg (w :: ·) (ih ws news (Nat.succ.inj h1) (Nat.succ.inj h2))

theorem updBlockVals_written (r : List DNode) (vals : List OParam)
    (h : vals.map (·.raw) = writtenVals r) : updBlockVals r vals = r := by
  induction r generalizing vals with
  | nil => rfl
  | cons x r ih =>
    cases x with
    | tok t => exact congrArg (DNode.tok t :: ·) (ih vals h)
    | diagonal t => exact congrArg (DNode.diagonal t :: ·) (ih vals h)
    | item cs =>
      simp only [writtenVals] at h
      have hlen : (List.replicate (multiple cs) ((valK .init cs).getD zero)).length = multiple cs := by simp
      have htake : (vals.take (multiple cs)).map (·.raw) = List.replicate (multiple cs) ((valK .init cs).getD zero) := by
        rw [List.map_take, h, List.take_left' hlen]
      have hdrop : (vals.drop (multiple cs)).map (·.raw) = writtenVals r := by
        rw [List.map_drop, h, List.drop_left' hlen]
      simp only [updBlockVals, ih _ hdrop]
      have hitem : updOmegaItem cs (vals.take (multiple cs)) = [.item cs] := by
        unfold updOmegaItem
        cases ht : vals.take (multiple cs) with
        | nil => rfl
        | cons v rest =>
          rw [ht] at htake
          have hall : ∀ q ∈ v :: rest, q.raw = (valK .init cs).getD zero := by
            intro q hq
            have : q.raw ∈ (v :: rest).map (·.raw) := List.mem_map_of_mem hq
            rw [htake] at this
            exact (List.mem_replicate.mp this).2
          have hv := hall v (by simp)
          have : (v :: rest).all (fun q => q.raw == v.raw) = true := by
            simp only [List.all_eq_true, beq_iff_eq]
            intro q hq; rw [hall q hq, hv]
          simp only [this, ↓reduceIte]
          congr 2
          unfold setRaw
          cases hf : findK .init cs with
          | none => rfl
          | some i =>
            have : i.val = v.raw := by simp [hv, valK, hf]
            simp [this]
      rw [hitem]; rfl

end Pharmpy.C04
