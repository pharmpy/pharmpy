import Mathlib.Tactic.FieldSimp
import Mathlib.Tactic.Ring
import Mathlib.Algebra.Order.Field.Basic
import PharmpyModel.C04.Omega
namespace Pharmpy.C04

/-- multiplication and division of a field, `s` as the square root -/
def fieldOps {F : Type} [Field F] (s : F → F) : Ops F := { mul := (· * ·), div := (· / ·), sqrt := s }

end Pharmpy.C04
