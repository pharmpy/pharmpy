import PharmpyModel.C04.OmegaDiag
import PharmpyProofs.C04.Lemmas
/-
  Diagonal `$OMEGA`/`$SIGMA` records, arbitrary child lists: what `update` and `remove` do to what the reader observes.
-/
namespace Pharmpy.C04

@[simp] theorem tokWs_k : tokWs.k = .ws := rfl
@[simp] theorem tokFix_k : tokFix.k = .fix := rfl

theorem findK_replaceFirst_ne (new : TNode) (k : K) (hk : k ≠ new.k) (cs : List TNode) :
    findK k (replaceFirst new cs) = findK k cs := by
  induction cs with
  | nil => rfl
  | cons x xs ih =>
    by_cases h : x.k = new.k
    · have : x.k ≠ k := fun e => hk (e ▸ h)
      simp [replaceFirst, h, findK_cons, Ne.symm hk]
    · simp [replaceFirst, h, findK_cons, ih]

theorem findK_replaceFirst_eq (new : TNode) (cs : List TNode) (h : hasK new.k cs = true) :
    findK new.k (replaceFirst new cs) = some new := by
  induction cs with
  | nil => simp at h
  | cons x xs ih =>
    by_cases hx : x.k = new.k
    · simp [replaceFirst, hx, findK_cons]
    · simp [hasK_cons, hx] at h
      simp [replaceFirst, hx, findK_cons, ih h]

theorem insertBefore_findK (k : K) (hk : k ≠ .ws ∧ k ≠ .fix) (cs : List TNode) :
    findK k (insertBefore .rpar [tokWs, tokFix] cs) = findK k cs := by
  induction cs with
  | nil => rfl
  | cons x xs ih =>
    by_cases h : x.k = .rpar
    · simp [insertBefore, h, findK_cons, Ne.symm hk.1, Ne.symm hk.2, ih]
    · simp [insertBefore, h, findK_cons, ih]

theorem insertFix_findK (k : K) (hk : k ≠ .ws ∧ k ≠ .fix) (cs : List TNode) :
    findK k (insertBeforeOrAtEnd .rpar [tokWs, tokFix] cs) = findK k cs := by
  unfold insertBeforeOrAtEnd
  cases hf : hasK .rpar cs
  · simp [findK_append, findK_cons, Ne.symm hk.1, Ne.symm hk.2]
  · simp [insertBefore_findK k hk cs]

theorem insertBefore_hasFix (cs : List TNode) (h : hasK .rpar cs = true) :
    hasK .fix (insertBefore .rpar [tokWs, tokFix] cs) = true := by
  induction cs with
  | nil => simp at h
  | cons x xs ih =>
    by_cases hx : x.k = .rpar
    · simp [insertBefore, hx, hasK_cons]
    · simp [hasK_cons, hx] at h
      simp [insertBefore, hx, hasK_cons, ih h]

theorem insertFix_hasFix (cs : List TNode) : hasK .fix (insertBeforeOrAtEnd .rpar [tokWs, tokFix] cs) = true := by
  unfold insertBeforeOrAtEnd
  cases hf : hasK .rpar cs
  · simp [hasK_append, hasK_cons]
  · simpa using insertBefore_hasFix cs hf

theorem setRaw_valInit (cs : List TNode) (p : OParam) (h : hasK .init cs = true) :
    valK .init (setRaw cs p) = some p.raw := by
  unfold setRaw valK
  rw [hasK_eq_isSome] at h
  cases hf : findK .init cs with
  | none => simp [hf] at h
  | some i =>
    by_cases hv : i.val = p.raw
    · simp [hv, hf]
    · have : hasK (numNode .init p.rawS p.raw).k cs = true := by
        rw [hasK_eq_isSome]; simp [numNode, hf]
      simp only [ne_eq, hv, not_false_eq_true, ↓reduceIte]
      have e := findK_replaceFirst_eq (numNode .init p.rawS p.raw) cs this
      simp only [numNode] at e ⊢
      simp [e]

theorem setRaw_findK (k : K) (hk : k ≠ .init) (cs : List TNode) (p : OParam) :
    findK k (setRaw cs p) = findK k cs := by
  unfold setRaw
  cases hf : findK .init cs with
  | none => rfl
  | some i =>
    by_cases hv : i.val = p.raw
    · simp [hv]
    · simp only [ne_eq, hv, not_false_eq_true, ↓reduceIte]
      exact findK_replaceFirst_ne _ k (by simpa [numNode] using hk) cs

theorem setRaw_hasFix (cs : List TNode) (v : OParam) : hasK .fix (setRaw cs v) = hasK .fix cs := by
  rw [hasK_eq_isSome, setRaw_findK .fix (by decide), hasK_eq_isSome]

/-- the FIX adjustment of the "all equal" path: the first node of any kind but WS and FIX is the one `setRaw` left,
    and there is a FIX exactly if one is wanted -/
theorem updDiagSame_fix (cs : List TNode) (p : OParam) :
    (∀ k, k ≠ .ws ∧ k ≠ .fix → findK k (updDiagSame cs p) = findK k (setRaw cs p)) ∧
      hasK .fix (updDiagSame cs p) = p.fix := by
  unfold updDiagSame
  by_cases hf : p.fix = hasK .fix cs
  · rw [if_neg (fun c => c hf)]
    exact ⟨fun _ _ => rfl, (setRaw_hasFix cs p).trans hf.symm⟩
  · rw [if_pos hf]
    cases hp : p.fix
    · exact ⟨fun k hk => rmFix_findK k hk _, rmFix_noFix _⟩
    · exact ⟨fun k hk => insertFix_findK k hk _, insertFix_hasFix _⟩

theorem updDiagSame_obs (cs : List TNode) (p : OParam) (h : hasK .init cs = true) :
    valK .init (updDiagSame cs p) = some p.raw ∧ hasK .fix (updDiagSame cs p) = p.fix ∧
    hasK .sd (updDiagSame cs p) = hasK .sd cs ∧ hasK .var (updDiagSame cs p) = hasK .var cs ∧
    multiple (updDiagSame cs p) = multiple cs := by
  obtain ⟨hk, hfx⟩ := updDiagSame_fix cs p
  have hk' : ∀ k, k ≠ .init → k ≠ .ws ∧ k ≠ .fix → findK k (updDiagSame cs p) = findK k cs :=
    fun k h1 h2 => (hk k h2).trans (setRaw_findK k h1 cs p)
  refine ⟨?_, hfx, ?_, ?_, ?_⟩
  · rw [valK, hk .init (by decide)]
    exact setRaw_valInit cs p h
  · rw [hasK_eq_isSome, hk' .sd (by decide) (by decide), hasK_eq_isSome]
  · rw [hasK_eq_isSome, hk' .var (by decide) (by decide), hasK_eq_isSome]
  · rw [multiple, hk' .rep (by decide) (by decide), multiple]

/-- the diagonal record analogue of `noRepeatSplit`: as many parameters as the record has etas, every
    `(v)xn` item (n ≥ 1) receives n identical parameters -/
def noRepeatSplitD : List DNode → List OParam → Bool
  | [], ps => ps.isEmpty
  | .item cs :: r, ps =>
    match ps with
    | [] => false
    | p :: _ => decide (1 ≤ multiple cs) && (ps.take (multiple cs) == List.replicate (multiple cs) p) &&
        noRepeatSplitD r (ps.drop (multiple cs))
  | _ :: r, ps => noRepeatSplitD r ps

/-- what the reader is expected to see after the update -/
def expectD : List DNode → List OParam → List DParsed
  | [], _ => []
  | .item cs :: r, ps =>
    match ps with
    | [] => []
    | p :: _ => List.replicate (multiple cs) { raw := p.raw, sd := hasK .sd cs, fix := p.fix } ++
        expectD r (ps.drop (multiple cs))
  | _ :: r, ps => expectD r ps

/-- items the reader accepts: an init, not both SD and VAR -/
def DiagOK (r : List DNode) : Prop :=
  ∀ cs, DNode.item cs ∈ r → hasK .init cs = true ∧ (hasK .sd cs && hasK .var cs) = false

def nonItemsD : List DNode → List DNode
  | [] => []
  | .item _ :: r => nonItemsD r
  | x :: r => x :: nonItemsD r

theorem removeDiagAux_parse (inds : List Nat) (i : Nat) (keep : Bool) (r : List DNode) :
    parseDiagItems (removeDiagAux inds i keep r) = dropIdx inds i (parseDiagItems r) := by
  induction r generalizing i keep with
  | nil => rfl
  | cons x r ih =>
    cases x with
    | tok t => cases keep <;> simp [removeDiagAux, parseDiagItems, ih]
    | diagonal t => simp [removeDiagAux, parseDiagItems, ih]
    | item cs =>
      by_cases hc : i ∈ inds
      · simp [removeDiagAux, parseDiagItems, dropIdx, hc, ih]
      · simp [removeDiagAux, parseDiagItems, dropIdx, hc, ih]

/-- once a removed item switched `in_keep` off, nothing is emitted before the next item -/
theorem trailing_removeDiagAux_false (inds : List Nat) (i : Nat) (r : List DNode) :
    trailing (removeDiagAux inds i false r) = [] := by
  induction r generalizing i with
  | nil => rfl
  | cons x r ih =>
    cases x with
    | tok t => simp [removeDiagAux, ih]
    | diagonal t => simp [removeDiagAux, ih]
    | item cs =>
      by_cases hc : i ∈ inds
      · simp [removeDiagAux, hc, ih]
      · simp [removeDiagAux, hc, trailing]

theorem trailing_removeDiagAux_true (inds : List Nat) (i : Nat) (r : List DNode) (h : noDiagonal r = true) :
    trailing (removeDiagAux inds i true r) = trailing r := by
  induction r generalizing i with
  | nil => rfl
  | cons x r ih =>
    cases x with
    | tok t => simp [noDiagonal] at h; simp [removeDiagAux, trailing, ih i h]
    | diagonal t => simp [noDiagonal] at h
    | item cs =>
      by_cases hc : i ∈ inds
      · simp [removeDiagAux, hc, trailing, trailing_removeDiagAux_false]
      · simp [removeDiagAux, hc, trailing]

theorem removeDiagAux_names_noDiagonal (inds : List Nat) (i : Nat) (keep : Bool) (r : List DNode)
    (h : noDiagonal r = true) :
    diagNames (removeDiagAux inds i keep r) = dropIdx inds i (diagNames r) := by
  induction r generalizing i keep with
  | nil => rfl
  | cons x r ih =>
    cases x with
    | tok t => simp [noDiagonal] at h; cases keep <;> simp [removeDiagAux, diagNames, ih _ _ h]
    | diagonal t => simp [noDiagonal] at h
    | item cs =>
      simp [noDiagonal] at h
      by_cases hc : i ∈ inds
      · simp [removeDiagAux, diagNames, dropIdx, hc, ih _ _ h]
      · simp [removeDiagAux, diagNames, dropIdx, hc, ih _ _ h, trailing_removeDiagAux_true inds (i + 1) r h]

theorem removeDiagAux_names (inds : List Nat) (i : Nat) (keep : Bool) (r : List DNode)
    (h : diagonalInFront r = true) :
    diagNames (removeDiagAux inds i keep r) = dropIdx inds i (diagNames r) := by
  induction r generalizing i keep with
  | nil => rfl
  | cons x r ih =>
    cases x with
    | tok t => simp [diagonalInFront] at h; cases keep <;> simp [removeDiagAux, diagNames, ih _ _ h]
    | diagonal t => simp [diagonalInFront] at h; simp [removeDiagAux, diagNames, ih _ _ h]
    | item cs =>
      simp [diagonalInFront] at h
      exact removeDiagAux_names_noDiagonal inds i keep (.item cs :: r) (by simp [noDiagonal, h])

def nSd : TNode := { k := .sd, rule := "SD", text := "SD" }
def nComment (s : String) : TNode := { k := .other, rule := "COMMENT", text := s }
def nNewline : TNode := { k := .other, rule := "NEWLINE", text := "\n" }
def oP (n : Int) (d : Nat) (s : String) (fix : Bool) : OParam := { raw := .fin n d, rawS := s, fix := fix }

end Pharmpy.C04
