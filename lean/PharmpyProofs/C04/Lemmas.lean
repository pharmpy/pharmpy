import PharmpyProofs.C04.ShapeLemmas
/-
  `$THETA`: the four steps of `_update_theta` as maps from shapes to shapes, the reader on the result, the
  soundness of the shape recogniser, and the definitions the statements of Properties.lean use.
-/
namespace Pharmpy.C04

theorem fillers_comma : Fillers [tokComma] := by
  intro x hx; simp at hx; subst hx; simp [tokComma]

theorem Val.lt_irrefl (v : Val) : v.lt v = false := by
  cases v <;> simp [Val.lt]

theorem Val.lt_asymm {a b : Val} (h : a.lt b = true) : b.lt a = false := by
  cases a <;> cases b <;> simp_all [Val.lt]
  omega

theorem Val.ne_of_lt {a b : Val} (h : a.lt b = true) : a ≠ b := by
  intro e; subst e; simp [Val.lt_irrefl] at h

theorem lowerOf_written (l : Val) (h1 : minLower.lt l = true ∨ l = .ninf) : lowerOf (some l) = .ok l := by
  rcases h1 with h | h
  · have hne := (Val.ne_of_lt h).symm
    have hge := Val.lt_asymm h
    cases l <;> simp_all [lowerOf]
  · subst h; simp [lowerOf]

theorem upperOf_written (u : Val) (b : Bool) (h1 : u.lt maxUpper = true ∨ u = .pinf) (h2 : b = false → u = .pinf) :
    upperOf (if b then some u else none) = .ok u := by
  cases b with
  | false => simp [upperOf, h2 rfl]
  | true =>
    rcases h1 with h | h
    · have hne := Val.ne_of_lt h
      have hge := Val.lt_asymm h
      cases u <;> simp_all [upperOf]
    · subst h; simp [upperOf]

theorem upperOf_of_cur (uptok : Option Val) (u : Val) (hc : curUpper uptok = u)
    (h1 : u.lt maxUpper = true ∨ u = .pinf) : upperOf uptok = .ok u := by
  cases uptok with
  | none => simp [curUpper] at hc; simp [upperOf, hc]
  | some v =>
    by_cases hv : v = maxUpper
    · simp [curUpper, hv] at hc
      subst hc; subst hv
      simp [upperOf, maxUpper]
    · simp [curUpper, hv] at hc
      subst hc
      simpa using upperOf_written v true h1 (by simp)

theorem lowerOf_of_cur (lowtok : Option Val) (l : Val) (hc : curLower lowtok = l)
    (h1 : minLower.lt l = true ∨ l = .ninf) : lowerOf lowtok = .ok l := by
  cases lowtok with
  | none => simp [curLower] at hc; simp [lowerOf, hc]
  | some v =>
    by_cases hv : v = minLower
    · simp [curLower, hv] at hc
      subst hc; subst hv
      simp [lowerOf, minLower]
    · simp [curLower, hv] at hc
      subst hc
      exact lowerOf_written v h1

def Shp.upV (s : Shp) : Option Val := s.up.map (fun q => q.2.val)
def Shp.lowV (s : Shp) : Option Val := s.low.map (fun q => q.1.val)

theorem Shp.valK_up (s : Shp) (h : s.WF) : valK .up s.build = s.upV := by
  simp only [valK, Shp.findK_up h, Shp.upV, Option.map_map]
  rfl

theorem Shp.valK_low (s : Shp) (h : s.WF) : valK .low s.build = s.lowV := by
  simp only [valK, Shp.findK_low h, Shp.lowV, Option.map_map]
  rfl

/-! The four steps of `_update_theta` on a shape.  Each rewrites its own fields and leaves the rest as it is
  (definitionally), and rewrites nothing when the value it is about already reads as the parameter's. -/

namespace Shp
variable {s : Shp} {p : Param}

def withInit (s : Shp) (p : Param) : Shp :=
  { s with ini := if s.ini.val ≠ p.init then numNode .init p.initS p.init else s.ini }

def withFix (s : Shp) (p : Param) : Shp :=
  { s with tail := if hasK .fix s.tail ≠ p.fix then (if p.fix then s.tail ++ [tokWs, tokFix] else rmFixAux [] s.tail)
                   else s.tail }

/-- a bound that is written: the new number, after the fillers the old one had (a comma if there was none) -/
def withUpper (s : Shp) (p : Param) : Shp :=
  { s with up := if curUpper s.upV ≠ p.upper then
      (if needUpper p then some ((s.up.map (·.1)).getD [tokComma], numNode .up p.upperS p.upper) else none)
    else s.up }

/-- does step 4 touch the lower bound (`removedU` is the flag step 3 hands over) -/
def touchLower (s : Shp) (removedU : Bool) (p : Param) : Bool :=
  curLower s.lowV ≠ p.lower || (!s.low.isSome && needLower p) || (removedU && s.low.isSome && !needLower p)

/-- step 4: a lower bound that comes brings parentheses if there are none; one that goes takes the upper bound with
    it (6b0a1ad) and, for `n = 1`, the parentheses -/
def withLower (s : Shp) (n : Nat) (removedU : Bool) (p : Param) : Shp :=
  let t := s.touchLower removedU p
  let goes := t && s.low.isSome && !needLower p
  { s with
    low := if t then
        (if needLower p then some (numNode .low p.lowerS p.lower, (s.low.map (·.2)).getD [tokComma]) else none)
      else s.low
    up := if goes then none else s.up
    lp := if t && !s.low.isSome && needLower p && !s.lp.isSome then some tokLpar
          else if goes && n = 1 then none else s.lp
    rp := if t && !s.low.isSome && needLower p && !s.lp.isSome then some tokRpar
          else if goes && n = 1 then none else s.rp }

theorem setInit_build (h : s.WF) :
    setInit s.build p = (s.withInit p).build ∧ (s.withInit p).WF ∧ (s.withInit p).ini.val = p.init := by
  unfold setInit withInit
  simp only [findK_init h]
  by_cases hv : s.ini.val ≠ p.init
  · rw [if_pos hv, if_pos hv]
    exact ⟨replaceFirst_init h _ rfl, { h with ini := rfl }, rfl⟩
  · rw [if_neg hv, if_neg hv]
    exact ⟨rfl, h, Decidable.of_not_not hv⟩

theorem setFix_build (h : s.WF) (hin : s.Input) :
    setFix s.build p = (s.withFix p).build ∧ (s.withFix p).WF ∧ hasK .fix (s.withFix p).tail = p.fix ∧
      multiple (s.withFix p).tail = multiple s.tail := by
  unfold setFix withFix
  rw [hasK_fix h]
  by_cases hf : hasK .fix s.tail ≠ p.fix
  · rw [if_pos hf, if_pos hf]
    cases hp : p.fix
    · exact ⟨rmFix_build h hin, { h with tail := fun x hx => h.tail x (by simpa using rmFixAux_mem [] s.tail x hx) },
        rmFixAux_noFix [] s.tail rfl, by simp [multiple, rmFixAux_findK]⟩
    · exact ⟨appendFix_build s,
        { h with tail := h.tail.append (by intro x hx; simp at hx; rcases hx with rfl | rfl <;> simp [tokWs, tokFix]) },
        by simp [hasK_append, hasK_cons, tokWs, tokFix], by simp [multiple, findK_append, findK_cons, tokWs, tokFix]⟩
  · rw [if_neg hf, if_neg hf]
    exact ⟨rfl, h, Decidable.of_not_not hf, rfl⟩

theorem setUpper_build (h : s.WF) :
    (setUpper s.build p).1 = (s.withUpper p).build ∧ (s.withUpper p).WF ∧
      ((setUpper s.build p).2 = true → curUpper s.upV ≠ p.upper) ∧
      (p.upper.lt maxUpper = true ∨ p.upper = .pinf → upperOf (s.withUpper p).upV = .ok p.upper) := by
  unfold setUpper withUpper
  rw [valK_up s h]
  by_cases hc : curUpper s.upV ≠ p.upper
  · rw [if_pos hc, if_pos hc]
    refine ⟨?_, ?_, fun _ => hc, fun hU => ?_⟩
    · unfold setUpperDo
      rw [hasK_up h]
      cases hu : s.up <;> cases hn : needUpper p
      · exact (replaceBound_up h _ rfl).trans (by rw [hu]; rfl)
      · exact addUpper_build h hu _
      · exact removeUpper_build h (by rw [hu]; rfl)
      · exact (replaceBound_up h _ rfl).trans (by rw [hu]; rfl)
    · have hF : Fillers ((s.up.map (·.1)).getD [tokComma]) := by
        cases hu : s.up with
        | none => exact fillers_comma
        | some q => exact (h.up _ _ hu).2
      cases hn : needUpper p
      · exact { h with up := fun _ _ e => nomatch e }
      · exact { h with up := fun _ _ e => by cases e; exact ⟨rfl, hF⟩ }
    · have : ∀ F, Shp.upV { s with up := if needUpper p then some (F, numNode .up p.upperS p.upper) else none } =
          if needUpper p then some p.upper else none := fun F => by cases needUpper p <;> rfl
      rw [this]
      refine upperOf_written _ _ hU fun hn => hU.resolve_left ?_
      rw [← needUpper, hn]
      decide
  · rw [if_neg hc, if_neg hc]
    exact ⟨rfl, h, nofun, upperOf_of_cur _ _ (Decidable.of_not_not hc)⟩

theorem setLower_build (h : s.WF) (hin : s.Input) (n : Nat) (r : Bool) :
    setLower s.low.isSome n s.lowV r s.build p = (s.withLower n r p).build ∧ (s.withLower n r p).WF ∧
      (minLower.lt p.lower = true ∨ p.lower = .ninf → lowerOf (s.withLower n r p).lowV = .ok p.lower) := by
  unfold setLower
  show (if s.touchLower r p = true then _ else _) = _ ∧ _
  simp only [withLower]
  cases ht : s.touchLower r p
  · simp only [Bool.false_and, Bool.false_eq_true, ↓reduceIte]
    simp [touchLower] at ht
    exact ⟨trivial, h, lowerOf_of_cur _ _ ht.1.1⟩
  simp only [Bool.true_and, ↓reduceIte]
  unfold setLowerDo
  -- a bound that is not needed is -inf
  have hread : needLower p = false → minLower.lt p.lower = true ∨ p.lower = .ninf → lowerOf none = .ok p.lower := by
    intro hn hL
    rw [needLower, Bool.or_eq_false_iff] at hn
    rw [hL.resolve_left (by rw [hn.1]; decide)]
    rfl
  cases hn : needLower p <;> cases hl : s.low <;>
    simp only [Option.isSome_none, Option.isSome_some, Bool.not_false, Bool.not_true, Bool.true_and, Bool.false_and,
      Bool.and_self, Bool.and_true, Bool.false_eq_true, ↓reduceIte, Option.map_none, Option.map_some, Option.getD_none,
      Option.getD_some]
  · exact ⟨(replaceBound_low h _ rfl).trans (by rw [hl]; rfl), { h with low := fun _ _ e => nomatch e }, hread hn⟩
  · -- the lower bound goes: first the upper bound, if one is still there (6b0a1ad), for `n = 1` the parentheses last
    have h0 : ({ s with up := none } : Shp).WF := { h with up := fun _ _ e => nomatch e }
    have e0 : (if hasK .up s.build then removeUpper s.build else s.build) = { s with up := none }.build := by
      rw [hasK_up h]
      cases hu : s.up with
      | none => exact (if_neg Bool.false_ne_true).trans (by rw [← hu])
      | some u => exact removeUpper_build h (by rw [hu]; rfl)
    have h00 : ({ s with up := none, low := none } : Shp).WF := { h0 with low := fun _ _ e => nomatch e }
    rw [e0, removeLower_build h0 (by rw [hl]; rfl)]
    by_cases h1 : n = 1
    · simp only [h1, decide_true, ↓reduceIte]
      exact ⟨removeParens_build h00,
        { h00 with lp := (fun _ e => nomatch e), rp := (fun _ e => nomatch e), both := rfl }, hread hn⟩
    · simp only [h1, decide_false, Bool.false_eq_true, ↓reduceIte]
      exact ⟨trivial, h00, hread hn⟩
  · -- a lower bound comes, and parentheses with it if there are none
    have h1 : ({ s with low := some (numNode .low p.lowerS p.lower, [tokComma]) } : Shp).WF :=
      { h with low := fun _ _ e => by cases e; exact ⟨rfl, fillers_comma⟩ }
    rw [addLower_build h hl, addParens_build h1 hin rfl]
    refine ⟨?_, ?_, lowerOf_written p.lower⟩
    all_goals cases hp : s.lp <;>
      simp only [Option.isSome_none, Option.isSome_some, Bool.not_false, Bool.not_true, Bool.false_eq_true, ↓reduceIte]
    · exact { h1 with lp := (fun _ e => Option.some.inj e ▸ rfl), rp := (fun _ e => Option.some.inj e ▸ rfl), both := rfl }
    · exact hp ▸ h1
  · exact ⟨(replaceBound_low h _ rfl).trans (by rw [hl]; rfl),
      { h with low := fun _ _ e => by cases e; exact ⟨rfl, (h.low _ _ hl).2⟩ }, lowerOf_written p.lower⟩

def upd (s : Shp) (p : Param) : Shp :=
  let s2 := (s.withInit p).withFix p
  (s2.withUpper p).withLower (multiple s2.build) (setUpper s2.build p).2 p

theorem updItem_build (h : s.WF) (hin : s.Input) : updItem s.build p = (s.upd p).build ∧ (s.upd p).WF := by
  obtain ⟨e1, h1, _⟩ := setInit_build (p := p) h
  obtain ⟨e2, h2, _⟩ := setFix_build (p := p) h1 hin
  obtain ⟨e3, h3, _⟩ := setUpper_build (p := p) h2
  obtain ⟨e4, h4, _⟩ := setLower_build (p := p) h3 hin (multiple ((s.withInit p).withFix p).build)
    (setUpper ((s.withInit p).withFix p).build p).2
  unfold updItem
  simp only [e1, e2, hasK_low h2, valK_low _ h2, e3]
  exact ⟨e4, h4⟩

theorem withInit_eq (hv : s.ini.val = p.init) : s.withInit p = s := by
  unfold withInit
  rw [if_neg fun c => c hv]

theorem withFix_eq (hf : hasK .fix s.tail = p.fix) : s.withFix p = s := by
  unfold withFix
  rw [if_neg fun c => c hf]

theorem withUpper_eq (hc : curUpper s.upV = p.upper) : s.withUpper p = s := by
  unfold withUpper
  rw [if_neg fun c => c hc]

theorem withLower_eq {n : Nat} {r : Bool} (ht : s.touchLower r p = false) : s.withLower n r p = s := by
  simp only [withLower, ht, Bool.false_and, Bool.false_eq_true, ↓reduceIte]

theorem touchLower_false {r : Bool} (hc : curLower s.lowV = p.lower) (hnone : s.low = none → needLower p = false)
    (hr : r = true → needLower p = true) : s.touchLower r p = false := by
  unfold touchLower
  cases hl : s.low with
  | none => simp [hc, hnone hl]
  | some q => cases r <;> simp [hc, hr]

/-- a field whose value already reads as the parameter's keeps its tokens -/
theorem upd_frame (h : s.WF) (hin : s.Input) :
    (s.ini.val = p.init → (s.upd p).ini = s.ini) ∧
    (hasK .fix s.tail = p.fix → (s.upd p).tail = s.tail) ∧
    (curUpper s.upV = p.upper → (s.low.isSome = true → needLower p = true) → (s.upd p).up = s.up) ∧
    (curLower s.lowV = p.lower → (s.low = none → needLower p = false) →
      (needLower p = true ∨ curUpper s.upV = p.upper) → (s.upd p).low = s.low) ∧
    (s.ini.val = p.init → hasK .fix s.tail = p.fix → curUpper s.upV = p.upper → curLower s.lowV = p.lower →
      (s.low = none → needLower p = false) → s.upd p = s) := by
  have hflag := (setUpper_build (p := p) (setFix_build (p := p) (setInit_build (p := p) h).2.1 hin).2.1).2.2.1
  have ht : curLower s.lowV = p.lower → (s.low = none → needLower p = false) →
      (needLower p = true ∨ curUpper s.upV = p.upper) →
      (((s.withInit p).withFix p).withUpper p).touchLower (setUpper ((s.withInit p).withFix p).build p).2 p = false :=
    fun hc hnone hor => touchLower_false hc hnone fun hr => hor.resolve_right (hflag hr)
  refine ⟨fun hv => ?_, fun hf => ?_, fun hc hneed => ?_, fun hc hnone hor => ?_, fun hv hf hcu hcl hnone => ?_⟩
  · show (s.withInit p).ini = s.ini
    rw [withInit_eq hv]
  · show ((s.withInit p).withFix p).tail = (s.withInit p).tail
    rw [withFix_eq (s := s.withInit p) hf]
  · show (if (_ && s.low.isSome && !needLower p) = true then none else (if curUpper s.upV ≠ p.upper then _ else s.up)) = _
    have hg : (s.low.isSome && !needLower p) = false := by
      cases hl : s.low.isSome
      · rfl
      · rw [hneed hl]; rfl
    rw [Bool.and_assoc, hg, Bool.and_false, if_neg Bool.false_ne_true, if_neg fun c => c hc]
  · show ((((s.withInit p).withFix p).withUpper p).withLower _ _ p).low = (((s.withInit p).withFix p).withUpper p).low
    rw [withLower_eq (ht hc hnone hor)]
  · show (((s.withInit p).withFix p).withUpper p).withLower _ _ p = s
    rw [withLower_eq (ht hcl hnone (.inr hcu)), withUpper_eq (s := (s.withInit p).withFix p) hcu,
      withFix_eq (s := s.withInit p) hf, withInit_eq hv]

theorem withLower_up (s : Shp) (n : Nat) (r : Bool) (p : Param) :
    (s.withLower n r p).up = s.up ∨ ((s.withLower n r p).up = none ∧ needLower p = false) := by
  simp only [withLower]
  split
  · exact .inr ⟨rfl, by simp_all⟩
  · exact .inl rfl

end Shp

theorem parseItem_ok (cs : List TNode) (p : Param) (h : ParamOK p = true) (hi : valK .init cs = some p.init)
    (hl : lowerOf (valK .low cs) = .ok p.lower) (hu : upperOf (valK .up cs) = .ok p.upper)
    (hf : firstFixInParens false cs = if p.fix then some false else none) :
    parseItem cs = .ok p.toParsed := by
  simp only [ParamOK, Bool.and_eq_true, Bool.or_eq_true, Bool.not_eq_true', beq_iff_eq] at h
  obtain ⟨⟨⟨⟨⟨⟨⟨⟨⟨hfin, _⟩, _⟩, hmax⟩, hmin⟩, hle⟩, hz⟩, haf⟩, hil⟩, hui⟩ := h
  simp only [beq_eq_false_iff_ne, ne_eq] at hmin hmax
  -- the "lower bound equal to init" refusal cannot fire: without an upper-bound token the upper bound is +inf,
  -- and a lower-bound token that is the init reads back as the init
  have hcheck : p.fix = false → (valK .up cs).isNone = true → valK .low cs ≠ some p.init := by
    intro hfx hnone hli
    have hpu : p.upper = .pinf := by
      rw [Option.isNone_iff_eq_none.mp hnone] at hu
      exact (Except.ok.inj hu).symm
    have hpl : p.lower = p.init := by
      rw [hli] at hl
      cases hi' : p.init with
      | ninf => simp [hi'] at hfin
      | pinf => simp [hi'] at hfin
      | fin a b =>
        rw [hi'] at hl hmin
        simp only [lowerOf, hmin, ↓reduceIte] at hl
        split at hl
        · cases hl
        · exact (Except.ok.inj hl).symm
    have hnu : needUpper p = false := by rw [needUpper, hpu]; rfl
    simp [hfx, hnu, hpl] at hle
  unfold parseItem
  simp only [hi, hl, hu, hf]
  cases hfx : p.fix
  · have hz' : p.init ≠ zero := by simpa [hfx] using hz
    have haf' : (decide (p.lower = p.upper) && decide (p.upper = p.init)) = false := by simpa [hfx] using haf
    have hc : ¬(valK .up cs = none ∧ valK .low cs = some p.init) := fun c => hcheck hfx (by simp [c.1]) c.2
    simp [hmax, hmin, hz', haf', hil, hui, hc, Param.toParsed, hfx]
  · simp [hmax, hmin, hil, hui, Param.toParsed, hfx]

namespace Shp
variable {s : Shp} {p : Param}

theorem updItem_parse (h : s.WF) (hin : s.Input) (hp : ParamOK p = true) :
    parseItem (updItem s.build p) = .ok p.toParsed ∧ multiple (updItem s.build p) = multiple s.build := by
  obtain ⟨e, h4⟩ := updItem_build (p := p) h hin
  obtain ⟨_, h1, hv⟩ := setInit_build (p := p) h
  obtain ⟨_, h2, hf, hm⟩ := setFix_build (p := p) h1 hin
  obtain ⟨_, h3, _, hU⟩ := setUpper_build (p := p) h2
  obtain ⟨_, _, hL⟩ := setLower_build (p := p) h3 hin (multiple ((s.withInit p).withFix p).build)
    (setUpper ((s.withInit p).withFix p).build p).2
  have hp' := hp
  simp only [ParamOK, Bool.and_eq_true, Bool.or_eq_true, beq_iff_eq] at hp'
  -- the second and third conjunct of `ParamOK`: both bounds can be written
  obtain ⟨⟨⟨⟨⟨⟨⟨⟨⟨_, hlo⟩, hup⟩, _⟩, _⟩, _⟩, _⟩, _⟩, _⟩, _⟩ := hp'
  rw [e]
  refine ⟨parseItem_ok _ p hp ?_ (by rw [valK_low _ h4]; exact hL hlo) ?_ ?_, ?_⟩
  · rw [valK, findK_init h4]
    exact congrArg some hv
  · rw [valK_up _ h4, upV]
    rcases withLower_up (((s.withInit p).withFix p).withUpper p) (multiple ((s.withInit p).withFix p).build)
      (setUpper ((s.withInit p).withFix p).build p).2 p with hu | ⟨hu, hnl⟩
    · rw [show (s.upd p).up = _ from hu]
      exact hU hup
    · -- the upper bound went with the lower bound: then none is needed, i.e. it is +inf
      have hpu : p.upper = .pinf := hup.resolve_left (by
        rw [needLower, Bool.or_eq_false_iff] at hnl
        rw [← needUpper, hnl.2]
        decide)
      rw [show (s.upd p).up = none from hu, hpu]
      rfl
  · rw [firstFix h4]
    exact congrArg (fun b => if b = true then some false else none) hf
  · rw [multiple_build h4, multiple_build h]
    exact hm

end Shp

/-- `ItemShape cs`: the children list is one of the layouts of `Shp` (no FIX inside the parentheses) -/
def ItemShape (cs : List TNode) : Prop := ∃ s : Shp, s.WF ∧ s.Input ∧ cs = s.build

theorem updItem_reads_back (cs : List TNode) (hs : ItemShape cs) (p : Param) (hp : ParamOK p = true) :
    parseItem (updItem cs p) = .ok p.toParsed ∧ multiple (updItem cs p) = multiple cs := by
  obtain ⟨s, h, hin, rfl⟩ := hs
  exact Shp.updItem_parse h hin hp

/-- every `theta` subtree of the record has a layout of `Shp` -/
def RecShape (r : List RNode) : Prop := ∀ cs, RNode.item cs ∈ r → ItemShape cs

/-- everything that is not a `theta` subtree (blanks, comments, newlines, options) is kept, in place -/
def nonItems : List RNode → List TNode
  | [] => []
  | .tok t :: r => t :: nonItems r
  | .item _ :: r => nonItems r

/-- drop the entries whose index (counted from `i`) is in `inds` -/
def dropIdx {α : Type} (inds : List Nat) : Nat → List α → List α
  | _, [] => []
  | i, x :: xs => if inds.contains i then dropIdx inds (i + 1) xs else x :: dropIdx inds (i + 1) xs

theorem dropIdx_nil {α : Type} (i : Nat) (xs : List α) : dropIdx [] i xs = xs := by
  induction xs generalizing i with
  | nil => rfl
  | cons x xs ih => simp [dropIdx, ih]

theorem removeRecAux_parse (inds : List Nat) (i : Nat) (r : List RNode) :
    parseItems (removeRecAux inds i r) = dropIdx inds i (parseItems r) ∧
      nonItems (removeRecAux inds i r) = nonItems r := by
  induction r generalizing i with
  | nil => exact ⟨rfl, rfl⟩
  | cons x r ih =>
    cases x with
    | tok t => simp [removeRecAux, parseItems, nonItems, ih]
    | item cs =>
      by_cases hc : i ∈ inds
      · simp [removeRecAux, parseItems, nonItems, dropIdx, hc, ih]
      · simp [removeRecAux, parseItems, nonItems, dropIdx, hc, ih]

def nNum (k : K) (s : String) (n : Int) (d : Nat := 1) : TNode := numNode k s (.fin n d)
def nRep (n : Nat) : TNode := { k := .rep, rule := "X INT", text := s!"x{n}", cnt := n }
def pSimple (init : Int) (s : String) (fix : Bool := false) : Param :=
  { init := .fin init 1, initS := s, lower := .ninf, lowerS := "-inf", upper := .pinf, upperS := "inf", fix := fix }

/-- the item `( 0 ,3,1E2) FIXx2` -/
def exShape : Shp :=
  { lp := some tokLpar, F0 := [tokWs], low := some (nNum .low "0" 0, [tokWs, tokComma]),
    ini := nNum .init "3" 3, up := some ([tokComma], nNum .up "1E2" 100), F3 := [], rp := some tokRpar,
    tail := [tokWs, tokFix, nRep 2] }

theorem mem_takeWhile_sat {p : TNode → Bool} {l : List TNode} {x : TNode} (h : x ∈ l.takeWhile p) : p x = true := by
  induction l with
  | nil => cases h
  | cons y ys ih =>
    rw [List.takeWhile_cons] at h
    split at h
    · rcases List.mem_cons.mp h with rfl | h
      · assumption
      · exact ih h
    · cases h

theorem fillers_takeWhile (l : List TNode) : Fillers (l.takeWhile isFiller) := fun x hx => by
  simpa [isFiller, or_assoc] using mem_takeWhile_sat hx

theorem tailNodes_of_all {T : List TNode} (h : T.all isTailNode = true) : TailNodes T := fun x hx => by
  simpa [isTailNode, or_assoc] using List.all_eq_true.mp h x hx

theorem split_fillers {l r : List TNode} {z : TNode} (h : l.dropWhile isFiller = z :: r) :
    l = l.takeWhile isFiller ++ z :: r := by
  rw [← h, List.takeWhile_append_dropWhile]

theorem afterInit_sound {lp i : TNode} {F0 r4 : List TNode} {low : Option (TNode × List TNode)} {s : Shp}
    (hlp : lp.k = .lpar) (h0 : Fillers F0) (hlow : ∀ lo F1, low = some (lo, F1) → lo.k = .low ∧ Fillers F1)
    (hi : i.k = .init) (h : afterInit lp F0 low i r4 = some s) :
    s.WF ∧ s.Input ∧ lp :: (F0 ++ (lowL low ++ i :: r4)) = s.build := by
  unfold afterInit at h
  cases hd : r4.dropWhile isFiller with
  | nil => simp [hd] at h
  | cons z r5 =>
    rw [split_fillers hd]
    simp only [hd] at h
    by_cases hz : z.k = .up
    · rw [if_pos hz] at h
      cases hd5 : r5.dropWhile isFiller with
      | nil => simp [hd5] at h
      | cons rp T =>
        rw [split_fillers hd5]
        simp only [hd5] at h
        obtain ⟨hc, h⟩ := Option.ite_none_right_eq_some.mp h
        cases h
        exact ⟨⟨hi, fun _ e => Option.some.inj e ▸ hlp, fun _ e => Option.some.inj e ▸ hc.1, rfl, h0,
            fillers_takeWhile _, hlow, (fun _ _ e => by cases e; exact ⟨hz, fillers_takeWhile _⟩),
            tailNodes_of_all hc.2⟩, (fun e => nomatch e), by simp [Shp.build, optL, upL]⟩
    · rw [if_neg hz] at h
      obtain ⟨hc, h⟩ := Option.ite_none_right_eq_some.mp h
      cases h
      exact ⟨⟨hi, fun _ e => Option.some.inj e ▸ hlp, fun _ e => Option.some.inj e ▸ hc.1, rfl, h0,
          fillers_takeWhile _, hlow, (fun _ _ e => nomatch e), tailNodes_of_all hc.2⟩, (fun e => nomatch e), by simp [Shp.build, optL, upL]⟩

theorem toShp?_sound (cs : List TNode) (s : Shp) (h : toShp? cs = some s) :
    s.WF ∧ s.Input ∧ cs = s.build := by
  cases cs with
  | nil => cases h
  | cons x rest =>
    rw [toShp?] at h
    by_cases hx : x.k = .init
    · rw [if_pos hx] at h
      obtain ⟨ht, h⟩ := Option.ite_none_right_eq_some.mp h
      cases h
      exact ⟨⟨hx, (fun _ e => nomatch e), (fun _ e => nomatch e), rfl, (fun _ e => nomatch e),
        (fun _ e => nomatch e), (fun _ _ e => nomatch e), (fun _ _ e => nomatch e), tailNodes_of_all ht⟩,
        fun _ => ⟨rfl, rfl⟩, rfl⟩
    · rw [if_neg hx] at h
      obtain ⟨hl, h⟩ := Option.ite_none_right_eq_some.mp h
      cases hd : rest.dropWhile isFiller with
      | nil => simp [hd] at h
      | cons y r2 =>
        rw [split_fillers hd]
        simp only [hd] at h
        by_cases hy : y.k = .low
        · rw [if_pos hy] at h
          cases hd2 : r2.dropWhile isFiller with
          | nil => simp [hd2] at h
          | cons i r4 =>
            rw [split_fillers hd2]
            simp only [hd2] at h
            obtain ⟨hi, h⟩ := Option.ite_none_right_eq_some.mp h
            exact afterInit_sound hl (fillers_takeWhile rest)
              (fun _ _ e => by cases e; exact ⟨hy, fillers_takeWhile r2⟩) hi h
        · rw [if_neg hy] at h
          obtain ⟨hi, h⟩ := Option.ite_none_right_eq_some.mp h
          exact afterInit_sound (low := none) hl (fillers_takeWhile rest) (fun _ _ e => nomatch e) hi h

theorem shapeOK_sound (cs : List TNode) (h : shapeOK cs = true) : ItemShape cs := by
  obtain ⟨s, hs⟩ := Option.isSome_iff_exists.mp h
  exact ⟨s, toShp?_sound cs s hs⟩

theorem recShapeOK_sound (r : List RNode) (h : recShapeOK r = true) : RecShape r := by
  induction r with
  | nil => nofun
  | cons x r ih =>
    intro cs hc
    cases x with
    | tok t => exact ih h cs (by simpa using hc)
    | item cs0 =>
      simp only [recShapeOK, Bool.and_eq_true] at h
      rcases List.mem_cons.mp hc with e | hc
      · cases e
        exact shapeOK_sound _ h.1
      · exact ih h.2 cs hc

theorem exShape_wf : exShape.WF ∧ exShape.Input :=
  have h := toShp?_sound exShape.build exShape rfl
  ⟨h.1, h.2.1⟩

end Pharmpy.C04
