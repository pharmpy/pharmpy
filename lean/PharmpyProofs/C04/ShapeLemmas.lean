import PharmpyModel.C04.Theta
import PharmpyModel.C04.ThetaShape
/-
  `$THETA`: each helper of theta_record.py passes over nodes of kinds it does not react to (`KindsIn`, the `_skip`
  lemmas); from that, what each helper does to a subtree of shape `Shp`.
-/
namespace Pharmpy.C04

/-- nodes the helpers never react to inside the parentheses: WS, COMMENT/NEWLINE, COMMA -/
def Fillers (F : List TNode) : Prop := ∀ x ∈ F, x.k = .ws ∨ x.k = .other ∨ x.k = .comma

/-- nodes after the closing parenthesis (or after a bare init): WS, comments, FIX, xn -/
def TailNodes (T : List TNode) : Prop := ∀ x ∈ T, x.k = .ws ∨ x.k = .other ∨ x.k = .fix ∨ x.k = .rep

/-- Every node of `L` has its kind in `ks`.  A helper passes over such a stretch if it reacts to no kind in `ks`
    (the `_skip` lemmas; that side condition is closed by `decide`). -/
def KindsIn (ks : List K) (L : List TNode) : Prop := ∀ x ∈ L, x.k ∈ ks

section skip
variable {ks ks' : List K} {x : TNode} {L L' : List TNode}

theorem KindsIn.nil : KindsIn ks [] := fun _ h => nomatch h

theorem KindsIn.tail (h : KindsIn ks (x :: L)) : KindsIn ks L := fun y hy => h y (List.mem_cons_of_mem _ hy)

theorem KindsIn.head_ne {k : K} (h : KindsIn ks (x :: L)) (hk : k ∉ ks) : x.k ≠ k :=
  fun e => hk (e ▸ h x List.mem_cons_self)

theorem KindsIn.append (h : KindsIn ks L) (h' : KindsIn ks L') : KindsIn ks (L ++ L') :=
  fun y hy => (List.mem_append.mp hy).elim (h y) (h' y)

theorem KindsIn.mono (h : KindsIn ks L) (hs : ∀ k ∈ ks, k ∈ ks') : KindsIn ks' L := fun y hy => hs _ (h y hy)

theorem KindsIn.cons (hx : x.k ∈ ks) (h : KindsIn ks L) : KindsIn ks (x :: L) := by
  intro y hy
  rcases List.mem_cons.mp hy with rfl | hy
  · exact hx
  · exact h y hy

theorem Fillers.kinds (h : Fillers L) : KindsIn [.ws, .other, .comma] L := fun y hy => by simpa using h y hy

theorem TailNodes.kinds (h : TailNodes L) : KindsIn [.ws, .other, .fix, .rep] L := fun y hy => by simpa using h y hy

theorem findK_cons (k : K) (x : TNode) (xs : List TNode) :
    findK k (x :: xs) = if x.k = k then some x else findK k xs := by
  by_cases h : x.k = k
  · rw [findK, List.find?_cons_of_pos (by simpa using h), if_pos h]
  · rw [findK, List.find?_cons_of_neg (by simpa using h), if_neg h, findK]

theorem hasK_cons (k : K) (x : TNode) (xs : List TNode) :
    hasK k (x :: xs) = (decide (x.k = k) || hasK k xs) := by
  by_cases h : x.k = k <;> simp [hasK, h]

@[simp] theorem findK_nil (k : K) : findK k [] = none := rfl
@[simp] theorem hasK_nil (k : K) : hasK k [] = false := rfl

theorem findK_append (k : K) (A B : List TNode) :
    findK k (A ++ B) = (findK k A).or (findK k B) := by
  simp [findK, List.find?_append]

theorem hasK_append (k : K) (A B : List TNode) : hasK k (A ++ B) = (hasK k A || hasK k B) := by
  simp [hasK]

theorem hasK_eq_isSome (k : K) (cs : List TNode) : hasK k cs = (findK k cs).isSome := by
  induction cs with
  | nil => rfl
  | cons x xs ih => by_cases h : x.k = k <;> simp [hasK_cons, findK_cons, h, ih]

theorem findK_skip {k : K} (h : KindsIn ks L) (hk : k ∉ ks) (r : List TNode) : findK k (L ++ r) = findK k r := by
  induction L with
  | nil => rfl
  | cons x L ih => rw [List.cons_append, findK_cons, if_neg (h.head_ne hk), ih h.tail]

theorem findK_none {k : K} (h : KindsIn ks L) (hk : k ∉ ks) : findK k L = none := by
  simpa using findK_skip h hk []

theorem hasK_false {k : K} (h : KindsIn ks L) (hk : k ∉ ks) : hasK k L = false := by
  rw [hasK_eq_isSome, findK_none h hk]; rfl

theorem hasK_skip {k : K} (h : KindsIn ks L) (hk : k ∉ ks) (r : List TNode) : hasK k (L ++ r) = hasK k r := by
  rw [hasK_eq_isSome, findK_skip h hk, hasK_eq_isSome]

theorem replaceFirst_skip (new : TNode) (h : KindsIn ks L) (hk : new.k ∉ ks) (r : List TNode) :
    replaceFirst new (L ++ r) = L ++ replaceFirst new r := by
  induction L with
  | nil => rfl
  | cons x L ih => simp only [List.cons_append, replaceFirst, if_neg (h.head_ne hk), ih h.tail]

theorem addUpper_skip (u : TNode) (h : KindsIn ks L) (hk : .init ∉ ks) (r : List TNode) :
    addUpper u (L ++ r) = L ++ addUpper u r := by
  induction L with
  | nil => rfl
  | cons x L ih => simp only [List.cons_append, addUpper, if_neg (h.head_ne hk), ih h.tail]

theorem addLower_skip (l : TNode) (h : KindsIn ks L) (hk : .init ∉ ks) (r : List TNode) :
    addLower l (L ++ r) = L ++ addLower l r := by
  induction L with
  | nil => rfl
  | cons x L ih => simp only [List.cons_append, addLower, if_neg (h.head_ne hk), ih h.tail]

/-- outside the stretch `init … up` everything is kept, inside it everything is dropped -/
theorem removeUpperAux_skip (b : Bool) (h : KindsIn ks L) (hk : .init ∉ ks ∧ .up ∉ ks) (r : List TNode) :
    removeUpperAux b (L ++ r) = (if b then [] else L) ++ removeUpperAux b r := by
  induction L with
  | nil => cases b <;> rfl
  | cons x L ih =>
    simp only [List.cons_append, removeUpperAux, if_neg (h.head_ne hk.1), if_neg (h.head_ne hk.2), ih h.tail]
    cases b <;> rfl

theorem removeLowerAux_skip (b : Bool) (h : KindsIn ks L) (hk : .low ∉ ks ∧ .init ∉ ks) (r : List TNode) :
    removeLowerAux b (L ++ r) = (if b then [] else L) ++ removeLowerAux b r := by
  induction L with
  | nil => cases b <;> rfl
  | cons x L ih =>
    simp only [List.cons_append, removeLowerAux, if_neg (h.head_ne hk.1), if_neg (h.head_ne hk.2), ih h.tail]
    cases b <;> rfl

theorem replaceBound_cons (new x : TNode) (xs : List TNode) :
    replaceBound new (x :: xs) = (if x.k = new.k then new else x) :: replaceBound new xs := rfl

theorem replaceBound_skip (new : TNode) (h : KindsIn ks L) (hk : new.k ∉ ks) (r : List TNode) :
    replaceBound new (L ++ r) = L ++ replaceBound new r := by
  induction L with
  | nil => rfl
  | cons x L ih => rw [List.cons_append, replaceBound_cons, if_neg (h.head_ne hk), ih h.tail, List.cons_append]

theorem removeParens_cons (x : TNode) (xs : List TNode) :
    removeParens (x :: xs) = if x.k = .lpar ∨ x.k = .rpar then removeParens xs else x :: removeParens xs := by
  by_cases h1 : x.k = .lpar <;> by_cases h2 : x.k = .rpar <;> simp [removeParens, h1, h2]

theorem removeParens_skip (h : KindsIn ks L) (hk : .lpar ∉ ks ∧ .rpar ∉ ks) (r : List TNode) :
    removeParens (L ++ r) = L ++ removeParens r := by
  induction L with
  | nil => rfl
  | cons x L ih =>
    rw [List.cons_append, removeParens_cons, if_neg (not_or.mpr ⟨h.head_ne hk.1, h.head_ne hk.2⟩), ih h.tail,
      List.cons_append]

theorem removeParens_drop (h : KindsIn [.lpar, .rpar] L) (r : List TNode) :
    removeParens (L ++ r) = removeParens r := by
  induction L with
  | nil => rfl
  | cons x L ih =>
    rw [List.cons_append, removeParens_cons, if_pos (by simpa using h x List.mem_cons_self), ih h.tail]

theorem addParensAux_skip (b : Bool) (h : KindsIn ks L) (hk : .low ∉ ks ∧ .init ∉ ks ∧ .up ∉ ks) (r : List TNode) :
    addParensAux b (L ++ r) = L ++ addParensAux b r := by
  induction L with
  | nil => rfl
  | cons x L ih =>
    simp [addParensAux, h.head_ne hk.1, h.head_ne hk.2.1, h.head_ne hk.2.2, ih h.tail]

theorem firstFixInParens_skip (b : Bool) (h : KindsIn ks L) (hk : .lpar ∉ ks ∧ .rpar ∉ ks ∧ .fix ∉ ks)
    (r : List TNode) : firstFixInParens b (L ++ r) = firstFixInParens b r := by
  induction L with
  | nil => rfl
  | cons x L ih =>
    simp only [List.cons_append, firstFixInParens, if_neg (h.head_ne hk.1), if_neg (h.head_ne hk.2.1),
      if_neg (h.head_ne hk.2.2), ih h.tail]

/-- a closing parenthesis resets the scan of `fixs` -/
theorem firstFixInParens_rpar (b : Bool) (h : KindsIn ks L) (hk : .fix ∉ ks) {x : TNode} (hx : x.k = .rpar)
    (r : List TNode) : firstFixInParens b (L ++ x :: r) = firstFixInParens false r := by
  induction L generalizing b with
  | nil => simp [firstFixInParens, hx]
  | cons y L ih =>
    simp only [List.cons_append, firstFixInParens, if_neg (h.head_ne hk), ih _ h.tail, ite_self]

theorem firstFixInParens_false_tail {T : List TNode} (hT : TailNodes T) :
    firstFixInParens false T = if hasK .fix T then some false else none := by
  induction T with
  | nil => rfl
  | cons x T ih =>
    have hx := hT x List.mem_cons_self
    have ih := ih fun y hy => hT y (List.mem_cons_of_mem _ hy)
    rcases hx with h | h | h | h <;> simp [firstFixInParens, hasK_cons, h, ih]

theorem rmFixAux_skip (acc : List TNode) (h : KindsIn ks L) (hk : .fix ∉ ks) (r : List TNode) :
    rmFixAux acc (L ++ r) = rmFixAux (L.reverse ++ acc) r := by
  induction L generalizing acc with
  | nil => rfl
  | cons x L ih =>
    simp only [List.cons_append, rmFixAux, if_neg (h.head_ne hk), ih _ h.tail, List.reverse_cons,
      List.append_assoc, List.cons_append, List.nil_append]

/-- what `remove_token_and_space` does to its output stack on reading `x`: a FIX is not pushed and takes a blank
    from the top; anything else is pushed -/
def rmPush (acc : List TNode) (x : TNode) : List TNode :=
  if x.k = .fix then
    match acc with
    | a :: acc' => if a.k = .ws then acc' else acc
    | [] => []
  else x :: acc

theorem rmFixAux_cons (acc : List TNode) (x : TNode) (T : List TNode) :
    rmFixAux acc (x :: T) = rmFixAux (rmPush acc x) T := by
  unfold rmPush
  cases acc <;> simp only [rmFixAux] <;> split <;> (try split) <;> rfl

theorem rmPush_cases (acc : List TNode) (x : TNode) :
    (x.k ≠ .fix ∧ rmPush acc x = x :: acc) ∨
      (x.k = .fix ∧ (rmPush acc x = acc ∨ ∃ a, a.k = .ws ∧ acc = a :: rmPush acc x)) := by
  unfold rmPush
  by_cases hx : x.k = .fix
  · rw [if_pos hx]
    cases acc with
    | nil => exact .inr ⟨hx, .inl rfl⟩
    | cons a acc =>
      by_cases ha : a.k = .ws
      · exact .inr ⟨hx, .inr ⟨a, ha, by simp [ha]⟩⟩
      · exact .inr ⟨hx, .inl (by simp [ha])⟩
  · rw [if_neg hx]
    exact .inl ⟨hx, rfl⟩

theorem rmFixAux_mem (acc T : List TNode) : ∀ x ∈ rmFixAux acc T, x ∈ acc ∨ x ∈ T := by
  induction T generalizing acc with
  | nil => simp [rmFixAux]
  | cons y T ih =>
    intro x hx
    rw [rmFixAux_cons] at hx
    rcases ih _ x hx with h | h
    · rcases rmPush_cases acc y with ⟨_, e⟩ | ⟨_, e | ⟨a, _, e⟩⟩
      · rw [e] at h
        rcases List.mem_cons.mp h with rfl | h <;> simp [*]
      · exact .inl (e ▸ h)
      · exact .inl (e ▸ List.mem_cons_of_mem _ h)
    · exact .inr (List.mem_cons_of_mem _ h)

theorem rmFixAux_noFix (acc T : List TNode) (ha : hasK .fix acc = false) :
    hasK .fix (rmFixAux acc T) = false := by
  induction T generalizing acc with
  | nil => simpa [rmFixAux, hasK] using ha
  | cons x T ih =>
    rw [rmFixAux_cons]
    apply ih
    rcases rmPush_cases acc x with ⟨hx, e⟩ | ⟨_, e | ⟨a, _, e⟩⟩
    · rw [e, hasK_cons, ha]
      simp [hx]
    · rw [e]
      exact ha
    · rw [e, hasK_cons] at ha
      exact (Bool.or_eq_false_iff.mp ha).2

theorem rmFixAux_findK (k : K) (hk : k ≠ .ws ∧ k ≠ .fix) (acc T : List TNode) :
    findK k (rmFixAux acc T) = findK k (acc.reverse ++ T) := by
  induction T generalizing acc with
  | nil => simp [rmFixAux]
  | cons x T ih =>
    rw [rmFixAux_cons, ih]
    rcases rmPush_cases acc x with ⟨_, e⟩ | ⟨hx, e | ⟨a, ha, e⟩⟩
    · simp [e]
    · simp [e, findK_append, findK_cons, hx, Ne.symm hk.2]
    · generalize rmPush acc x = q at e ⊢
      subst e
      simp [findK_append, findK_cons, hx, ha, Ne.symm hk.1, Ne.symm hk.2]

/-- below a non-blank element of the output stack nothing is ever popped -/
theorem rmFixAux_base (A : List TNode) (b : TNode) (B : List TNode) (T : List TNode) (hb : b.k ≠ .ws) :
    rmFixAux (A ++ b :: B) T = (b :: B).reverse ++ rmFixAux A T := by
  induction T generalizing A with
  | nil => simp [rmFixAux]
  | cons x T ih =>
    have : rmPush (A ++ b :: B) x = rmPush A x ++ b :: B := by
      by_cases hx : x.k = .fix <;> cases A <;> simp [rmPush, hx, hb]
      split <;> rfl
    rw [rmFixAux_cons, rmFixAux_cons, this, ih]

theorem rmFix_findK (k : K) (hk : k ≠ .ws ∧ k ≠ .fix) (cs : List TNode) : findK k (rmFix cs) = findK k cs := by
  simpa [rmFix] using rmFixAux_findK k hk [] cs

theorem rmFix_noFix (cs : List TNode) : hasK .fix (rmFix cs) = false := rmFixAux_noFix [] cs rfl

end skip

theorem TailNodes.append {A B : List TNode} (ha : TailNodes A) (hb : TailNodes B) : TailNodes (A ++ B) := by
  intro x hx
  rcases List.mem_append.mp hx with h | h
  · exact ha x h
  · exact hb x h

theorem replaceFirst_tail (new : TNode) (hn : new.k = .init ∨ new.k = .low ∨ new.k = .up)
    {T : List TNode} (hT : TailNodes T) : replaceFirst new T = T := by
  have := replaceFirst_skip new hT.kinds (by rcases hn with h | h | h <;> simp [h]) []
  simpa [replaceFirst] using this

/-! `[(] F0 [low F1] init [F2 up] F3 [)] tail`: every layout the grammar derives without FIX inside the parentheses
  (the harness checks the recogniser `grammarOK` against lark), and the intermediate trees of `update`. -/

structure Shp.WF (s : Shp) : Prop where
  ini : s.ini.k = .init
  lp : ∀ x, s.lp = some x → x.k = .lpar
  rp : ∀ x, s.rp = some x → x.k = .rpar
  both : s.lp.isSome = s.rp.isSome
  F0 : Fillers s.F0
  F3 : Fillers s.F3
  low : ∀ lo F1, s.low = some (lo, F1) → lo.k = .low ∧ Fillers F1
  up : ∀ F2 u, s.up = some (F2, u) → u.k = .up ∧ Fillers F2
  tail : TailNodes s.tail

def Shp.Input (s : Shp) : Prop := s.lp = none → s.F0 = [] ∧ s.F3 = []

namespace Shp
variable {s : Shp}

/-- The children are read in two ways.  The helpers that look for `low`, `init`, `up` see `pre ++ ini :: post`;
    those that look for parentheses and FIX see `optL lp ++ mid ++ optL rp ++ tail`. -/
abbrev pre (s : Shp) : List TNode := (optL s.lp ++ s.F0) ++ lowL s.low
abbrev post (s : Shp) : List TNode := upL s.up ++ (s.F3 ++ (optL s.rp ++ s.tail))
def mid (s : Shp) : List TNode := s.F0 ++ (lowL s.low ++ s.ini :: (upL s.up ++ s.F3))

theorem build_eq (s : Shp) : s.build = s.pre ++ s.ini :: s.post := by
  simp only [build, pre, post, List.append_assoc]

theorem build_mid (s : Shp) : s.build = optL s.lp ++ (s.mid ++ (optL s.rp ++ s.tail)) := by
  simp only [build, mid, List.append_assoc, List.cons_append]

theorem WF.optLp (h : s.WF) : KindsIn [.lpar] (optL s.lp) := by
  intro x hx
  cases hl : s.lp with
  | none => simp [hl, optL] at hx
  | some y => simp only [hl, optL, List.mem_singleton] at hx; simp [hx, h.lp y hl]

theorem WF.optRp (h : s.WF) : KindsIn [.rpar] (optL s.rp) := by
  intro x hx
  cases hl : s.rp with
  | none => simp [hl, optL] at hx
  | some y => simp only [hl, optL, List.mem_singleton] at hx; simp [hx, h.rp y hl]

theorem WF.lowK (h : s.WF) : KindsIn [.low, .ws, .other, .comma] (lowL s.low) := by
  cases hl : s.low with
  | none => exact KindsIn.nil
  | some q => exact .cons (by simp [(h.low _ _ hl).1]) ((h.low _ _ hl).2.kinds.mono (by decide))

theorem WF.upK (h : s.WF) : KindsIn [.up, .ws, .other, .comma] (upL s.up) := by
  cases hu : s.up with
  | none => exact KindsIn.nil
  | some q =>
    exact ((h.up _ _ hu).2.kinds.mono (by decide)).append (.cons (by simp [(h.up _ _ hu).1]) .nil)

theorem WF.front (h : s.WF) : KindsIn [.lpar, .ws, .other, .comma] (optL s.lp ++ s.F0) :=
  (h.optLp.mono (by decide)).append (h.F0.kinds.mono (by decide))

theorem WF.back (h : s.WF) : KindsIn [.ws, .other, .comma, .rpar, .fix, .rep] (s.F3 ++ (optL s.rp ++ s.tail)) :=
  (h.F3.kinds.mono (by decide)).append ((h.optRp.mono (by decide)).append (h.tail.kinds.mono (by decide)))

theorem WF.pre (h : s.WF) : KindsIn [.lpar, .ws, .other, .comma, .low] s.pre :=
  (h.front.mono (by decide)).append (h.lowK.mono (by decide))

theorem WF.post (h : s.WF) : KindsIn [.up, .ws, .other, .comma, .rpar, .fix, .rep] s.post :=
  (h.upK.mono (by decide)).append (h.back.mono (by decide))

theorem WF.mid (h : s.WF) : KindsIn [.ws, .other, .comma, .low, .init, .up] s.mid :=
  (h.F0.kinds.mono (by decide)).append ((h.lowK.mono (by decide)).append
    (.cons (by simp [h.ini]) ((h.upK.mono (by decide)).append (h.F3.kinds.mono (by decide)))))

theorem findK_init (h : s.WF) : findK .init s.build = some s.ini := by
  rw [build_eq, findK_skip h.pre (by decide), findK_cons, if_pos h.ini]

theorem findK_low (h : s.WF) : findK .low s.build = s.low.map (·.1) := by
  rw [build_eq, pre, List.append_assoc, findK_skip h.front (by decide)]
  cases hl : s.low with
  | none =>
    rw [show lowL none = [] from rfl, List.nil_append, findK_cons, if_neg (by simp [h.ini])]
    exact findK_none h.post (by decide)
  | some q => exact (findK_cons ..).trans (if_pos (h.low _ _ hl).1)

theorem findK_up (h : s.WF) : findK .up s.build = s.up.map (·.2) := by
  rw [build_eq, findK_skip h.pre (by decide), findK_cons, if_neg (by simp [h.ini]), post]
  cases hu : s.up with
  | none => exact findK_none h.back (by decide)
  | some q =>
    show findK .up ((q.1 ++ [q.2]) ++ _) = some q.2
    rw [List.append_assoc, findK_skip (h.up _ _ hu).2.kinds (by decide), List.singleton_append, findK_cons,
      if_pos (h.up _ _ hu).1]

theorem hasK_low (h : s.WF) : hasK .low s.build = s.low.isSome := by
  rw [hasK_eq_isSome, findK_low h, Option.isSome_map]

theorem hasK_up (h : s.WF) : hasK .up s.build = s.up.isSome := by
  rw [hasK_eq_isSome, findK_up h, Option.isSome_map]

theorem findK_tail (h : s.WF) {k : K} (hk : k = .fix ∨ k = .rep) : findK k s.build = findK k s.tail := by
  rw [build_mid]
  rcases hk with rfl | rfl <;>
    rw [findK_skip h.optLp (by decide), findK_skip h.mid (by decide), findK_skip h.optRp (by decide)]

theorem hasK_fix (h : s.WF) : hasK .fix s.build = hasK .fix s.tail := by
  rw [hasK_eq_isSome, findK_tail h (.inl rfl), hasK_eq_isSome]

theorem multiple_build (h : s.WF) : multiple s.build = multiple s.tail := by
  rw [multiple, findK_tail h (.inr rfl), multiple]

theorem firstFix (h : s.WF) :
    firstFixInParens false s.build = if hasK .fix s.tail then some false else none := by
  rw [← firstFixInParens_false_tail h.tail, build_mid]
  cases hr : s.rp with
  | none =>
    have hl : s.lp = none := by simpa [hr] using h.both
    rw [hl]
    exact firstFixInParens_skip _ h.mid (by decide) _
  | some r =>
    obtain ⟨l, hl⟩ : ∃ l, s.lp = some l := by simpa [hr, Option.isSome_iff_exists] using h.both
    rw [hl]
    show firstFixInParens false (l :: _) = _
    rw [firstFixInParens, if_pos (h.lp l hl)]
    exact firstFixInParens_rpar _ h.mid (by decide) (h.rp r hr) _

theorem replaceFirst_init (h : s.WF) (new : TNode) (hn : new.k = .init) :
    replaceFirst new s.build = { s with ini := new }.build := by
  rw [build_eq, build_eq, replaceFirst_skip new h.pre (by rw [hn]; decide), replaceFirst, if_pos (h.ini.trans hn.symm)]

theorem addUpper_build (h : s.WF) (hu : s.up = none) (u : TNode) :
    addUpper u s.build = { s with up := some ([tokComma], u) }.build := by
  rw [build_eq, build_eq, addUpper_skip u h.pre (by decide), addUpper, if_pos h.ini, ← List.append_nil s.post,
    addUpper_skip u h.post (by decide)]
  simp [post, upL, pre, hu, addUpper]

theorem removeUpper_build (h : s.WF) (hu : s.up.isSome) :
    removeUpper s.build = { s with up := none }.build := by
  obtain ⟨⟨F2, u⟩, hq⟩ := Option.isSome_iff_exists.mp hu
  have hb : removeUpperAux false (s.F3 ++ (optL s.rp ++ s.tail)) = _ :=
    (List.append_nil _ ▸ removeUpperAux_skip false h.back (by decide) [])
  rw [build_eq, build_eq, removeUpper, removeUpperAux_skip false h.pre (by decide), post, hq]
  simp [removeUpperAux, h.ini, upL, removeUpperAux_skip true (h.up _ _ hq).2.kinds, (h.up _ _ hq).1, hb, pre, post]

theorem removeLower_build (h : s.WF) (hl : s.low.isSome) :
    removeLower s.build = { s with low := none }.build := by
  obtain ⟨⟨lo, F1⟩, hq⟩ := Option.isSome_iff_exists.mp hl
  have hb : removeLowerAux false s.post = _ :=
    (List.append_nil _ ▸ removeLowerAux_skip false h.post (by decide) [])
  rw [build_eq, build_eq, removeLower, pre, List.append_assoc, removeLowerAux_skip false h.front (by decide), hq]
  simp [removeLowerAux, h.ini, lowL, removeLowerAux_skip true (h.low _ _ hq).2.kinds, (h.low _ _ hq).1, hb, pre, post]

theorem addLower_build (h : s.WF) (hl : s.low = none) (lo : TNode) :
    addLower lo s.build = { s with low := some (lo, [tokComma]) }.build := by
  rw [build_eq, build_eq, addLower_skip lo h.pre (by decide), addLower, if_pos h.ini, ← List.append_nil s.post,
    addLower_skip lo h.post (by decide)]
  simp [post, lowL, pre, hl, addLower]

theorem replaceBound_up (h : s.WF) (new : TNode) (hn : new.k = .up) :
    replaceBound new s.build = { s with up := s.up.map (fun (p : List TNode × TNode) => (p.1, new)) }.build := by
  have hb : replaceBound new (s.F3 ++ (optL s.rp ++ s.tail)) = _ :=
    (List.append_nil _ ▸ replaceBound_skip new h.back (by simp [hn]) [])
  rw [build_eq, build_eq, replaceBound_skip new h.pre (by simp [hn]), replaceBound_cons, if_neg (by simp [h.ini, hn]),
    post]
  cases hu : s.up with
  | none => simp [upL, hb, pre, post]
  | some q =>
    simp [upL, replaceBound_skip new (h.up _ _ hu).2.kinds, replaceBound_cons, (h.up _ _ hu).1, hn, hb, pre, post]

theorem replaceBound_low (h : s.WF) (new : TNode) (hn : new.k = .low) :
    replaceBound new s.build = { s with low := s.low.map (fun (p : TNode × List TNode) => (new, p.2)) }.build := by
  have hb : replaceBound new s.post = _ :=
    (List.append_nil _ ▸ replaceBound_skip new h.post (by simp [hn]) [])
  rw [build_eq, build_eq, pre, List.append_assoc, replaceBound_skip new h.front (by simp [hn])]
  cases hl : s.low with
  | none => simp [lowL, replaceBound_cons, h.ini, hn, hb, pre, post]
  | some q =>
    simp [lowL, replaceBound_skip new (h.low _ _ hl).2.kinds, replaceBound_cons, (h.low _ _ hl).1, h.ini, hn, hb, pre,
      post]

theorem removeParens_build (h : s.WF) :
    removeParens s.build = { s with lp := none, rp := none }.build := by
  rw [build_mid, build_mid, removeParens_drop (h.optLp.mono (by decide)), removeParens_skip h.mid (by decide),
    removeParens_drop (h.optRp.mono (by decide)), ← List.append_nil s.tail,
    removeParens_skip h.tail.kinds (by decide)]
  rfl

/-- `add_parentheses` is only called on a tree that has a lower bound, so that `(` goes before it -/
theorem addParens_build (h : s.WF) (hin : s.Input) (hl : s.low.isSome) :
    addParens s.build = if s.lp.isSome then s.build else { s with lp := some tokLpar, rp := some tokRpar }.build := by
  obtain ⟨⟨lo, F1⟩, hq⟩ := Option.isSome_iff_exists.mp hl
  cases hp : s.lp with
  | some l => simp [addParens, build_mid s, hp, optL, hasK_cons, h.lp l hp]
  | none =>
    have hr : s.rp = none := by simpa [hp] using h.both
    obtain ⟨h0, h3⟩ := hin hp
    have hF1 := (h.low _ _ hq).2.kinds
    have ht : ∀ b, addParensAux b s.tail = s.tail := fun b => by
      simpa [addParensAux] using addParensAux_skip b h.tail.kinds (by decide) []
    have hpar : hasK .lpar s.build = false := by
      rw [build_mid, hp, hr]
      exact (hasK_skip h.mid (by decide) _).trans (hasK_false h.tail.kinds (by decide))
    rw [addParens, hpar, hasK_up h]
    cases hu : s.up with
    | none =>
      simp [build, hp, hr, h0, h3, hq, hu, optL, lowL, upL, addParensAux, (h.low _ _ hq).1, h.ini,
        addParensAux_skip _ hF1, ht]
    | some q =>
      simp [build, hp, hr, h0, h3, hq, hu, optL, lowL, upL, addParensAux, (h.low _ _ hq).1, h.ini,
        addParensAux_skip _ hF1, addParensAux_skip _ (h.up _ _ hu).2.kinds, (h.up _ _ hu).1, ht]

/-- an input tree ends, before the tail, in a node that is not a blank: `)`, the upper bound or the init -/
theorem body_last (h : s.WF) (hin : s.Input) :
    ∃ B b, optL s.lp ++ (s.mid ++ optL s.rp) = B ++ [b] ∧ b.k ≠ .ws := by
  cases hr : s.rp with
  | some r => exact ⟨optL s.lp ++ s.mid, r, by simp [optL], by simp [h.rp r hr]⟩
  | none =>
    have hp : s.lp = none := by simpa [hr] using h.both
    cases hu : s.up with
    | none => exact ⟨s.F0 ++ lowL s.low, s.ini, by simp [optL, mid, upL, hp, hu, (hin hp).2], by simp [h.ini]⟩
    | some q =>
      exact ⟨s.F0 ++ (lowL s.low ++ s.ini :: q.1), q.2, by simp [optL, mid, upL, hp, hu, (hin hp).2],
        by simp [(h.up _ _ hu).1]⟩

theorem rmFix_build (h : s.WF) (hin : s.Input) :
    rmFix s.build = { s with tail := rmFixAux [] s.tail }.build := by
  obtain ⟨B, b, e, hb⟩ := body_last h hin
  have hk : KindsIn [.lpar, .ws, .other, .comma, .low, .init, .up, .rpar] (B ++ [b]) :=
    e ▸ (h.optLp.mono (by decide)).append ((h.mid.mono (by decide)).append (h.optRp.mono (by decide)))
  have e' : ∀ T, optL s.lp ++ (s.mid ++ (optL s.rp ++ T)) = (B ++ [b]) ++ T := fun T => by
    rw [← e, List.append_assoc, List.append_assoc]
  rw [build_mid, build_mid, e', rmFix, rmFixAux_skip [] hk (by decide), List.reverse_append, List.reverse_singleton,
    List.append_nil, List.singleton_append]
  refine (rmFixAux_base [] b _ _ hb).trans ?_
  rw [List.reverse_cons, List.reverse_reverse]
  exact (e' _).symm

theorem appendFix_build (s : Shp) :
    s.build ++ [tokWs, tokFix] = { s with tail := s.tail ++ [tokWs, tokFix] }.build := by
  simp [build]

end Shp

end Pharmpy.C04
